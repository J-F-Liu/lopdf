import LopdfModel.Thm.C01Obj
/-
  C01 — repeated cycles and duplicate keys at object level.

  * `cycle_rt`: the normal form is a fixed point — `norm (norm o) = norm o`, `norm o` is again
    well-formed with the same nesting height and size, every following text admissible for `o`
    is admissible for `norm o`, and writing `norm o` and parsing it returns `norm o` itself:
    from the second save/load cycle on the object does not change any more.
  * duplicate keys: a `Dictionary` is an `IndexMap`; every dictionary built with
    `Dictionary::set` (`Dict.set`, from the empty one) and every dictionary the parser returns
    (`dictEntries`, which folds `Dictionary::set`) has pairwise distinct keys, so the writer is
    never handed duplicates and the hypothesis `Nodup` of `obj_rt` excludes no reachable object.
-/
namespace Lopdf.ObjRt
open Lopdf Gen

theorem normReal_idem (t : Bytes) : norm (normReal t) = normReal t := by
  unfold normReal
  by_cases h1 : t.contains 46 = true
  · simp only [h1, if_true, norm]
    unfold normReal
    simp only [h1, if_true]
  · simp only [h1, Bool.false_eq_true, if_false]
    by_cases h2 : realOutside t = true
    · simp only [h2, if_true, norm]
      unfold normReal
      have : (t ++ [46, 48]).contains 46 = true := by simp
      simp only [this, if_true]
    · simp only [h2, Bool.false_eq_true, if_false, norm]

mutual
theorem norm_idem : ∀ (o : Obj), norm (norm o) = norm o
  | .real t => by simp only [norm]; exact normReal_idem t
  | .arr items => by simp only [norm, normL_idem items]
  | .dict es => by simp only [norm, normD_idem es]
  | .null | .bool _ | .int _ | .name _ | .str _ _ | .ref _ _ | .stream _ _ => by simp only [norm]
theorem normL_idem : ∀ (items : List Obj), normL (normL items) = normL items
  | [] => rfl
  | o :: r => by simp only [normL, norm_idem o, normL_idem r]
theorem normD_idem : ∀ (es : List (Bytes × Obj)), normD (normD es) = normD es
  | [] => rfl
  | (k, v) :: r => by simp only [normD, norm_idem v, normD_idem r]
end

theorem wf_normReal {L : Bytes → Prop} (t : Bytes) (h : RealOK t) : WF L (normReal t) := by
  rcases real_cases t h with ⟨hd, hn⟩ | ⟨neg, ds, _, _, _, hr, hn⟩
  · rw [hn]; exact Or.inl hd
  · rw [hn]; exact i64_of_magnitude neg _ hr

mutual
theorem wf_norm (L : Bytes → Prop) : ∀ (o : Obj), WF L o → WF L (norm o)
  | .real t, h => by simp only [WF] at h; simp only [norm]; exact wf_normReal t h
  | .arr items, h => by simp only [WF] at h; simp only [norm, WF]; exact wfL_norm L items h
  | .dict es, h => by
    simp only [WF] at h
    simp only [norm, WF]
    exact ⟨by rw [normD_keys]; exact h.1, wfD_norm L es h.2⟩
  | .null, h | .bool _, h | .int _, h | .name _, h | .str _ _, h | .ref _ _, h | .stream _ _, h => by
    simpa only [norm] using h
theorem wfL_norm (L : Bytes → Prop) : ∀ (items : List Obj), WFL L items → WFL L (normL items)
  | [], _ => by simp [normL, WFL]
  | o :: r, h => by simp only [WFL] at h; simp only [normL, WFL]; exact ⟨wf_norm L o h.1, wfL_norm L r h.2⟩
theorem wfD_norm (L : Bytes → Prop) : ∀ (es : List (Bytes × Obj)), WFD L es → WFD L (normD es)
  | [], _ => by simp [normD, WFD]
  | (k, v) :: r, h => by simp only [WFD] at h; simp only [normD, WFD]; exact ⟨wf_norm L v h.1, wfD_norm L r h.2⟩
end

theorem normReal_shape (t : Bytes) : (∃ t', normReal t = .real t') ∨ (∃ i, normReal t = .int i) := by
  unfold normReal
  repeat' split
  · exact Or.inl ⟨_, rfl⟩
  · exact Or.inl ⟨_, rfl⟩
  · exact Or.inr ⟨_, rfl⟩

mutual
theorem height_norm : ∀ (o : Obj), height (norm o) = height o
  | .real t => by
    simp only [norm]
    rcases normReal_shape t with ⟨t', e⟩ | ⟨i, e⟩ <;> rw [e] <;> simp [height]
  | .arr items => by simp only [norm, height, heightL_norm items]
  | .dict es => by simp only [norm, height, heightD_norm es]
  | .null | .bool _ | .int _ | .name _ | .str _ _ | .ref _ _ | .stream _ _ => by simp only [norm]
theorem heightL_norm : ∀ (items : List Obj), heightL (normL items) = heightL items
  | [] => rfl
  | o :: r => by simp only [normL, heightL, height_norm o, heightL_norm r]
theorem heightD_norm : ∀ (es : List (Bytes × Obj)), heightD (normD es) = heightD es
  | [] => rfl
  | (k, v) :: r => by simp only [normD, heightD, height_norm v, heightD_norm r]
end

mutual
theorem size_norm : ∀ (o : Obj), size (norm o) = size o
  | .real t => by
    simp only [norm]
    rcases normReal_shape t with ⟨t', e⟩ | ⟨i, e⟩ <;> rw [e] <;> simp [size]
  | .arr items => by simp only [norm, size, sizeL_norm items]
  | .dict es => by simp only [norm, size, sizeD_norm es]
  | .null | .bool _ | .int _ | .name _ | .str _ _ | .ref _ _ | .stream _ _ => by simp only [norm]
theorem sizeL_norm : ∀ (items : List Obj), sizeL (normL items) = sizeL items
  | [] => rfl
  | o :: r => by simp only [normL, sizeL, size_norm o, sizeL_norm r]
theorem sizeD_norm : ∀ (es : List (Bytes × Obj)), sizeD (normD es) = sizeD es
  | [] => rfl
  | (k, v) :: r => by simp only [normD, sizeD, size_norm v, sizeD_norm r]
end

theorem follow_norm (wr : Bool) (o : Obj) (rest : Bytes) (h : Follow wr o rest) : Follow wr (norm o) rest := by
  cases o with
  | real t =>
    simp only [Follow] at h
    simp only [norm]
    rcases normReal_shape t with ⟨t', e⟩ | ⟨i, e⟩
    · have hid := normReal_idem t
      rw [e] at hid ⊢
      simp only [norm] at hid
      simp only [Follow, hid, isIntObj]
      exact ⟨h.1, fun hc => by cases hc⟩
    · rw [e] at h ⊢
      simp only [Follow]
      exact ⟨⟨h.1, (h.2 rfl).1⟩, (h.2 rfl).2⟩
  | null | bool _ | int _ | name _ | str _ _ | ref _ _ | stream _ _ | arr _ | dict _ =>
    simp only [norm, Follow] at h ⊢ <;> exact h

/-- **`cycle_rt`: the second cycle is the identity.** Under the hypotheses of `obj_rt` for `o`,
writing the object that came back (`norm o`) and parsing it returns `norm o` again. -/
theorem cycle_rt (o : Obj) (fuel depth : Nat) (rest : Bytes) (hwf : WFObj o)
    (hdepth : depth + height o ≤ MAX_NESTING) (hfuel : size o ≤ fuel) (hstop : Follow true o rest) :
    directObjects fuel depth (writeObj o ++ rest) = .ok (norm o) rest ∧
    directObjects fuel depth (writeObj (norm o) ++ rest) = .ok (norm o) rest := by
  refine ⟨obj_rt o fuel depth rest hwf hdepth hfuel hstop, ?_⟩
  have := obj_rt (norm o) fuel depth rest (wf_norm _ o hwf) (by rw [height_norm]; exact hdepth)
    (by rw [size_norm]; exact hfuel) (follow_norm true o rest hstop)
  rw [norm_idem] at this
  exact this

/-- the object after `k` write/parse cycles -/
def cycles : Nat → Obj → Obj
  | 0, o => o
  | k + 1, o => cycles k (norm o)

theorem cycles_succ (k : Nat) (o : Obj) : cycles (k + 1) o = norm o := by
  have e : ∀ j x, norm x = x → cycles j x = x := by
    intro j
    induction j with
    | zero => intro x _; rfl
    | succ j ihj => intro x hx; simp only [cycles, hx]; exact ihj x hx
  exact e k (norm o) (norm_idem o)

/-- after any number `k + 1` of cycles the object is `norm o`, and one more cycle through
`parser::direct_object` returns it unchanged -/
theorem parseDirect_cycles (o : Obj) (rest : Bytes) (hwf : WFObj o) (hdepth : height o ≤ MAX_NESTING)
    (hstop : Follow true o rest) (k : Nat) :
    parseDirect (writeObj (cycles (k + 1) o) ++ rest) = some (cycles (k + 1) o, space rest) := by
  rw [cycles_succ k]
  have := parseDirect_rt (norm o) rest (wf_norm _ o hwf) (by rw [height_norm]; exact hdepth)
    (follow_norm true o rest hstop)
  rw [norm_idem] at this
  exact this

example : parseDirect (writeObj (cycles 3 sampleObj) ++ [10, 101]) = some (cycles 3 sampleObj, space [10, 101]) :=
  parseDirect_cycles sampleObj _ sample_wf (by decide) (by simp [sampleObj, Follow]) 2

/-- `Dictionary::set` (`IndexMap::insert`) keeps keys pairwise distinct -/
theorem set_nodup (d : Dict) (k : Bytes) (v : Obj) (h : (d.map (·.1)).Nodup) :
    ((Dict.set d k v).map (·.1)).Nodup :=
  Dict.nodup_set h k v

theorem setAll_keys_nodup (es : List (Bytes × Obj)) : ∀ (acc : Dict), (acc.map (·.1)).Nodup →
    ((setAll acc es).map (·.1)).Nodup := by
  induction es with
  | nil => intro acc h; exact h
  | cons e r ih => intro acc h; obtain ⟨k, v⟩ := e; exact ih _ (set_nodup acc k v h)

theorem dictEntries_setAll (fuel depth : Nat) : ∀ (n : Nat) (inp : Bytes) (acc d : Dict) (r : Bytes),
    dictEntries fuel depth n inp acc = some (d, r) →
    ∃ es, d = setAll acc es ∧ ∀ e ∈ es, ∃ inp r, directObjects fuel depth inp = .ok e.2 r := by
  intro n
  induction n with
  | zero =>
    intro inp acc d r h
    rw [dictEntries] at h
    cases h; exact ⟨[], rfl, by simp⟩
  | succ n ih =>
    intro inp acc d r h
    rw [dictEntries] at h
    split at h
    · rename_i k r0 _
      split at h
      · rename_i v r1 hdir
        obtain ⟨es, rfl, hes⟩ := ih _ _ _ _ h
        obtain ⟨r0', hdo⟩ := directObject_ok hdir
        refine ⟨(k, v) :: es, rfl, fun e he => ?_⟩
        rcases List.mem_cons.mp he with rfl | he
        · exact ⟨_, _, hdo⟩
        · exact hes e he
      · cases h; exact ⟨[], rfl, by simp⟩
      · cases h
    · cases h; exact ⟨[], rfl, by simp⟩

/-- every dictionary `inner_dictionary` returns has pairwise distinct keys (a repeated key in
the input overwrites in place: later value, position of the first) -/
theorem dictEntries_nodup (fuel depth : Nat) : ∀ (n : Nat) (inp : Bytes) (acc d : Dict) (r : Bytes),
    (acc.map (·.1)).Nodup → dictEntries fuel depth n inp acc = some (d, r) → (d.map (·.1)).Nodup := by
  intro n inp acc d r hacc h
  obtain ⟨es, rfl, _⟩ := dictEntries_setAll fuel depth n inp acc d r h
  exact setAll_keys_nodup es acc hacc

/-- a duplicate key in the INPUT is accepted by the parser and collapses (IndexMap semantics):
`<</A 1/A 2>>` reads as the one-entry dictionary `A ↦ 2`; what the writer emits for that is
`<</A 2>>` — so a parsed dictionary never makes the writer emit a duplicate. -/
example : setAll [] [([65], Obj.int 1), ([65], Obj.int 2)] = [([65], Obj.int 2)] := by
  simp [setAll, Dict.set]

end Lopdf.ObjRt
