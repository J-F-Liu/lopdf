import LopdfModel.Thm.C02IndirectRef
import LopdfModel.Thm.C02Tail
import LopdfModel.Spec.GrammarFileStm
import LopdfModel.Lemmas.XTable
/-
  C02 — the PIECES of a whole file, each in every spelling the grammars allow, as `Reader::read`
  meets them: an indirect object at its offset, the header line, the `startxref` section at the
  end (the FRAME shared by all file styles: whatever stands between header and last section),
  the cross-reference table with its trailer, and the cross-reference map in key order.
  The whole-file theorems (Thm/C02FileObjStm, C02FileRef, C02FileIncr) put them together.
-/
namespace Lopdf.Grammar
open Lopdf Gen

theorem IsStreamEolG.toEol {e : Bytes} (h : IsStreamEolG e) : IsStreamEol e := by
  cases h
  · exact .lf
  · exact .crlf

theorem IsOptEolG.toEol {e : Bytes} (h : IsOptEolG e) : IsOptEol e := by
  cases h with
  | none => exact .none
  | some _ h => exact .some _ h

theorem indirect_any {id : ObjId} {o : Obj} {ibs : Bytes} (h : DerivesIndirect id o ibs) (sp0 rest : Bytes)
    (hsp0 : DerivesSpace sp0) (len : ObjId → Option Int) (expected : Option ObjId) (base : Nat)
    (hexp : ∀ e, expected = some e → e = id) :
    pIndirect len expected base (sp0 ++ (ibs ++ rest)) = some (id, .plain o) := by
  cases h with
  | plain d n g o d1 sp1 d2 sp2 sp3 bs sp4 h1 hn hs1 h2 hg hs2 hsp3 ho hd hsp4 hsep =>
    simp only [List.append_assoc]
    exact indirect_complete n g sp0 d1 sp1 d2 sp2 sp3 sp4 rest len expected base hsp0 h1 hn hs1 h2 hg hs2
      hsp3 ho hd hsp4 hsep hexp
  | stream d n g es d1 sp1 d2 sp2 sp3 sp ebs sp5 bl e data e' sp6 h1 hn hs1 h2 hg hs2 hsp3 hsp hes hd hsp5 hbl he
      hlen he' hsp6 =>
    have := indirect_stream_complete n g sp0 d1 sp1 d2 sp2 sp3 sp sp5 bl e data e'
      (sp6 ++ (ENDOBJ_KW ++ rest)) len expected base hsp0 h1 hn hs1 h2 hg hs2 hsp3 hsp hes hd hsp5 hbl
      he.toEol hlen he'.toEol hexp
    simp only [streamSpelling, List.append_assoc] at this ⊢
    exact this

theorem indirectRef_any {id lid : ObjId} {dct : Dict} {data ibs : Bytes} (h : DerivesIndirectRef id lid dct data ibs)
    (sp0 rest : Bytes) (hsp0 : DerivesSpace sp0) (len : ObjId → Option Int) (expected : Option ObjId) (base : Nat)
    (hres : len lid = some (data.length : Int)) (hexp : ∀ e, expected = some e → e = id) :
    pIndirect len expected base (sp0 ++ (ibs ++ rest)) =
      some (id, .plain (.stream (dct.set LENGTH (.int data.length)) data)) := by
  cases h with
  | mk d n g ln lg es d1 sp1 d2 sp2 sp3 sp ebs sp5 bl e data e' sp6 h1 hn hs1 h2 hg hs2 hsp3 hsp hes hd hsp5 hbl he
      hlen he' hsp6 =>
    have := indirect_stream_ref_complete n g sp0 d1 sp1 d2 sp2 sp3 sp sp5 bl e data e'
      (sp6 ++ (ENDOBJ_KW ++ rest)) len expected base hsp0 h1 hn hs1 h2 hg hs2 hsp3 hsp hes hd hsp5 hbl
      he.toEol ln lg hlen hres he'.toEol hexp
    simp only [streamSpelling, List.append_assoc] at this ⊢
    exact this

theorem indirect_head_digit {id : ObjId} {o : Obj} {ibs : Bytes} (h : DerivesIndirect id o ibs) (z : Bytes) :
    ∃ c r, ibs ++ z = c :: r ∧ isDigit c = true := by
  cases h with
  | plain d n g o d1 sp1 d2 sp2 sp3 bs sp4 h1 =>
    simp only [List.append_assoc]
    exact head_digit h1 _
  | stream d n g es d1 sp1 d2 sp2 sp3 sp ebs sp5 bl e data e' sp6 h1 =>
    simp only [List.append_assoc]
    exact head_digit h1 _

/-- `obj` and `endobj` alone have nine bytes -/
theorem indirect_length {id : ObjId} {o : Obj} {ibs : Bytes} (h : DerivesIndirect id o ibs) : 9 ≤ ibs.length := by
  cases h <;> simp only [List.length_append, List.length_cons, List.length_nil] <;> simp +arith

theorem findFrom_prefix (pat r : Bytes) (hne : pat ≠ []) : findFrom pat ((pat ++ r).length + 1) (pat ++ r) 0 = some 0 := by
  cases pat with
  | nil => exact absurd rfl hne
  | cons p ps =>
    have : (p :: ps).isPrefixOf (p :: (ps ++ r)) = true :=
      List.isPrefixOf_iff_prefix.mpr (List.prefix_append (p :: ps) r)
    show findFrom (p :: ps) ((p :: (ps ++ r)).length + 1) (p :: (ps ++ r)) 0 = some 0
    unfold findFrom
    simp [this]

theorem validUtf8_ascii (v : Bytes) (h : ∀ b ∈ v, b < 128) : validUtf8 v = true := by
  induction v with
  | nil => rfl
  | cons b rest ih =>
    have hb := h b (by simp)
    unfold validUtf8
    simp [hb, ih (fun x hx => h x (by simp [hx]))]

/-- **The header line**: `%PDF-`, a version text (ASCII, no end-of-line byte), an end-of-line marker -/
theorem header_complete (ver e0 body : Bytes) (hv : ∀ b ∈ ver, b < 128 ∧ notEol b = true) (he0 : IsEol e0) :
    pHeader (PDF_KW ++ (ver ++ (e0 ++ body))) = some ver := by
  obtain ⟨c, r, hcr, hc⟩ := eol_head e0 he0 body
  have hs : spanP notEol (ver ++ (e0 ++ body)) = (ver, e0 ++ body) :=
    spanP_append notEol ver _ (fun b hb => (hv b hb).2) (by
      intro b r' e; rw [hcr] at e; injection e with e _; subst e; rcases hc with rfl | rfl <;> decide)
  obtain ⟨m, r', h1, _⟩ := eol_general e0 body he0
  unfold pHeader
  simp only [tag_append, Option.bind, hs, h1, validUtf8_ascii ver (fun b hb => (hv b hb).1), if_true]

/-- a file that starts with a header line: `Reader::read` finds `%PDF-` at offset 0 and reads the version -/
theorem header_found (ver e0 body tail : Bytes) (hv : ∀ b ∈ ver, b < 128 ∧ notEol b = true) (he0 : IsEol e0)
    (file : Bytes) (hfile : file = (PDF_KW ++ (ver ++ (e0 ++ body))) ++ tail) :
    findFrom PDF_KW (file.length + 1) file 0 = some 0 ∧ pHeader file = some ver := by
  have e : file = PDF_KW ++ (ver ++ (e0 ++ (body ++ tail))) := by rw [hfile]; simp only [List.append_assoc]
  rw [e]
  exact ⟨findFrom_prefix PDF_KW _ (by decide), header_complete ver e0 _ hv he0⟩

theorem pdfHead_length (r : Bytes) : 5 ≤ (PDF_KW ++ r).length := by
  rw [List.length_append]; exact Nat.le_add_right 5 _

theorem digit_val_le9 (b : UInt8) (h : isDigit b = true) : (b - 48).toNat ≤ 9 := by
  simp only [isDigit, Bool.and_eq_true, decide_eq_true_eq, UInt8.le_iff_toNat_le] at h
  rw [UInt8.toNat_sub_of_le _ _ (UInt8.le_iff_toNat_le.mpr h.1)]
  have : (48 : UInt8).toNat = 48 := rfl
  have : (57 : UInt8).toNat = 57 := rfl
  omega

theorem derivesNat_lt_pow {n : Nat} {ds : Bytes} (h : DerivesNat n ds) : n < 10 ^ ds.length := by
  induction h with
  | one d hd => have := digit_val_le9 d hd; simp only [List.length_singleton]; omega
  | snoc n ds d _ hd ih =>
    have := digit_val_le9 d hd
    rw [List.length_append, List.length_singleton, Nat.pow_succ]
    omega

theorem spaceStop_startxref (t : Bytes) : SpaceStop (STARTXREF ++ t) := by
  intro b r e; injection e with e _; subst e; decide

/-- **The frame of a file**: `head`, then `sec` (the newest cross-reference section and whatever
follows it), then a `startxref` section stating the length of `head`, `%%EOF`.  The section has at
most 25 bytes (`get_xref_start` looks no further back), so the offset has at most 14 digits and
fits `i64`; more than 25 bytes must precede `%%EOF`. -/
theorem startxref_found (head sec e1 s1 ds s2 e2 post : Bytes) (he1 : IsEol e1) (hs1 : AllSp s1)
    (hds : DerivesNat head.length ds) (hs2 : AllSp s2) (he2 : IsEol e2) (hpost : IsFileEnd post)
    (hshort : (STARTXREF ++ (e1 ++ (s1 ++ (ds ++ (s2 ++ e2))))).length ≤ 25)
    (hlong : 14 ≤ head.length + sec.length) :
    getXrefStart (head ++ (sec ++ (STARTXREF ++ (e1 ++ (s1 ++ (ds ++ (s2 ++ (e2 ++ (EOF_MARK ++ post))))))))) =
      some head.length := by
  have h1 : 1 ≤ e1.length := by cases he1 <;> decide
  have h2 : 1 ≤ e2.length := by cases he2 <;> decide
  have h3 := List.length_pos_iff.mpr (derivesNat_facts hds).1
  simp only [List.length_append, STARTXREF, List.length_cons, List.length_nil] at hshort
  have hlen : head.length ≤ I64MAX := by
    have hb := derivesNat_lt_pow hds
    have : 10 ^ ds.length ≤ 10 ^ 15 := Nat.pow_le_pow_right (by decide) (by omega)
    simp only [I64MAX]; omega
  rw [← List.append_assoc]
  exact getXrefStart_complete _ _ e1 s1 ds s2 e2 post he1 hs1 hds hlen hs2 he2 hpost
    (by simp only [List.length_append, STARTXREF, List.length_cons, List.length_nil]; omega)
    (by simp only [List.length_append, STARTXREF, List.length_cons, List.length_nil]; omega)

theorem xrefAndTrailer_complete {d : Nat} {es : List (Bytes × Obj)} {ebs : Bytes} (secs : List TSub)
    (xb sp0 sp sp1 rest : Bytes) (size : Int) (hx : DerivesXrefTable secs xb) (hsp0 : DerivesSpace sp0)
    (hsp : DerivesSpace sp) (hes : DerivesEntries d es ebs) (hd : 1 + d ≤ MAX_NESTING) (hsp1 : DerivesSpace sp1)
    (hst : SpaceStop rest) (hsize : (setEntries [] es).get SIZE = some (.int size)) :
    xrefAndTrailer (xb ++ (TRAILER_KW ++ (sp0 ++ ((60 :: 60 :: sp ++ ebs ++ [62, 62]) ++ (sp1 ++ rest))))) =
      .ok (tableOf secs, (size % (U32 : Int)).toNat, setEntries [] es) := by
  generalize hT : sp0 ++ ((60 :: 60 :: sp ++ ebs ++ [62, 62]) ++ (sp1 ++ rest)) = t
  -- `trailer` is neither white space nor a digit
  have hstop : SpaceStop (TRAILER_KW ++ t) := by intro b r e; injection e with e _; subst e; decide
  have hw : whiteSpace (TRAILER_KW ++ t) = TRAILER_KW ++ t := whiteSpace_nonws 116 _ (by decide)
  have h1 := xref_complete secs xb (TRAILER_KW ++ t) hx (by
    rw [hw]; intro b r e; injection e with e _; subst e; decide)
  rw [ObjRt.space_stop _ hstop] at h1
  have h2 := trailer_complete sp0 sp sp1 rest hsp0 hsp hes hd hsp1 hst
  rw [hT] at h2
  unfold xrefAndTrailer
  simp only [h1, h2, hsize, Option.bind, Obj.asInt]

/-- **A cross-reference table as the last section of a file**: what `Reader::read` finds at the end
of the file and at the offset stated there (`dict` is the trailer dictionary as spelled) -/
theorem tableFile_parts {d : Nat} {es : List (Bytes × Obj)} {ebs : Bytes} (secs : List TSub)
    (head xb sp0 sp dict sp1 e1 s1 ds s2 e2 post : Bytes) (size : Int) (hhead : 5 ≤ head.length)
    (hx : DerivesXrefTable secs xb) (hsp0 : DerivesSpace sp0) (hsp : DerivesSpace sp)
    (hes : DerivesEntries d es ebs) (hdict : dict = 60 :: 60 :: sp ++ ebs ++ [62, 62]) (hd : 1 + d ≤ MAX_NESTING)
    (hsp1 : DerivesSpace sp1) (hsize : (setEntries [] es).get SIZE = some (.int size))
    (he1 : IsEol e1) (hs1 : AllSp s1) (hds : DerivesNat head.length ds) (hs2 : AllSp s2) (he2 : IsEol e2)
    (hpost : IsFileEnd post) (hshort : (STARTXREF ++ (e1 ++ (s1 ++ (ds ++ (s2 ++ e2))))).length ≤ 25)
    (file : Bytes)
    (hfile : file = head ++ (xb ++ (TRAILER_KW ++ (sp0 ++ (dict ++ (sp1 ++
      (STARTXREF ++ (e1 ++ (s1 ++ (ds ++ (s2 ++ (e2 ++ (EOF_MARK ++ post))))))))))))) :
    getXrefStart file = some head.length ∧ head.length ≤ file.length ∧
    xrefAndTrailer (file.drop head.length) = .ok (tableOf secs, (size % (U32 : Int)).toNat, setEntries [] es) := by
  refine ⟨?_, by rw [hfile, List.length_append]; omega, ?_⟩
  · have e : file = head ++ ((xb ++ (TRAILER_KW ++ (sp0 ++ (dict ++ sp1)))) ++
        (STARTXREF ++ (e1 ++ (s1 ++ (ds ++ (s2 ++ (e2 ++ (EOF_MARK ++ post)))))))) := by
      rw [hfile]; simp only [List.append_assoc]
    have hl : 4 ≤ dict.length := by
      rw [hdict]; simp only [List.length_append, List.length_cons, List.length_nil]; omega
    rw [e]
    exact startxref_found head _ e1 s1 ds s2 e2 post he1 hs1 hds hs2 he2 hpost hshort
      (by simp only [List.length_append, TRAILER_KW, List.length_cons, List.length_nil]; omega)
  · rw [hfile, List.drop_left, hdict]
    exact xrefAndTrailer_complete secs xb sp0 sp sp1 _ size hx hsp0 hsp hes hd hsp1 (spaceStop_startxref _) hsize

def KeysAsc (t : XTable) : Prop := t.Pairwise fun a b => a.1 < b.1

theorem keysAsc_sorted (x : XTable) : KeysAsc x.sorted := x.sorted_pairwise

/-- the entries `Reader::read` walks through are exactly the bindings of the map -/
theorem mem_sorted_iff (x : XTable) (k : Nat) (e : XEntry) : (k, e) ∈ x.sorted ↔ x.get k = some e :=
  XTable.mem_sorted_iff x k e

end Lopdf.Grammar
