import LopdfModel.Thm.C02Composite
import LopdfModel.Spec.GrammarObjStm
/-
  C02 — object streams: every spelling of the content of an unfiltered `/ObjStm` the grammar
  allows (`DerivesObjStm`: index block with free white space, member objects in any spelling of the
  object grammar, separated as tokens are) is read by `ObjectStream::new` (`objStmObjects`) to
  exactly its (number, object) members.
-/
namespace Lopdf.Grammar
open Lopdf Gen
open Lopdf.ObjRt (StopCtx)

theorem digit_not_uws {b : UInt8} (h : isDigit b = true) : isUnicodeWs b = false ∧ b ≠ 43 ∧ b < 128 := by
  have hn : 48 ≤ b.toNat ∧ b.toNat ≤ 57 := by simpa [isDigit, UInt8.le_iff_toNat_le] using h
  refine ⟨?_, ne_of_class h (by decide), ?_⟩
  · simp [isUnicodeWs, UInt8.le_iff_toNat_le, ← UInt8.toNat_inj]; omega
  · simp [UInt8.lt_iff_toNat_lt]; omega

theorem uws_ascii {b : UInt8} (h : (b == 32 || (9 ≤ b && b ≤ 13)) = true) : isUnicodeWs b = true ∧ b < 128 := by
  refine ⟨h, ?_⟩
  simp [UInt8.le_iff_toNat_le, ← UInt8.toNat_inj] at h
  simp [UInt8.lt_iff_toNat_lt]; omega

theorem u32FromStr_digits {n : Nat} {ds : Bytes} (h : DerivesNat n ds) (hn : n ≤ 4294967295) :
    u32FromStr ds = some n := by
  obtain ⟨hne, hd, hv⟩ := derivesNat_facts h
  cases ds with
  | nil => exact absurd rfl hne
  | cons a as =>
    have ha := (digit_not_uws (hd a (by simp))).2.1
    have hall : (a :: as).all isDigit = true := by
      rw [List.all_eq_true]; exact hd
    have hn' : n ≤ U32_MAX := hn
    unfold u32FromStr
    split
    · rename_i heq; injection heq with e _; exact absurd e ha
    · simp [hall, hv, hn']

theorem splitWs_tok (f : Nat) (w0 ds t : Bytes) (hw0 : AllUws w0) {n : Nat} (hd : DerivesNat n ds)
    (ht : Ahead (isUnicodeWs · = true) t) : splitWs (f + 1) (w0 ++ (ds ++ t)) = ds :: splitWs f t := by
  have h1 : (spanP isUnicodeWs (w0 ++ (ds ++ t))).2 = ds ++ t := by
    rw [spanP_append isUnicodeWs w0 _ (fun b hb => (uws_ascii (hw0 b hb)).1)
      (((nat_starts hd).append t).ahead fun _ hc => (digit_not_uws hc).1)]
  have h2 : spanP (fun b => !isUnicodeWs b) (ds ++ t) = (ds, t) :=
    spanP_append _ ds t (fun b hb => by simp [(digit_not_uws ((derivesNat_facts hd).2.1 b hb)).1])
      (ht.mono fun _ hc => by simp [hc])
  obtain ⟨a, as, rfl, _⟩ := nat_starts hd
  rw [splitWs, h1, h2]

theorem splitWs_nil (f : Nat) (w : Bytes) (hw : AllUws w) : splitWs f w = [] := by
  cases f with
  | zero => rfl
  | succ f =>
    have : spanP isUnicodeWs (w ++ []) = (w, []) :=
      spanP_append isUnicodeWs w [] (fun b hb => (uws_ascii (hw b hb)).1) ahead_nil
    rw [List.append_nil] at this
    simp [splitWs, this, spanP]

/-- **The index block, every spelling**: the integers, separated by any non-empty white space -/
theorem splitWs_toks {ns : List Nat} {bs : Bytes} (h : DerivesToks ns bs) :
    ∀ (fuel : Nat) (w0 : Bytes), AllUws w0 → ns.length + 1 ≤ fuel →
    (splitWs fuel (w0 ++ bs)).map u32FromStr = ns.map some := by
  induction h with
  | nil => intro fuel w0 hw _; simp [splitWs_nil fuel w0 hw]
  | last n ds hd hn =>
    intro fuel w0 hw hf
    match fuel, hf with
    | f + 1, _ =>
      have := splitWs_tok f w0 ds [] hw hd ahead_nil
      rw [List.append_nil] at this
      rw [this, splitWs_nil f [] (fun b hb => nomatch hb)]
      simp [u32FromStr_digits hd hn]
  | cons n ns ds w bs hd hn hw hne _ ih =>
    intro fuel w0 hw0 hf
    match fuel, hf with
    | f + 1, hf =>
      have hw' : Ahead (isUnicodeWs · = true) (w ++ bs) :=
        Ahead.append_of_ne_nil (fun b r e => (uws_ascii (hw b (by rw [e]; exact List.mem_cons_self))).1) hne bs
      rw [List.append_assoc, splitWs_tok f w0 ds _ hw0 hd hw', List.map_cons, List.map_cons,
        ih f w hw (Nat.le_of_succ_le_succ hf), u32FromStr_digits hd hn]

theorem toks_ascii {ns : List Nat} {bs : Bytes} (h : DerivesToks ns bs) : ∀ b ∈ bs, b < 128 := by
  induction h with
  | nil => intro b hb; simp at hb
  | last n ds hd _ => intro b hb; exact (digit_not_uws ((derivesNat_facts hd).2.1 b hb)).2.2
  | cons n ns ds w bs hd _ hw _ _ ih =>
    intro b hb
    simp only [List.mem_append] at hb
    rcases hb with (hb | hb) | hb
    · exact (digit_not_uws ((derivesNat_facts hd).2.1 b hb)).2.2
    · exact (uws_ascii (hw b hb)).2
    · exact ih b hb

/-- the text after a member — separating text and the remaining members up to the end of the
stream — is a stop context (soundness of the reference look-ahead, as inside an array) -/
theorem members_stop : ∀ {d pos : Nat} {ms : List (Obj × Nat)} {bs : Bytes}, DerivesMembers d pos ms bs →
    ∀ (sp : Bytes), DerivesSpace sp → StopHead (sp ++ bs) → StopCtx (sp ++ bs) := by
  intro d pos ms bs h
  induction h with
  | nil pos => intro sp hsp hstop; exact stopCtx_of_head sp [] hsp hstop ahead_nil
  | cons pos o ms b sp' bs' ho hsp' _ hsep ih =>
    intro sp hsp hstop
    rw [List.append_assoc] at hstop ⊢
    exact stopCtx_obj ho sp _ hsp hstop fun hn => ih sp' hsp' (hsep hn)

theorem members_at {d pos : Nat} {ms : List (Obj × Nat)} {bs : Bytes} (h : DerivesMembers d pos ms bs)
    (hd : d ≤ MAX_NESTING) :
    ∀ p ∈ ms, ∃ k, p.2 = pos + k ∧ k < bs.length ∧ ∃ r, parseDirect (bs.drop k) = some (p.1, r) := by
  induction h with
  | nil pos => intro p hp; cases hp
  | cons pos o ms b sp bs' ho hsp hrest hsep ih =>
    intro p hp
    rcases List.mem_cons.mp hp with rfl | hp'
    · have hY : After o (sp ++ bs') := fun hn => members_stop hrest sp hsp (hsep hn)
      have h1 := obj_complete ho ((b ++ (sp ++ bs')).length + 1) 0 (sp ++ bs') (by rw [Nat.zero_add]; exact hd)
        (Nat.lt_succ_of_le (le_length_append (Nat.le_refl _) _)) hY
      refine ⟨0, rfl, (((obj_starts ho).append sp).append bs').length_pos, space (sp ++ bs'), ?_⟩
      rw [List.drop_zero, List.append_assoc, parseDirect, ObjRt.directObject_of _ _ _ _ _ h1]
    · obtain ⟨k, h1, h2, r, h3⟩ := ih p hp'
      refine ⟨(b ++ sp).length + k, ?_, ?_, r, ?_⟩
      · rw [h1, List.length_append]; omega
      · rw [List.length_append (as := b ++ sp)]; exact Nat.add_lt_add_left h2 _
      · rw [List.drop_length_add_append]; exact h3

/-- every member is read by `parser::direct_object` at its position -/
theorem members_parse : ∀ {d pos : Nat} {ms : List (Obj × Nat)} {bs : Bytes}, DerivesMembers d pos ms bs →
    d ≤ MAX_NESTING → ∀ p ∈ ms, pos ≤ p.2 ∧ p.2 - pos < bs.length ∧ ∃ r, parseDirect (bs.drop (p.2 - pos)) = some (p.1, r) := by
  intro d pos ms bs h hd p hp
  obtain ⟨k, h1, h2, h3⟩ := members_at h hd p hp
  rw [h1, Nat.add_sub_cancel_left]
  exact ⟨Nat.le_add_right _ _, h2, h3⟩

/-- (number, object) pairs as the reader records them -/
def memberPairs (l : List (Nat × Obj)) : List (ObjId × Obj) := l.map fun p => ((p.1, 0), p.2)

theorem memberPairs_nodup (l : List (Nat × Obj)) (h : (l.map (·.1)).Nodup) : ((memberPairs l).map (·.1)).Nodup := by
  simp only [memberPairs, List.map_map, List.Nodup, List.pairwise_map] at h ⊢
  exact h.imp (fun hab heq => hab (by simp only [Function.comp] at heq; injection heq))

/-- the members' positions increase strictly (every member has at least one byte) -/
theorem members_positions : ∀ {d pos : Nat} {ms : List (Obj × Nat)} {bs : Bytes}, DerivesMembers d pos ms bs →
    (ms.map (·.2)).Pairwise (· < ·) ∧ ∀ p ∈ ms, pos ≤ p.2 := by
  intro d pos ms bs h
  induction h with
  | nil pos => exact ⟨List.Pairwise.nil, fun p hp => nomatch hp⟩
  | cons pos o ms b sp bs' ho hsp hrest hsep ih =>
    have hb := (obj_starts ho).length_pos
    obtain ⟨h1, h2⟩ := ih
    refine ⟨?_, ?_⟩
    · rw [List.map_cons, List.pairwise_cons]
      refine ⟨?_, h1⟩
      intro q hq
      obtain ⟨p, hp, rfl⟩ := List.mem_map.mp hq
      have := h2 p hp
      omega
    · intro p hp
      rcases List.mem_cons.mp hp with rfl | hp'
      · exact Nat.le_refl _
      · have := h2 p hp'; omega

theorem pairs_complete (content area : Bytes) (first : Nat) (hdrop : ∀ off, content.drop (first + off) = area.drop off)
    (hlen : content.length = first + area.length) :
    ∀ (nums : List Nat) (ms : List (Obj × Nat)) (seen : List Nat), nums.length = ms.length →
    (∀ p ∈ ms, p.2 < area.length ∧ ∃ r, parseDirect (area.drop p.2) = some (p.1, r)) →
    (ms.map (·.2)).Pairwise (· < ·) → (∀ s ∈ seen, ∀ p ∈ ms, s < p.2) →
    objStmObjects.pairs content first ((flatPairs (nums.zip (ms.map (·.2)))).map some) seen =
      memberPairs (nums.zip (ms.map (·.1))) := by
  intro nums
  induction nums with
  | nil => intro ms seen _ _ _ _; simp [flatPairs, objStmObjects.pairs, memberPairs]
  | cons n ns ih =>
    intro ms seen hl hp hpw hseen
    cases ms with
    | nil => simp at hl
    | cons m ms' =>
      obtain ⟨o, off⟩ := m
      obtain ⟨h1, r, h2⟩ := hp (o, off) (by simp)
      simp only [List.map_cons, List.pairwise_cons] at hpw
      have hnew : seen.contains off = false := by
        rw [List.contains_eq_any_beq, List.any_eq_false]
        intro s hs
        have := hseen s hs (o, off) (by simp)
        simp only [beq_iff_eq]
        omega
      have ih' := ih ms' (off :: seen) (by simpa using hl) (fun p hp' => hp p (by simp [hp'])) hpw.2 (by
        intro s hs p hp'
        rcases List.mem_cons.mp hs with rfl | hs'
        · exact hpw.1 p.2 (List.mem_map_of_mem hp')
        · exact hseen s hs' p (by simp [hp']))
      simp only [List.map_cons, List.zip_cons_cons, flatPairs, objStmObjects.pairs, hnew, Bool.false_eq_true, if_false, ih']
      have hlt : ¬ (first + off ≥ content.length) := by omega
      simp only [hlt, if_false, hdrop, h2]
      rfl

theorem foldl_append_of {α : Type} (step : List α → α → List α) (ok : List α → α → Prop)
    (hstep : ∀ acc p, ok acc p → step acc p = acc ++ [p]) :
    ∀ (l acc : List α), (∀ l1 p l2, l = l1 ++ p :: l2 → ok (acc ++ l1) p) → l.foldl step acc = acc ++ l := by
  intro l
  induction l with
  | nil => intro acc _; simp
  | cons p rest ih =>
    intro acc h
    rw [List.foldl_cons, hstep acc p (by simpa using h [] p rest rfl), ih (acc ++ [p]), List.append_assoc]
    · rfl
    · intro l1 q l2 e
      simpa using h (p :: l1) q l2 (by rw [e]; rfl)

theorem dedupLast_nodup (l : List (ObjId × Obj)) (h : (l.map (·.1)).Nodup) : dedupLast l = l := by
  refine foldl_append_of _ (fun acc p => ∀ q ∈ acc, q.1 ≠ p.1) ?_ l [] ?_
  · intro acc p hok
    have hno : acc.any (fun q => q.1 == p.1) = false := by
      rw [List.any_eq_false]; intro q hq; simpa using hok q hq
    simp only [hno, Bool.false_eq_true, if_false]
  · rintro l1 p l2 rfl q hq
    rw [List.nil_append] at hq
    rw [List.map_append, List.map_cons] at h
    exact (List.nodup_append.mp h).2.2 q.1 (List.mem_map_of_mem hq) p.1 (by simp)

/-- **Object streams, every spelling.** For an unfiltered stream dictionary with integer `First`
(= the length of the index block) and integer `N`, and a content derivable from the object-stream
grammar with pairwise different member numbers, `ObjectStream::new` yields exactly the members:
each number with the object its spelling denotes. -/
theorem objStmObjects_complete {members : List (Nat × Obj)} {first : Nat} {content : Bytes}
    (h : DerivesObjStm members first content) (dct : Dict) (nval : Int)
    (hF : dct.has FILTER = false) (hFirst : dct.get FIRST = some (.int first))
    (hN : dct.get N_KEY = some (.int nval)) (hne : members ≠ [])
    (hnd : (members.map (·.1)).Nodup) :
    objStmObjects dct content = .ok (memberPairs members) := by
  cases h with
  | mk d nums ms w0 tb pre mb hd hl hw0 hpre htoks hmem hnums =>
    -- the index block `blk` and the member area `area`
    have hascii : (w0 ++ tb).all (fun b => b < 128) = true := by
      rw [List.all_eq_true]
      intro b hb
      rcases List.mem_append.mp hb with hb | hb
      · simpa using (uws_ascii (hw0 b hb)).2
      · simpa using toks_ascii htoks b hb
    have hsplit := splitWs_toks htoks ((w0 ++ tb).length + 1) w0 hw0
      (Nat.succ_le_succ (Nat.le_trans (toks_length htoks) (by rw [List.length_append]; exact Nat.le_add_left _ _)))
    have hms : ∀ p ∈ ms, p.2 < (pre ++ mb).length ∧ ∃ r, parseDirect ((pre ++ mb).drop p.2) = some (p.1, r) := by
      intro p hp
      obtain ⟨k, h1, h2, h3⟩ := members_at hmem hd p hp
      rw [h1, List.drop_length_add_append, List.length_append]
      exact ⟨Nat.add_lt_add_left h2 _, h3⟩
    generalize w0 ++ tb = blk at hascii hsplit hFirst ⊢
    generalize pre ++ mb = area at hms ⊢
    have hcne : (blk ++ area).isEmpty = false := by
      cases ms with
      | nil =>
        cases nums with
        | nil => exact absurd rfl hne
        | cons a as => cases hl
      | cons m ms' =>
        cases area with
        | nil => exact absurd (hms m List.mem_cons_self).1 (Nat.not_lt_zero _)
        | cons x xs => simp
    have hpairs := pairs_complete (blk ++ area) area blk.length
      (fun off => List.drop_length_add_append off) List.length_append nums ms [] hl hms
      (members_positions hmem).1 (fun s hs => nomatch hs)
    have hdd := dedupLast_nodup (memberPairs (nums.zip (ms.map (·.1)))) (memberPairs_nodup _ hnd)
    have hlt : ¬ ((blk.length : Int) < 0) := Int.not_lt.mpr (Int.natCast_nonneg _)
    have hgt : ¬ (blk.length > (blk ++ area).length) := Nat.not_lt.mpr (le_length_append (Nat.le_refl _) _)
    unfold objStmObjects
    simp only [hF, Bool.false_eq_true, if_false, hcne, hFirst, Option.bind, Obj.asInt, hlt, Int.toNat_natCast,
      hgt, List.take_left' rfl, hascii, Bool.not_true, hN, hsplit, hpairs, hdd]
where
  toks_length {ns : List Nat} {bs : Bytes} (h : DerivesToks ns bs) : ns.length ≤ bs.length := by
    induction h with
    | nil => exact Nat.le_refl _
    | last n ds hd _ => exact (nat_starts hd).length_pos
    | cons n ns ds w bs hd _ _ hne _ ih =>
      have := (nat_starts hd).length_pos
      simp only [List.length_cons, List.length_append]; omega

end Lopdf.Grammar
