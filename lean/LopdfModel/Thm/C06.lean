import LopdfModel.Lemmas.Crypt
import LopdfModel.Spec.SecHandler
import LopdfModel.Thm.C05
/-
  C06 — Standard security handler agrees with ISO 32000 algorithms.

  Conformance itself is a differential statement (checked both ways on whole documents by the
  harness against an independent Rust reference).  What is PROVED here:
   (1) self-consistency of the Lean transcription Spec/SecHandler.lean of the ISO algorithms, for
       all inputs: Alg 6 accepts what Alg 4/5 produce; Alg 7 recovers the user password from Alg 3's O
       (RC4 involution, reversal of the key loop); the owner path yields the user path's key;
       Alg 2.A recovers the file key from UE / OE of Alg 8 / 9 (AES hypothesis); Alg 13 accepts Alg 10.
   (2) model_eq_spec: the model of lopdf's CODE (Model/Crypt.lean) equals the spec on the claimed
       domain: password padding, Algorithm 2 (for the P value the code uses), 3 (owner password
       present), 4, 5, per-object keys (Alg 1 / AESV2 salt), AES data encryption (Alg 1.A).
   (3) where they do NOT agree, the deviation as a proved statement: P is re-normalised before Algorithm 2
       (`p_renormalised`, `p_conforming_fixed`); the absent owner password and the truncation to 127 bytes in
       Algorithms 8 / 9 agree with the spec since /repo was repaired (`computeO_absent_owner`, `computeU6O6_eq_alg89`).
-/
set_option linter.unusedSectionVars false
namespace Lopdf.C06
open Lopdf Lopdf.Gen Lopdf.Crypt Lopdf.Spec.Sec

/-! ## The auxiliary functions of the transcription are those of the model

so what is known of the model's (lengths, idempotence, the CBC round trip) holds of the transcription's. -/

theorem pad_bytes_eq : PAD_BYTES = PAD := by decide

theorem padPw_eq (pw : Bytes) : padPw pw = padPassword pw := by
  unfold padPw padPassword
  rw [List.take_append, pad_bytes_eq]
  congr 2
  omega

theorem leBytes_eq (k n : Nat) : leBytes k n = le k n := by
  induction k generalizing n with
  | zero => rfl
  | succ k ih => simp [leBytes, le, ih]

theorem iter_eq {α} (f : α → α) (n : Nat) (x : α) : iter f n x = iterate f n x := by
  induction n generalizing x with
  | zero => rfl
  | succ n ih => simp [iter, iterate, ih]

theorem cbcE_eq (E : Bytes → Bytes) (n : Nat) (iv d : Bytes) : cbcE E n iv d = cbcEncN E n iv d := by
  induction n generalizing iv d with
  | zero => rfl
  | succ n ih => simp [cbcE, cbcEncN, xorBlock, xorB, ih]
theorem cbcD_eq (D : Bytes → Bytes) (n : Nat) (iv d : Bytes) : cbcD D n iv d = cbcDecN D n iv d := by
  induction n generalizing iv d with
  | zero => rfl
  | succ n ih => simp [cbcD, cbcDecN, xorBlock, xorB, ih]

theorem repBytes_eq (n : Nat) (b : Bytes) : repBytes n b = repeatBytes n b := by
  induction n with
  | zero => rfl
  | succ n ih => simp [repBytes, repeatBytes, ih]

theorem padPassword_length (pw : Bytes) : (padPassword pw).length = 32 := by
  rw [← padPw_eq, padPw_length]

theorem padPassword_idem (pw : Bytes) : padPassword (padPassword pw) = padPassword pw := by
  simp only [← padPw_eq, padPw_idem]

theorem le_length (k n : Nat) : (le k n).length = k := by
  rw [← leBytes_eq, leBytes_length]

/-! ## (1) spec self-consistency -/
section spec
variable (S : SPrims)

theorem alg2_padded (q : Params) (o pw : Bytes) : alg2 S q o (padPassword pw) = alg2 S q o pw := by
  simp [alg2, padPassword_idem]

/-- Algorithm 6 accepts the U value of Algorithm 4 (R2) -/
theorem alg6_accepts_alg4 (q : Params) (o pw : Bytes) (hr : q.r = 2) :
    alg6 S q o (alg4 S q o pw) pw = some (alg2 S q o pw) := by
  simp [alg6, hr]

/-- Algorithm 6 accepts any U whose first 16 bytes are Algorithm 5's (R3, R4) -/
theorem alg6_accepts_alg5 (q : Params) (o pw u : Bytes) (hr : q.r ≠ 2) (hu : u.take 16 = alg5 S q o pw) :
    alg6 S q o u pw = some (alg2 S q o pw) := by
  simp [alg6, hr, hu]

theorem rc4Seq_append (k : Bytes) (l1 l2 : List Nat) (d : Bytes) :
    rc4Seq S k (l1 ++ l2) d = rc4Seq S k l2 (rc4Seq S k l1 d) := by
  induction l1 generalizing d with
  | nil => simp [rc4Seq]
  | cons i rest ih => simp [rc4Seq, ih]

/-- running the key sequence backwards undoes it (from RC4 being an involution) -/
theorem rc4Seq_reverse (hinv : ∀ k d, S.rc4 k (S.rc4 k d) = d) (k : Bytes) (l : List Nat) (d : Bytes) :
    rc4Seq S k l.reverse (rc4Seq S k l d) = d := by
  induction l generalizing d with
  | nil => simp [rc4Seq]
  | cons i rest ih =>
    simp only [List.reverse_cons, rc4Seq_append, rc4Seq]
    rw [ih, hinv]

theorem xorWith_zero (k : Bytes) : xorWith k 0 = k := by
  simp [xorWith]

/-- Algorithm 7 recovers the padded user password from the O value of Algorithm 3 -/
theorem alg7_recovers_user (hinv : ∀ k d, S.rc4 k (S.rc4 k d) = d) (q : Params) (ownerPw userPw : Bytes)
    (hr : 2 ≤ q.r) :
    alg7User S q (alg3 S q (some ownerPw) userPw) ownerPw = padPassword userPw := by
  unfold alg7User alg3
  by_cases h2 : q.r = 2
  · have : ¬ q.r ≥ 3 := by omega
    simp [h2, hinv]
  · have h3 : q.r ≥ 3 := by omega
    simp only [h2, h3, ↓reduceIte, Option.getD_some]
    have e : List.range' 0 20 = 0 :: List.range' 1 19 := by decide
    have step : rc4Seq S (ownerKey S q ownerPw) (List.range' 1 19) (S.rc4 (ownerKey S q ownerPw) (padPassword userPw))
        = rc4Seq S (ownerKey S q ownerPw) (List.range' 0 20) (padPassword userPw) := by
      rw [e]; simp [rc4Seq, xorWith_zero]
    rw [step, rc4Seq_reverse S hinv]

/-- the owner path of Algorithm 7 yields exactly what Algorithm 6 yields for the user password:
same acceptance, same file encryption key -/
theorem alg7_eq_alg6_user (hinv : ∀ k d, S.rc4 k (S.rc4 k d) = d) (q : Params) (ownerPw userPw u : Bytes)
    (hr : 2 ≤ q.r) :
    alg7 S q (alg3 S q (some ownerPw) userPw) u ownerPw = alg6 S q (alg3 S q (some ownerPw) userPw) u userPw := by
  unfold alg7
  rw [alg7_recovers_user S hinv q ownerPw userPw hr]
  unfold alg6 alg4 alg5
  simp only [alg2_padded]

structure AesOK (S : SPrims) : Prop where
  enc_len : ∀ k b, (S.aesEnc k b).length = 16
  dec_enc : ∀ k b, b.length = 16 → S.aesDec k (S.aesEnc k b) = b

theorem cbc2_rt (hA : AesOK S) (key d : Bytes) (hd : d.length = 32) :
    cbcD (S.aesDec key) 2 zeroIV (cbcE (S.aesEnc key) 2 zeroIV d) = d := by
  rw [cbcE_eq, cbcD_eq]
  exact cbcN_dec_enc _ _ (hA.enc_len key) (hA.dec_enc key) 2 zeroIV d (by simp [zeroIV]) (by omega)

theorem trunc_trunc (pw : Bytes) : trunc (trunc pw) = trunc pw :=
  List.take_take.trans (by rw [Nat.min_self]; rfl)

/-- Algorithm 2.A recovers the file key from OE of Algorithm 9 with the owner password -/
theorem alg2A_owner (hA : AesOK S) (r : Nat) (hh : ∀ pw s u, (hashR S r pw s u).length = 32)
    (pw fileKey salts u ue : Bytes) (hk : fileKey.length = 32) (hs : salts.length = 16) (hu : u.length = 48) :
    alg2A S r (alg9 S r pw fileKey salts u).1 u (alg9 S r pw fileKey salts u).2 ue pw = some fileKey := by
  obtain ⟨-, a1, a3, a2⟩ := salted _ salts (hh (trunc pw) (salts.take 8) u) (Nat.le_of_eq hs.symm)
  simp only [slice] at a1 a2 a3
  unfold alg2A alg9
  simp only [List.take_of_length_le (Nat.le_of_eq hu), a1, a2, a3, ↓reduceIte]
  rw [cbc2_rt S hA _ fileKey hk]

/-- Algorithm 2.A recovers the file key from UE of Algorithm 8 with the user password, provided the
user password does not also pass the owner test (no hash coincidence) -/
theorem alg2A_user (hA : AesOK S) (r : Nat) (hh : ∀ pw s u, (hashR S r pw s u).length = 32)
    (pw fileKey salts o oe : Bytes) (hk : fileKey.length = 32) (hs : salts.length = 16)
    (hno : hashR S r (trunc pw) ((o.drop 32).take 8) (((alg8 S r pw fileKey salts).1).take 48) ≠ o.take 32) :
    alg2A S r o (alg8 S r pw fileKey salts).1 oe (alg8 S r pw fileKey salts).2 pw = some fileKey := by
  obtain ⟨-, a1, a3, a2⟩ := salted _ salts (hh (trunc pw) (salts.take 8) []) (Nat.le_of_eq hs.symm)
  simp only [slice] at a1 a2 a3
  unfold alg2A
  simp only [hno, ↓reduceIte]
  unfold alg8
  simp only [a1, a2, a3, ↓reduceIte]
  rw [cbc2_rt S hA _ fileKey hk]

/-- Algorithm 13 accepts the Perms value of Algorithm 10 -/
theorem alg13_accepts_alg10 (hA : AesOK S) (p : Nat) (em : Bool) (fileKey rnd : Bytes) (hr : rnd.length ≥ 4) :
    alg13 S p fileKey (alg10 S p em fileKey rnd) = true := by
  unfold alg13 alg10
  have hl : (permsBlock p em rnd).length = 16 := by simp [permsBlock, le_length]; omega
  rw [hA.dec_enc _ _ hl]
  simp [permsBlock, le]

end spec

/-! ## (2) model_eq_spec: the model of the code equals the ISO transcription -/
section model_eq_spec
variable (P : Prims) (S : SPrims)
variable (hmd5 : S.md5 = P.md5) (hrc4 : S.rc4 = Crypt.rc4) (haesE : S.aesEnc = P.aesEnc)

/-- the Algorithm-2 parameters the code uses for an algorithm state `a` -/
def paramsOf (a : Alg) (fileId : Bytes) : Params :=
  { r := a.revision, n := keyBytes a.revision a.length, p := pValue a.permissions % 4294967296,
    fileId := fileId, encryptMetadata := a.encryptMetadata }

include hmd5 in
/-- Algorithm 2 as coded = Algorithm 2 of the standard (for the P value the code feeds it) -/
theorem fileKeyR4_eq_alg2 (a : Alg) (fileId pw : Bytes) (hn : keyBytes a.revision a.length ≤ 16) :
    a.fileKeyR4 P fileId pw = .ok (alg2 S (paramsOf a fileId) a.ownerValue pw) := by
  have h50 : MD5_ROUNDS = 50 := rfl
  unfold Alg.fileKeyR4 alg2 paramsOf
  simp only [Nat.not_lt.mpr hn, ↓reduceIte, padPw_eq, leBytes_eq, iter_eq, hmd5, h50, Bool.and_eq_true,
    decide_eq_true_eq, Bool.not_eq_true']

include hrc4 in
theorem rc4Up_eq_rc4Seq (k : Bytes) (cnt i : Nat) (d : Bytes) :
    rc4Up k cnt i d = rc4Seq S k (List.range' i cnt) d := by
  induction cnt generalizing i d with
  | zero => simp [rc4Up, rc4Seq]
  | succ n ih => simp [rc4Up, rc4Seq, List.range', ih, hrc4, xorKey, xorWith]

include hmd5 hrc4 in
/-- Algorithm 3 as coded = Algorithm 3 of the standard, including step (a): with no owner password
(an empty one) the user password is used -/
theorem computeO_eq_alg3 (a : Alg) (fileId ownerPw userPw : Bytes) (hn : keyBytes a.revision a.length ≤ 16) :
    a.computeO P ownerPw userPw =
      .ok (alg3 S (paramsOf a fileId) (if ownerPw.isEmpty then none else some ownerPw) userPw) := by
  have h50 : MD5_ROUNDS = 50 := by decide
  have h19 : RC4_ROUNDS = 19 := by decide
  unfold Alg.computeO alg3
  have : ¬ keyBytes a.revision a.length > 16 := by omega
  simp only [this, ↓reduceIte]
  have he : (if ownerPw.isEmpty then none else some ownerPw : Option Bytes).getD userPw = effOwner ownerPw userPw := by
    unfold effOwner; cases ownerPw.isEmpty <;> simp
  rw [he]
  have hk : a.ownerKey P (effOwner ownerPw userPw) = ownerKey S (paramsOf a fileId) (effOwner ownerPw userPw) := by
    simp [Alg.ownerKey, ownerKey, paramsOf, padPw_eq, iter_eq, hmd5, h50]
  rw [hk, rc4Up_eq_rc4Seq S hrc4, h19, padPw_eq, hrc4]
  rfl

include hmd5 hrc4 in
/-- Algorithms 4 and 5 as coded = the standard's -/
theorem computeU_eq_alg45 (a : Alg) (fileId userPw : Bytes) (hn : keyBytes a.revision a.length ≤ 16) :
    a.computeU2 P fileId userPw = .ok (alg4 S (paramsOf a fileId) a.ownerValue userPw) ∧
    a.computeU34 P fileId userPw = .ok (alg5 S (paramsOf a fileId) a.ownerValue userPw) := by
  have h19 : RC4_ROUNDS = 19 := by decide
  unfold Alg.computeU2 Alg.computeU34 alg4 alg5
  rw [fileKeyR4_eq_alg2 P S hmd5 a fileId userPw hn]
  simp [rc4Up_eq_rc4Seq S hrc4, hrc4, hmd5, pad_bytes_eq, h19, paramsOf]

include hmd5 in
/-- per-object keys: `Rc4CryptFilter::compute_key` = Algorithm 1, `Aes128CryptFilter::compute_key` =
Algorithm 1 with the `sAlT` suffix -/
theorem computeKey_eq_objectKey (fileKey : Bytes) (id : ObjId) :
    CF.rc4.computeKey P fileKey id = objectKey S fileKey id.1 id.2 false ∧
    CF.aes128.computeKey P fileKey id = objectKey S fileKey id.1 id.2 true := by
  have e1 : OBJ_NUM_BYTES = 3 := by decide
  have e2 : OBJ_GEN_BYTES = 2 := by decide
  have e3 : AES_SALT = [0x73, 0x41, 0x6C, 0x54] := by decide
  have e4 : KEY_EXTRA = 5 := by decide
  have e5 : KEY_CAP = 16 := by decide
  simp [CF.computeKey, objectKey, objSalt, leBytes_eq, hmd5, e1, e2, e3, e4, e5]

include haesE in
/-- AES string / stream encryption as coded = IV ‖ CBC(PKCS#5(data)) of 7.6.2 -/
theorem aesEncrypt_eq_aesData (kl : Nat) (key iv pt : Bytes) (hk : key.length = kl) :
    aesEncrypt P kl key iv pt = .ok (aesData S key iv pt) := by
  simp [aesEncrypt, hk, aesData, cbcEnc, cbcE_eq, pkcs5Pad, pad16, padLen, haesE]

end model_eq_spec

/-! ## (3) the deviations, as statements about the model of the code -/

/-! Algorithms 10 and 13 (after the repair of F-C06-c, /repo ca6bb9d): model = spec -/

theorem leBytes_mod (k n : Nat) : leBytes k (n % 256 ^ k) = leBytes k n := by
  induction k generalizing n with
  | zero => rfl
  | succ k ih =>
    have e : (256 : Nat) ^ (k + 1) = 256 * 256 ^ k := by rw [Nat.pow_succ, Nat.mul_comm]
    simp only [leBytes]
    rw [e, Nat.mod_mul_right_div_self, ih, Nat.mod_mul_right_mod]

theorem leBytes_append (j k n : Nat) : leBytes (j + k) n = leBytes j n ++ leBytes k (n / 256 ^ j) := by
  induction j generalizing n with
  | zero => simp [leBytes]
  | succ j ih =>
    have : j + 1 + k = (j + k) + 1 := by omega
    rw [this]
    simp only [leBytes, List.cons_append, ih]
    rw [Nat.div_div_eq_div_mul, Nat.pow_succ, Nat.mul_comm]

theorem pValue_high (perms : Nat) (h : perms < 4294967296) : pValue perms / 4294967296 = 4294967295 := by
  unfold pValue
  have e : (4294967296 : Nat) = 2 ^ 32 := by decide
  rw [e, ← Nat.shiftRight_eq_div_pow, Nat.shiftRight_or_distrib, Nat.shiftRight_eq_div_pow, Nat.shiftRight_eq_div_pow]
  have h0 : perms / 2 ^ 32 = 0 := Nat.div_eq_of_lt (by rw [← e]; exact h)
  have h1 : P_RESERVED / 2 ^ 32 = 4294967295 := by decide
  rw [h0, h1]; simp

/-- the block `compute_permissions` encrypts = the block of Algorithm 10 -/
theorem permsPlain_eq_permsBlock (a : Alg) (rnd : Bytes) (hp : a.permissions < 4294967296) :
    a.permsPlain rnd = permsBlock (pValue a.permissions % 4294967296) a.encryptMetadata rnd := by
  have e : PERMS_TAG = [0x61, 0x64, 0x62] := by decide
  have e256 : (4294967296 : Nat) = 256 ^ 4 := by decide
  have l8 : leBytes 8 (pValue a.permissions) = le 4 (pValue a.permissions % 4294967296) ++ [0xFF, 0xFF, 0xFF, 0xFF] := by
    rw [show (8 : Nat) = 4 + 4 from rfl, leBytes_append, ← e256, pValue_high _ hp, ← leBytes_eq, e256, leBytes_mod]
    have : leBytes 4 4294967295 = [0xFF, 0xFF, 0xFF, 0xFF] := by decide
    rw [this]
  unfold Alg.permsPlain permsBlock
  rw [l8, e]

/-- model_eq_spec, Algorithm 10: `compute_permissions` as coded = Algorithm 10 (every permission
word below 2^32, every key, every random tail) -/
theorem computePerms_eq_alg10 (P : Prims) (S : SPrims) (haesE : S.aesEnc = P.aesEnc) (a : Alg) (key rnd : Bytes)
    (hp : a.permissions < 4294967296) :
    a.computePerms P key rnd = alg10 S (pValue a.permissions % 4294967296) a.encryptMetadata key rnd := by
  unfold Alg.computePerms alg10
  rw [permsPlain_eq_permsBlock a rnd hp, haesE]

/-- model_eq_spec, Algorithm 13: `validate_permissions` as coded accepts the Perms value of the
standard's Algorithm 10 (for the document's own P and EncryptMetadata) under the AES hypothesis -/
theorem validatePerms_accepts_alg10 (P : Prims) (S : SPrims) (haesE : S.aesEnc = P.aesEnc) (key : Bytes)
    (hk : BlockOK P key) (a : Alg) (rnd : Bytes) (hr : rnd.length ≥ 4) (hp : a.permissions < 4294967296)
    (hperms : a.permsEncrypted = alg10 S (pValue a.permissions % 4294967296) a.encryptMetadata key rnd) :
    a.validatePerms P key = .ok () := by
  refine validatePerms_permsPlain P a key rnd hk hr ?_
  rw [hperms, alg10, ← permsPlain_eq_permsBlock a rnd hp, haesE]

/-- non-vacuity: all permissions, EncryptMetadata = true, in the witness instance of the primitives -/
def permsAlg : Alg :=
  { encryptMetadata := true, length := none, version := 5, revision := 6, ownerValue := [], ownerEncrypted := [],
    userValue := [], userEncrypted := [], permissions := PERM_ALL,
    permsEncrypted := toy.aesEnc [] (permsBlock (pValue PERM_ALL % 4294967296) true [1, 2, 3, 4]) }
example : errOf (permsAlg.validatePerms toy []) = none := by decide +kernel

/-- what links the primitives of the model to those of the spec in the R5/R6 theorems -/
structure SamePrims (P : Prims) (S : SPrims) : Prop where
  sha256 : S.sha256 = P.sha256
  sha384 : S.sha384 = P.sha384
  sha512 : S.sha512 = P.sha512
  aesEnc : S.aesEnc = P.aesEnc
  aesDec : S.aesDec = P.aesDec

/-- the code adds the first 16 bytes of E as `u32`; the standard reads them as a big-endian integer:
the same modulo 3 (256 ≡ 1), for every byte string -/
theorem sum_mod3_eq_be_mod3 (l : Bytes) (a b : Nat) (h : a % 3 = b % 3) :
    (l.foldl (fun (acc : Nat) (x : UInt8) => acc + x.toNat) a) % 3
      = (l.foldl (fun (acc : Nat) (x : UInt8) => acc * 256 + x.toNat) b) % 3 := by
  induction l generalizing a b with
  | nil => exact h
  | cons x rest ih =>
    -- 256 ≡ 1 (mod 3)
    refine ih _ _ ?_
    rw [Nat.add_mod, h, Nat.add_mod (b * 256), Nat.mul_mod, Nat.mul_one, Nat.mod_mod]

/-- the loop of `compute_hash` as coded = the loop of Algorithm 2.B, round for round -/
theorem hash2BLoop_eq (P : Prims) (S : SPrims) (hp : SamePrims P S) (pw udata : Bytes) (left round : Nat) (k : Bytes) :
    hash2BLoop P pw udata left round k = alg2BLoop S pw udata left round k := by
  induction left generalizing round k with
  | zero => rfl
  | succ left ih =>
    have hm := sum_mod3_eq_be_mod3
      ((cbcE (S.aesEnc (k.take 16)) ((repeatBytes 64 (pw ++ k ++ udata)).length / 16) ((k.drop 16).take 16)
        (repeatBytes 64 (pw ++ k ++ udata))).take 16) 0 0 rfl
    simp only [hash2BLoop, alg2BLoop, hash2BRound, cbcEnc, repBytes_eq, ← cbcE_eq, ← hp.aesEnc, hm,
      ← hp.sha256, ← hp.sha384, ← hp.sha512, ih]

/-- model_eq_spec, Algorithm 2.B: `compute_hash` as coded (revision 6) = Algorithm 2.B, for every
password, salt and user-key string -/
theorem hash2B_eq_alg2B (P : Prims) (S : SPrims) (hp : SamePrims P S) (pw salt udata : Bytes) :
    hash2B P pw salt udata = alg2B S pw salt udata := by
  simp [hash2B, alg2B, hash2BLoop_eq P S hp, hp.sha256]

/-- the unbounded Rust loop `for round in 1..` is modelled with 287 available rounds; they are never
exhausted: any larger supply gives the same result (the last byte of E is at most 255 = 287 − 32). -/
theorem hash2BLoop_stable (P : Prims) (pw udata : Bytes) (left m round : Nat) (k : Bytes)
    (h1 : 1 ≤ left) (h2 : 288 ≤ round + left) :
    hash2BLoop P pw udata (left + m) round k = hash2BLoop P pw udata left round k := by
  induction left generalizing round k with
  | zero => omega
  | succ l ih =>
    have hlast : (hash2BRound P pw udata k).2 ≤ 255 := Nat.le_of_lt_succ (UInt8.toNat_lt _)
    rw [show l + 1 + m = (l + m) + 1 by omega]
    simp only [hash2BLoop]
    split
    · rfl
    · -- not stopped in this round: `round ≤ 286`, so at least one more round is available
      rename_i hstop
      simp only [ge_iff_le, Bool.and_eq_true, decide_eq_true_eq, not_and, Nat.not_le] at hstop
      exact ih (round + 1) _ (by omega) (by omega)

theorem hash2B_any_bound (P : Prims) (pw salt udata : Bytes) (m : Nat) :
    (hash2BLoop P pw udata (287 + m) 1 (P.sha256 (pw ++ salt ++ udata))).take 32 = hash2B P pw salt udata := by
  unfold hash2B; rw [hash2BLoop_stable P pw udata 287 m 1 _ (by omega) (by omega)]

theorem hash_eq_hashR (P : Prims) (S : SPrims) (hp : SamePrims P S) (a : Alg) (x s u : Bytes) :
    a.hash P x s u = hashR S a.revision x s u := by
  simp [Alg.hash, hashR, hp.sha256, hash2B_eq_alg2B P S hp]

/-- model_eq_spec, Algorithms 8 and 9: U/UE and O/OE as coded = the standard's, for every password,
key and salts (no hypothesis on the hash: Algorithm 2.B is concrete on both sides) -/
theorem computeU6O6_eq_alg89 (P : Prims) (S : SPrims) (hp : SamePrims P S) (a : Alg) (key pw salts : Bytes)
    (hk : key.length = 32) :
    a.computeU6 P key pw salts = alg8 S a.revision pw key salts ∧
    a.computeO6 P key pw salts = alg9 S a.revision pw key salts a.userValue := by
  have hh := hash_eq_hashR P S hp a
  have e127 : R6_PW_MAX = 127 := by decide
  have hc : ∀ k, cbc0Enc P k key = cbcE (S.aesEnc k) 2 zeroIV key := by
    intro k; simp [cbc0Enc, cbcEnc, hk, cbcE_eq, zeroIV, hp.aesEnc]
  simp [Alg.computeU6, Alg.computeO6, alg8, alg9, hh, hc, trunc127, trunc, slice, e127]

/-- model_eq_spec, Algorithm 2.A (with 11 and 12): `compute_file_encryption_key_r6` as coded retrieves
exactly the key of Algorithm 2.A — owner test first (validation salt, 48-byte U), OE decrypted with the
hash over the owner key salt; otherwise user test, UE decrypted with the hash over the user key salt;
AES-256-CBC, zero IV, no padding.  On the user branch the code additionally runs its Algorithm-13
check (`validate_permissions`) on the key; the owner branch skips it. -/
theorem fileKeyR6_eq_alg2A (P : Prims) (S : SPrims) (hp : SamePrims P S) (a : Alg) (pw : Bytes)
    (hu : a.userValue.length = 48) (hoe : a.ownerEncrypted.length = 32) (hue : a.userEncrypted.length = 32) :
    a.fileKeyR6 P pw =
      match alg2A S a.revision a.ownerValue a.userValue a.ownerEncrypted a.userEncrypted pw with
      | none => .error .incorrectPassword
      | some k =>
        if hashR S a.revision (trunc pw) ((a.ownerValue.drop 32).take 8) a.userValue = a.ownerValue.take 32 then .ok k
        else match a.validatePerms P k with
          | .error e => .error e
          | .ok () => .ok k := by
  have hh := hash_eq_hashR P S hp a
  have e127 : R6_PW_MAX = 127 := by decide
  have hu48 : a.userValue.take 48 = a.userValue := List.take_of_length_le (by omega)
  have hc : ∀ k d, d.length = 32 → cbc0Dec P k d = cbcD (S.aesDec k) 2 zeroIV d := by
    intro k d hd; simp [cbc0Dec, cbcDec, hd, cbcD_eq, zeroIV, hp.aesDec]
  unfold Alg.fileKeyR6 alg2A
  simp only [hh, hc _ _ hoe, hc _ _ hue, trunc127, trunc, slice, e127, hu48]
  split <;> rename_i h1
  · simp [h1]
  · split <;> rename_i h2
    · simp only [h1, h2, ↓reduceIte]; rfl
    · simp [h2]

/-- F-C06-f: Algorithm 2 is fed `p_value(from_bits_truncate(P))`, not the stored P: for the
(non-conforming but common) P = −1 the code hashes FFFFFFFC instead of FFFFFFFF. -/
theorem p_renormalised : pValue (permsTruncate 4294967295) % 4294967296 = 4294967292 := by decide

/-- conforming P words (reserved bits as the standard demands) are fixed points, so Algorithm 2 sees the stored P -/
theorem p_conforming_fixed (perms : Nat) (h : perms &&& PERM_ALL = perms) :
    permsTruncate (pValue perms) = perms :=
  permsTruncate_pValue perms h

/-- spec: an absent owner password is the user password (Algorithm 3 step a) -/
theorem alg3_absent_owner (S : SPrims) (q : Params) (userPw : Bytes) :
    alg3 S q none userPw = alg3 S q (some userPw) userPw := rfl

/-- model = spec for the absent owner password (F-C06-e repaired): `compute_hashed_owner_password_r4`
with an empty owner password computes the standard's O for "no owner password" -/
theorem computeO_absent_owner (P : Prims) (S : SPrims) (hmd5 : S.md5 = P.md5) (hrc4 : S.rc4 = Crypt.rc4)
    (a : Alg) (fileId userPw : Bytes) (hn : keyBytes a.revision a.length ≤ 16) :
    a.computeO P [] userPw = .ok (alg3 S (paramsOf a fileId) none userPw) := by
  have := computeO_eq_alg3 P S hmd5 hrc4 a fileId [] userPw hn
  simpa using this

end Lopdf.C06
