import LopdfModel.Thm.C02Composite
import LopdfModel.Thm.C02StartXref
import LopdfModel.Lemmas.Dict
/-
  C02 — dictionaries at top level, the `trailer`, indirect objects `n g obj … endobj` and streams
  with a direct `Length`, each in every spelling (free spacing / comments between all tokens).
-/
namespace Lopdf.Grammar
open Lopdf Gen
open Lopdf.ObjRt (StopCtx)

/-- **`dictionary`, every spelling** (the parser used for the trailer and for stream dictionaries) -/
theorem dictionary_complete {d : Nat} {es : List (Bytes × Obj)} {bs : Bytes} (sp rest : Bytes)
    (hsp : DerivesSpace sp) (hes : DerivesEntries d es bs) (hd : 1 + d ≤ MAX_NESTING) :
    pDictionary (60 :: 60 :: sp ++ bs ++ [62, 62] ++ rest) = some (setEntries [] es, rest) := by
  simp only [List.append_assoc, List.cons_append, List.nil_append]
  -- the fuel `dictionary` supplies exceeds the length of the pairs
  have hbs : bs.length < (60 :: 60 :: (sp ++ (bs ++ 62 :: 62 :: rest))).length + 1 := by
    simp only [List.length_cons, List.length_append]; omega
  simp only [pDictionary, space_complete sp _ hsp (entries_spaceStop hes rest),
    entries_complete hes _ 1 _ rest [] hd hbs (Nat.le_of_lt (Nat.lt_of_le_of_lt (objEntries_length hes) hbs))]

def TRAILER_KW : Bytes := [116, 114, 97, 105, 108, 101, 114]

/-- **The trailer, every spelling**: `trailer`, any white space / comments, the dictionary in
any spelling, any white space / comments. -/
theorem trailer_complete {d : Nat} {es : List (Bytes × Obj)} {bs : Bytes} (sp0 sp sp1 rest : Bytes)
    (hsp0 : DerivesSpace sp0) (hsp : DerivesSpace sp) (hes : DerivesEntries d es bs) (hd : 1 + d ≤ MAX_NESTING)
    (hsp1 : DerivesSpace sp1) (hst : SpaceStop rest) :
    pTrailer (TRAILER_KW ++ (sp0 ++ ((60 :: 60 :: sp ++ bs ++ [62, 62]) ++ (sp1 ++ rest)))) =
      some (setEntries [] es, rest) := by
  have h1 : tag TRAILER_WORD (TRAILER_KW ++ (sp0 ++ ((60 :: 60 :: sp ++ bs ++ [62, 62]) ++ (sp1 ++ rest)))) =
      some (sp0 ++ ((60 :: 60 :: sp ++ bs ++ [62, 62]) ++ (sp1 ++ rest))) := tag_append TRAILER_WORD _
  have h2 : space (sp0 ++ ((60 :: 60 :: sp ++ bs ++ [62, 62]) ++ (sp1 ++ rest))) =
      (60 :: 60 :: sp ++ bs ++ [62, 62]) ++ (sp1 ++ rest) :=
    space_complete sp0 _ hsp0 (ahead_cons (by decide))
  unfold pTrailer
  simp only [h1, Option.bind, h2, dictionary_complete sp (sp1 ++ rest) hsp hes hd, Option.map,
    space_complete sp1 rest hsp1 hst]

/-- inside `<` … `>` no second `<` follows: white space, a digit or the closing `>` -/
theorem hex_not_dict {s hbs : Bytes} (h : DerivesHex s hbs) (z : Bytes) : Ahead (· ≠ 60) (hbs ++ 62 :: z) := by
  have ws : ∀ {w : Bytes}, AllWs w → Ahead (· ≠ 60) w := fun hw b r e hb =>
    absurd (hw b (e ▸ List.mem_cons_self)) (by rw [hb]; decide)
  have dig : ∀ {x : UInt8} {t : Bytes}, isHexDigit x = true → Ahead (· ≠ 60) (x :: t) :=
    fun hx => ahead_cons (ne_of_class hx (by decide))
  cases h with
  | nil w hw => exact (ws hw).append (ahead_cons (by decide))
  | odd w1 w2 x hw1 hw2 hx => rw [List.append_assoc]; exact (ws hw1).append (dig hx)
  | pair w1 w2 x1 x2 s' bs' hw1 hw2 hx1 hx2 _ => rw [List.append_assoc]; exact (ws hw1).append (dig hx1)

theorem pDictionary_none {inp : Bytes} (h : Ahead (· ≠ 60) inp) : pDictionary inp = none := by
  unfold pDictionary
  split
  · exact absurd rfl (h _ _ rfl)
  · rfl

theorem pDictionary_none_second {r : Bytes} (h : Ahead (· ≠ 60) r) : pDictionary (60 :: r) = none := by
  unfold pDictionary
  split
  · rename_i heq; injection heq with _ e; exact absurd rfl (h _ _ e)
  · rfl

def ENDOBJ_KW : Bytes := [101, 110, 100, 111, 98, 106]
def OBJ_KW : Bytes := [111, 98, 106]

/-- an object that is followed by `endobj` is not taken for a stream -/
theorem pStream_plain {d : Nat} {o : Obj} {bs : Bytes} (h : DerivesObj d o bs) (hd : d ≤ MAX_NESTING)
    (len : ObjId → Option Int) (sp4 rest : Bytes) (hsp4 : DerivesSpace sp4) :
    pStream len (bs ++ (sp4 ++ (ENDOBJ_KW ++ rest))) = .error := by
  -- no dictionary: the spelling does not start with `<<`
  have first : ∀ {inp : Bytes}, pDictionary inp = none → pStream len inp = .error := fun h => by
    simp only [pStream, h]
  have digit60 : ∀ c : UInt8, NumHead c → c ≠ 60 := fun c hc => by
    rcases hc with hc | rfl | rfl | rfl
    · exact ne_of_class hc (by decide)
    all_goals decide
  cases h with
  | int _ i b hi => exact first (pDictionary_none (((int_starts hi).append _).ahead digit60))
  | real _ b hr => exact first (pDictionary_none (((real_starts hr).append _).ahead digit60))
  | ref _ n g d1 sp1 d2 sp2 h1 =>
    exact first (pDictionary_none ((((((nat_starts h1).append _).append _).append _).append _).append _ |>.ahead
      fun c hc => digit60 c (Or.inl hc)))
  | hex _ s b hh =>
    have e : (60 :: b ++ [62]) ++ (sp4 ++ (ENDOBJ_KW ++ rest)) = 60 :: (b ++ 62 :: (sp4 ++ (ENDOBJ_KW ++ rest))) := by
      simp
    rw [e]; exact first (pDictionary_none_second (hex_not_dict hh _))
  | dict d' es sp b hsp he =>
    -- a dictionary, but the keyword `stream` does not follow
    have hs : space (sp4 ++ (ENDOBJ_KW ++ rest)) = ENDOBJ_KW ++ rest :=
      space_complete sp4 _ hsp4 (ahead_cons (by decide))
    have ht : tag STREAM_WORD (ENDOBJ_KW ++ rest) = none := tag_none (ahead_cons (by decide))
    simp only [pStream, dictionary_complete sp (sp4 ++ (ENDOBJ_KW ++ rest)) hsp he (by rw [Nat.add_comm]; exact hd), hs, ht]
  | _ => exact first (pDictionary_none (ahead_cons (by decide)))

/-- the frame `n g obj` … of an indirect object, with free spacing: what `_indirect_object` returns
is decided by `stream` and `_direct_objects` on the text `X` after `obj` and its white space -/
theorem pIndirect_frame (n g : Nat) (sp0 d1 sp1 d2 sp2 sp3 X : Bytes) (len : ObjId → Option Int)
    (expected : Option ObjId) (base : Nat) (o : Obj)
    (hsp0 : DerivesSpace sp0) (h1 : DerivesNat n d1) (hn : n ≤ 4294967295) (hs1 : IsGap sp1)
    (h2 : DerivesNat g d2) (hg : g ≤ 65535) (hs2 : IsGap sp2) (hsp3 : DerivesSpace sp3) (hX : SpaceStop X)
    (hexp : ∀ e, expected = some e → e = (n, g))
    (hbody : (∃ tail, pStream len X = .ok (.plain o) tail) ∨
      (pStream len X = .error ∧ ∃ r, directObjects (X.length + 1) 0 X = .ok o r)) :
    pIndirect len expected base (sp0 ++ (d1 ++ (sp1 ++ (d2 ++ (sp2 ++ (OBJ_KW ++ (sp3 ++ X))))))) =
      some ((n, g), .plain o) := by
  have a1 : pUnsigned U32_MAX (space (sp0 ++ (d1 ++ (sp1 ++ (d2 ++ (sp2 ++ (OBJ_KW ++ (sp3 ++ X)))))))) =
      some (n, sp1 ++ (d2 ++ (sp2 ++ (OBJ_KW ++ (sp3 ++ X))))) := by
    rw [space_complete sp0 _ hsp0 (nat_spaceStop h1 _)]
    exact unsigned_complete h1 U32_MAX hn _ (gap_head sp1 _ hs1)
  have a2 : pUnsigned U16_MAX (space (sp1 ++ (d2 ++ (sp2 ++ (OBJ_KW ++ (sp3 ++ X)))))) =
      some (g, sp2 ++ (OBJ_KW ++ (sp3 ++ X))) := by
    rw [space_complete sp1 _ hs1.1 (nat_spaceStop h2 _)]
    exact unsigned_complete h2 U16_MAX hg _ (gap_head sp2 _ hs2)
  have a3 : tag OBJ_WORD (space (sp2 ++ (OBJ_KW ++ (sp3 ++ X)))) = some (sp3 ++ X) := by
    rw [space_complete sp2 (OBJ_KW ++ (sp3 ++ X)) hs2.1 (ahead_cons (by decide))]
    exact tag_append OBJ_WORD _
  have a4 : space (sp3 ++ X) = X := space_complete sp3 X hsp3 hX
  have hex : expected = none ∨ expected = some (n, g) := by
    cases expected with
    | none => exact Or.inl rfl
    | some x => exact Or.inr (congrArg some (hexp x rfl))
  rw [pIndirect, a1, Option.bind_some]
  dsimp only
  rw [a2, Option.bind_some]
  dsimp only
  rw [a3, Option.bind_some, a4]
  rcases hbody with ⟨tail, hs⟩ | ⟨hs, r, hd⟩
  · rcases hex with rfl | rfl <;> simp [hs]
  · rcases hex with rfl | rfl <;> simp [hs, hd]

/-- **Indirect objects (no stream), every spelling**: `n g obj <object> endobj` with any white
space / comments in front, between the numbers, after `obj` and before `endobj`; the object in any
spelling of the object grammar. `expected` is the id the cross-reference table asks for (or none). -/
theorem indirect_complete {d : Nat} {o : Obj} {bs : Bytes} (n g : Nat) (sp0 d1 sp1 d2 sp2 sp3 sp4 rest : Bytes)
    (len : ObjId → Option Int) (expected : Option ObjId) (base : Nat)
    (hsp0 : DerivesSpace sp0) (h1 : DerivesNat n d1) (hn : n ≤ 4294967295) (hs1 : IsGap sp1)
    (h2 : DerivesNat g d2) (hg : g ≤ 65535) (hs2 : IsGap sp2) (hsp3 : DerivesSpace sp3)
    (ho : DerivesObj d o bs) (hd : d ≤ MAX_NESTING) (hsp4 : DerivesSpace sp4)
    (hsep : NeedsStop o = true → sp4 ≠ [])
    (hexp : ∀ e, expected = some e → e = (n, g)) :
    pIndirect len expected base
      (sp0 ++ (d1 ++ (sp1 ++ (d2 ++ (sp2 ++ (OBJ_KW ++ (sp3 ++ (bs ++ (sp4 ++ (ENDOBJ_KW ++ rest)))))))))) =
      some ((n, g), .plain o) := by
  have hafter : After o (sp4 ++ (ENDOBJ_KW ++ rest)) := fun hns =>
    stopCtx_of_head sp4 _ hsp4 (space_head_stop hsp4 (hsep hns) _) (ahead_cons (by decide))
  exact pIndirect_frame n g sp0 d1 sp1 d2 sp2 sp3 _ len expected base o hsp0 h1 hn hs1 h2 hg hs2 hsp3
    (obj_spaceStop ho _) hexp
    (Or.inr ⟨pStream_plain ho hd len sp4 rest hsp4, _, obj_complete ho _ 0 _ (by rw [Nat.zero_add]; exact hd)
      (Nat.lt_succ_of_le (le_length_append (Nat.le_refl _) _)) hafter⟩)

def STREAM_KW : Bytes := [115, 116, 114, 101, 97, 109]
def ENDSTREAM_KW : Bytes := [101, 110, 100, 115, 116, 114, 101, 97, 109]

/-- end-of-line marker after the keyword `stream`: LF or CR LF (§7.3.8.1: not CR alone) -/
inductive IsStreamEol : Bytes → Prop where
  | lf : IsStreamEol [10]
  | crlf : IsStreamEol [13, 10]

/-- optional end-of-line marker before `endstream` (not counted in `Length`) -/
inductive IsOptEol : Bytes → Prop where
  | none : IsOptEol []
  | some (e : Bytes) : IsEol e → IsOptEol e

/-- **Stream objects, every spelling**, with `Length` a direct integer or a reference that the
reader resolves (`len`) to the number of data bytes: the dictionary in any spelling, any white
space / comments before `stream`, optional blanks, LF or CR LF, exactly `Length` bytes of data (ANY
bytes), an optional end-of-line marker, `endstream`. The dictionary of the result carries the
length as a direct integer (as `Reader::read` stores it). -/
theorem stream_any_length {d : Nat} {es : List (Bytes × Obj)} {ebs : Bytes} (sp sp5 bl e data e' tail : Bytes)
    (len : ObjId → Option Int) (hsp : DerivesSpace sp) (hes : DerivesEntries d es ebs) (hd : 1 + d ≤ MAX_NESTING)
    (hsp5 : DerivesSpace sp5) (hbl : ∀ b ∈ bl, (b == 32 || b == 9) = true) (he : IsStreamEol e)
    (hlen : (setEntries [] es).get LENGTH = some (.int data.length) ∨
      ∃ ln lg, (setEntries [] es).get LENGTH = some (.ref ln lg) ∧ len (ln, lg) = some (data.length : Int))
    (he' : IsOptEol e') :
    pStream len ((60 :: 60 :: sp ++ ebs ++ [62, 62]) ++ (sp5 ++ (STREAM_KW ++ (bl ++ (e ++ (data ++ (e' ++ (ENDSTREAM_KW ++ tail)))))))) =
      .ok (.plain (.stream ((setEntries [] es).set LENGTH (.int data.length)) data)) tail := by
  -- the text from the data on, and from `stream` on
  generalize hD : data ++ (e' ++ (ENDSTREAM_KW ++ tail)) = D
  generalize hS : STREAM_KW ++ (bl ++ (e ++ D)) = S
  have b1 := dictionary_complete sp (sp5 ++ S) hsp hes hd
  have b2 : space (sp5 ++ S) = S := space_complete sp5 _ hsp5 (hS ▸ ahead_cons (by decide))
  have b3 : tag STREAM_WORD S = some (bl ++ (e ++ D)) := hS ▸ tag_append STREAM_WORD _
  have b4 : space0 (bl ++ (e ++ D)) = e ++ D := by
    rw [space0, spanP_append (fun b => b == 32 || b == 9) bl _ hbl (by cases he <;> exact ahead_cons (by decide))]
  obtain ⟨m, b5⟩ : ∃ m, eol (e ++ D) = some (m, D) := by cases he <;> exact ⟨_, rfl⟩
  have b6 : List.take data.length D = data := hD ▸ List.take_left' rfl
  have b7 : List.drop data.length D = e' ++ (ENDSTREAM_KW ++ tail) := hD ▸ List.drop_left' rfl
  -- the optional marker before `endstream`
  have b8 : (eol (e' ++ (ENDSTREAM_KW ++ tail)) = none ∧ e' = []) ∨
      ∃ m', eol (e' ++ (ENDSTREAM_KW ++ tail)) = some (m', ENDSTREAM_KW ++ tail) := by
    cases he' with
    | none => exact Or.inl ⟨rfl, rfl⟩
    | some _ hee => exact Or.inr (eol_exact e' (ENDSTREAM_KW ++ tail) hee (ahead_cons (by decide)))
  have b9 : tag ENDSTREAM_WORD (ENDSTREAM_KW ++ tail) = some tail := tag_append ENDSTREAM_WORD tail
  have hlt : ¬ ((data.length : Int) < 0) := Int.not_lt.mpr (Int.natCast_nonneg _)
  have hge : ¬ (D.length < data.length) := by rw [← hD]; simp
  unfold pStream
  rcases hlen with hlen | ⟨ln, lg, hlen, hres⟩
  · simp only [b1, b2, b3, b4, b5, hlen, hlt, if_false, Int.toNat_natCast, hge, b6, b7]
    rcases b8 with ⟨h0, rfl⟩ | ⟨m', h0⟩
    · simp only [List.nil_append] at h0 ⊢
      simp only [h0, b9]
    · simp only [h0, b9]
  · simp only [b1, b2, b3, b4, b5, hlen, hres, hlt, if_false, Int.toNat_natCast, hge, b6, b7]
    rcases b8 with ⟨h0, rfl⟩ | ⟨m', h0⟩
    · simp only [List.nil_append] at h0 ⊢
      simp only [h0, b9]
    · simp only [h0, b9]

/-- **Stream objects with a direct `Length`, every spelling**: the dictionary in any spelling,
any white space / comments before `stream`, optional blanks, LF or CR LF, exactly `Length` bytes
of data (ANY bytes), an optional end-of-line marker, `endstream`. -/
theorem stream_complete {d : Nat} {es : List (Bytes × Obj)} {ebs : Bytes} (sp sp5 bl e data e' tail : Bytes)
    (len : ObjId → Option Int) (hsp : DerivesSpace sp) (hes : DerivesEntries d es ebs) (hd : 1 + d ≤ MAX_NESTING)
    (hsp5 : DerivesSpace sp5) (hbl : ∀ b ∈ bl, (b == 32 || b == 9) = true) (he : IsStreamEol e)
    (hlen : (setEntries [] es).get LENGTH = some (.int data.length)) (he' : IsOptEol e') :
    pStream len ((60 :: 60 :: sp ++ ebs ++ [62, 62]) ++ (sp5 ++ (STREAM_KW ++ (bl ++ (e ++ (data ++ (e' ++ (ENDSTREAM_KW ++ tail)))))))) =
      .ok (.plain (.stream (setEntries [] es) data)) tail := by
  rw [stream_any_length sp sp5 bl e data e' tail len hsp hes hd hsp5 hbl he (Or.inl hlen) he',
    Dict.set_of_get hlen]

theorem indirect_of_stream (n g : Nat) (sp0 d1 sp1 d2 sp2 sp3 X tail : Bytes) (len : ObjId → Option Int)
    (expected : Option ObjId) (base : Nat) (o : Obj)
    (hsp0 : DerivesSpace sp0) (h1 : DerivesNat n d1) (hn : n ≤ 4294967295) (hs1 : IsGap sp1)
    (h2 : DerivesNat g d2) (hg : g ≤ 65535) (hs2 : IsGap sp2) (hsp3 : DerivesSpace sp3)
    (hX : Starts (· = 60) X) (hexp : ∀ x, expected = some x → x = (n, g))
    (hs : pStream len X = .ok (.plain o) tail) :
    pIndirect len expected base (sp0 ++ (d1 ++ (sp1 ++ (d2 ++ (sp2 ++ (OBJ_KW ++ (sp3 ++ X))))))) =
      some ((n, g), .plain o) :=
  pIndirect_frame n g sp0 d1 sp1 d2 sp2 sp3 X len expected base o hsp0 h1 hn hs1 h2 hg hs2 hsp3
    (hX.ahead (by rintro _ rfl; decide)) hexp (Or.inl ⟨tail, hs⟩)

/-- **Indirect stream objects, every spelling** -/
theorem indirect_stream_complete {d : Nat} {es : List (Bytes × Obj)} {ebs : Bytes} (n g : Nat)
    (sp0 d1 sp1 d2 sp2 sp3 sp sp5 bl e data e' tail : Bytes)
    (len : ObjId → Option Int) (expected : Option ObjId) (base : Nat)
    (hsp0 : DerivesSpace sp0) (h1 : DerivesNat n d1) (hn : n ≤ 4294967295) (hs1 : IsGap sp1)
    (h2 : DerivesNat g d2) (hg : g ≤ 65535) (hs2 : IsGap sp2) (hsp3 : DerivesSpace sp3)
    (hsp : DerivesSpace sp) (hes : DerivesEntries d es ebs) (hd : 1 + d ≤ MAX_NESTING)
    (hsp5 : DerivesSpace sp5) (hbl : ∀ b ∈ bl, (b == 32 || b == 9) = true) (he : IsStreamEol e)
    (hlen : (setEntries [] es).get LENGTH = some (.int data.length)) (he' : IsOptEol e')
    (hexp : ∀ x, expected = some x → x = (n, g)) :
    pIndirect len expected base
      (sp0 ++ (d1 ++ (sp1 ++ (d2 ++ (sp2 ++ (OBJ_KW ++ (sp3 ++
        ((60 :: 60 :: sp ++ ebs ++ [62, 62]) ++ (sp5 ++ (STREAM_KW ++ (bl ++ (e ++ (data ++ (e' ++ (ENDSTREAM_KW ++ tail))))))))))))))) =
      some ((n, g), .plain (.stream (setEntries [] es) data)) :=
  indirect_of_stream n g sp0 d1 sp1 d2 sp2 sp3 _ tail len expected base _ hsp0 h1 hn hs1 h2 hg hs2 hsp3
    (starts_cons rfl) hexp (stream_complete sp sp5 bl e data e' tail len hsp hes hd hsp5 hbl he hlen he')

end Lopdf.Grammar
