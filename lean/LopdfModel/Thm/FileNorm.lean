import LopdfModel.Thm.FileRt
/-
  Normal forms (real numbers) for the cross-reference-stream dictionary: the facts the readers
  need about `normD (streamTrailer pre d)` when the document's trailer contains real numbers.
-/
namespace Lopdf.FileRT
open Lopdf Gen Lopdf.ObjRt

theorem norm_intArr (l : List Obj) (h : IntArr l) : norm (.arr l) = .arr l := norm_noReal _ (intArr_ok l h).2.2

theorem normD_streamTrailer_facts (pre : Bytes) (d : SDoc) (hnd : d.trailer.keys.Nodup)
    (hmax : d.maxId + 2 ≤ 4294967295) (hg : GensOk d) :
    Dict.has (normD (streamTrailer pre d)) FILTER = false ∧
    Dict.get (normD (streamTrailer pre d)) SIZE = some (.int ((d.maxId + 1 + 1 : Nat) : Int)) ∧
    Dict.get (normD (streamTrailer pre d)) INDEX = some (xrefStreamIndex (streamSecs (xmapStream pre d) (d.maxId + 1))) ∧
    Dict.get (normD (streamTrailer pre d)) W_KEY = some (.arr (XREF_W.map fun (w : Nat) => Obj.int (Int.ofNat w))) ∧
    Dict.get (normD (streamTrailer pre d)) LENGTH
      = some (.int (xrefStreamContent (streamSecs (xmapStream pre d) (d.maxId + 1))).length) ∧
    Dict.get (normD (streamTrailer pre d)) TYPE = some (.name XREF_NAME) := by
  obtain ⟨l, hl, hli⟩ := index_intArr pre d hmax hg
  refine ⟨?_, ?_, ?_, ?_, ?_, ?_⟩
  · rw [Dict.has_eq, normD_get, streamTrailer_get pre d hnd]; rfl
  · rw [normD_get, streamTrailer_get pre d hnd]; rfl
  · rw [normD_get, streamTrailer_get pre d hnd]
    show (some (xrefStreamIndex _)).map norm = _
    rw [Option.map_some, hl, norm_intArr l hli]
  · rw [normD_get, streamTrailer_get pre d hnd]
    show (some (Obj.arr _)).map norm = _
    rw [Option.map_some, norm_intArr _ w_intArr]
  · rw [normD_get, streamTrailer_get pre d hnd]; rfl
  · rw [normD_get, streamTrailer_get pre d hnd]; rfl

end Lopdf.FileRT
