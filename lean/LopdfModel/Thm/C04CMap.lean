import LopdfModel.Thm.C15
import LopdfModel.Model.CMapParse
import LopdfModel.Lemmas.Outcome
/-
  The ToUnicode CMap layer never panics — on ANY input.

  `Thm/C15.lean` proves `cmap_get_no_panic` for the definition lists `from_sections` is meant for
  (code length 1..4, `lo ≤ hi`, at least one target). This file removes the hypotheses: for EVERY
  list of sections `from_sections` accepts — hence for every byte string given to
  `ToUnicodeCMap::parse` — and every code of every length `get` does not panic, and therefore
  `Encoding::bytes_to_string` (segmentation loop + UTF-16 decoding) does not panic on any shown
  bytes. Used by C04 (untrusted bytes) and C13 (`extract_text`).

  * definitions with an unusable code length are ignored by `put` (`buildFrom_filter`);
  * a `bfrange` line with `end < start` or without targets makes `from_sections` fail
    (`fromSectionsFrom_rangeOk`), so every definition that reaches `put` has `lo ≤ hi`;
  * the rest is `build_val` + `targetAt_stored_no_panic` of C15.
-/
namespace Lopdf.CMap
open Lopdf Lopdf.Gen Lopdf.CMapSpec

theorem putRangeLine_rangeOk {m m' : UMap} {lo hi l : Nat} {dsts : List (List Nat)}
    (h : putRangeLine m ((lo, hi, l), dsts) = some m') : lo ≤ hi ∧ dsts ≠ [] := by
  refine ⟨Nat.le_of_not_lt fun hlt => ?_, fun hd => ?_⟩
  · unfold putRangeLine at h; simp only [if_pos hlt] at h; cases h
  · subst hd; unfold putRangeLine at h; dsimp only at h; split at h <;> cases h

theorem putRangeLines_rangeOk : ∀ (ms : List ((Nat × Nat × Nat) × List (List Nat))) (m m' : UMap),
    putRangeLines m ms = some m' → ∀ d ∈ defsOfRanges ms, rangeOk d
  | [], _, _, _ => List.forall_mem_nil _
  | ((lo, hi, l), dsts) :: rest, m, m', h => by
    rw [putRangeLines] at h
    split at h
    · cases h
    · rename_i m1 hl
      exact List.forall_mem_cons.mpr ⟨putRangeLine_rangeOk hl, putRangeLines_rangeOk rest m1 m' h⟩

theorem fromSectionsFrom_rangeOk : ∀ (ss : List Section) (m m' : UMap),
    fromSectionsFrom m ss = some m' → ∀ d ∈ defsOf ss, rangeOk d
  | [], _, _, _ => List.forall_mem_nil _
  | .csRange _ :: ss, m, m', h => fromSectionsFrom_rangeOk ss m m' h
  | .bfChar ms :: ss, m, m', h =>
    -- nothing is asked of a `bfchar` line
    List.forall_mem_append.mpr ⟨fun d hd => by obtain ⟨_, -, rfl⟩ := List.mem_map.mp hd; trivial,
      fromSectionsFrom_rangeOk ss _ m' h⟩
  | .bfRange ms :: ss, m, m', h => by
    rw [fromSectionsFrom] at h
    split at h
    · cases h
    · rename_i m1 hr
      exact List.forall_mem_append.mpr ⟨putRangeLines_rangeOk ms m m1 hr, fromSectionsFrom_rangeOk ss m1 m' h⟩

theorem buildFrom_filter : ∀ (ds : List Def) (m : UMap),
    buildFrom m ds = buildFrom m (ds.filter fun d => !badLen d.len)
  | [], _ => rfl
  | d :: rest, m => by
    rw [List.filter_cons]
    cases hb : badLen d.len with
    | false => exact buildFrom_filter rest _
    | true =>
      have : putDef m d = m := by simp [putDef, put, hb]
      rw [buildFrom, this]
      exact buildFrom_filter rest m

theorem get_build_no_panic (ds : List Def) (hok : ∀ d ∈ ds, putOk d) (c l : Nat) :
    (get (buildFrom UMap.empty ds) c l).isPanic = false := by
  rw [get_build ds hok]
  cases hl : lastCovering ds c l with
  | none => rfl
  | some D => exact targetAt_stored_no_panic D c (lastCovering_some hl).2.2.1

/-- **`ToUnicodeCMap::get` never panics** — for EVERY list of sections `from_sections` accepts (no
hypothesis on code lengths, ranges or targets) and every code of every length -/
theorem cmap_get_never_panics (ss : List Section) (m : UMap) (h : fromSections ss = some m) (c l : Nat) :
    (get m c l).isPanic = false := by
  have hr := fromSectionsFrom_rangeOk ss UMap.empty m h
  obtain rfl : buildFrom UMap.empty (defsOf ss) = m := Option.some.inj ((fromSections_ok ss hr).symm.trans h)
  rw [buildFrom_filter]
  refine get_build_no_panic _ (fun d hd => ?_) c l
  obtain ⟨hmem, hg⟩ := List.mem_filter.mp hd
  have hlen : 1 ≤ d.len ∧ d.len ≤ 4 := Decidable.by_contra fun hn => by simp [badLen_true hn] at hg
  refine ⟨?_, hlen⟩
  cases d with
  | char c l dst => exact Nat.le_refl _
  | range lo hi l dsts => exact (hr _ hmem).1

/-! the segmentation loop panics only where `get` does -/

/-- the four-way match on the result of `get`, as `get_or_replacement_char` and the loop body have it -/
theorem get_cases_no_panic {α} (m : UMap) (hg : ∀ c l s, get m c l ≠ .panic s) (c l : Nat)
    (f : List Nat → α) (g : α) (s : String) :
    (match get m c l with
      | .ok (some v) => (Outcome.ok (f v) : Outcome α)
      | .ok none => .ok g
      | .err e => .err e
      | .panic s => .panic s) ≠ .panic s := by
  cases h : get m c l with
  | ok v => cases v <;> nofun
  | err e => nofun
  | panic s' => exact absurd h (hg c l s')

theorem getOrReplacement_no_panic (m : UMap) (hg : ∀ c l s, get m c l ≠ .panic s) (c l : Nat) (s : String) :
    getOrReplacement m c l ≠ .panic s :=
  get_cases_no_panic m hg c l id _ s

theorem segStep_no_panic (m : UMap) (hg : ∀ c l s, get m c l ≠ .panic s) (st : Nat × Nat) (b : Nat) (s : String) :
    segStep m st b ≠ .panic s := by
  obtain ⟨n, code⟩ := st
  unfold segStep
  dsimp only
  -- first the flush of an unmatched four-byte code, then the look-up of the extended code
  by_cases hn : n = CMAP_SEG_MAX
  · rw [if_pos hn]
    cases h : getOrReplacement m code CMAP_SEG_MAX with
    | ok v => exact get_cases_no_panic m hg _ _ _ _ s
    | err e => nofun
    | panic s' => exact absurd h (getOrReplacement_no_panic m hg _ _ s')
  · rw [if_neg hn]; exact get_cases_no_panic m hg _ _ _ _ s

theorem segLoop_no_panic (m : UMap) (hg : ∀ c l s, get m c l ≠ .panic s) (s : String) :
    ∀ (bs : List Nat) (st : Nat × Nat), segLoop m st bs ≠ .panic s
  | [], (n, code) => by
    unfold segLoop
    exact Outcome.ite_ne_panic (getOrReplacement_no_panic m hg code n s) nofun
  | b :: rest, st => by
    unfold segLoop
    cases hs : segStep m st b with
    | ok p =>
      have h2 := segLoop_no_panic m hg s rest p.1
      dsimp only
      cases hr : segLoop m p.1 rest with
      | ok v => nofun
      | err e => nofun
      | panic s' => intro h; cases h; exact h2 hr
    | err e => nofun
    | panic s' => exact absurd hs (segStep_no_panic m hg st b s')

/-- `Encoding::UnicodeMapEncoding(..).bytes_to_string` up to the UTF-16 decoding -/
theorem bytesToUnits_no_panic (m : UMap) (hg : ∀ c l, (get m c l).isPanic = false) (bs : List Nat) (s : String) :
    bytesToUnits m bs ≠ .panic s :=
  segLoop_no_panic m (fun c l => Outcome.isPanic_eq_false_iff.mp (hg c l)) s bs (0, 0)

/-- `ToUnicodeCMap::parse` followed by `Encoding::UnicodeMapEncoding(..).bytes_to_string`:
`none`/`err` = `Err`, `ok` = the decoded scalar values -/
def parseAndDecode (cmapText shown : Bytes) : Outcome (List Nat) :=
  match (parseCMap cmapText).bind fromSections with
  | none => .err "cmap"
  | some m => (bytesToUnits m (shown.map UInt8.toNat)).map decodeUnits

/-- **the CMap layer never panics**: for EVERY byte string as the text of a /ToUnicode stream and
EVERY byte string as shown text, parsing the CMap, building the maps and decoding the text
(segmentation, `get`, `get_or_replacement_char`, UTF-16 decoding) returns a value or an error. -/
theorem cmap_layer_never_panics (cmapText shown : Bytes) (s : String) :
    parseAndDecode cmapText shown ≠ .panic s := by
  unfold parseAndDecode
  split
  · nofun
  · rename_i m hm
    obtain ⟨ss, -, hm⟩ := Option.bind_eq_some_iff.mp hm
    exact Outcome.map_ne_panic (bytesToUnits_no_panic m (cmap_get_never_panics ss m hm) _ s)

end Lopdf.CMap
