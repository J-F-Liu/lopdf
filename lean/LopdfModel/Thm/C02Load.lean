import LopdfModel.Model.Read
import LopdfModel.Lemmas.Dict
import LopdfModel.Lemmas.XTable
/-
  C02 — the vocabulary in which the theorems about `Reader::read` name its result: the object of a
  loaded entry, the `BTreeMap` built from the loaded pairs, the binary mark the reader records.
-/
namespace Lopdf.Grammar
open Lopdf Gen

/-- the object of a fully loaded entry -/
def unplain : LObj → Obj
  | .plain o => o
  | .pending d _ => .stream d []

def AllPlain (os : LObjects) : Prop := ∀ p ∈ os, ∃ o, p.2 = .plain o

/-- `BTreeMap<ObjectId, Object>` from the loaded pairs -/
def asObjects (l : List (ObjId × Obj)) : Objects :=
  l.foldr (fun (p : ObjId × Obj) acc => insertSortedO p.1 p.2 acc) []

/-- the binary mark `Reader::read` records (second line of the file when it is a comment of
bytes ≥ 128) -/
def markOf (buf : Bytes) : Bytes :=
  match findFrom [10] (buf.length + 1) buf 0 with
  | some pos =>
    (match pBinaryMark (buf.drop (pos + 1)) with
     | some m => if m.all (fun b => b ≥ 128) then m else DEFAULT_MARK
     | none => DEFAULT_MARK)
  | none => DEFAULT_MARK

theorem pendingIds_allPlain (os : LObjects) (h : AllPlain os) : pendingIds os = [] := by
  unfold pendingIds
  rw [List.filterMap_eq_nil_iff]
  intro p hp
  obtain ⟨o, ho⟩ := h p hp
  simp [ho]

end Lopdf.Grammar
