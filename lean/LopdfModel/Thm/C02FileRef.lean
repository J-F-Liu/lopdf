import LopdfModel.Thm.C02FileObjStm
import LopdfModel.Thm.C02FileStm
/-
  C02 — WHOLE FILES of one revision: a header, any body, the cross-reference section (a table
  with its trailer, or an `/XRef` stream object) and a `startxref` section, each in every spelling
  the grammars allow.  If every binding of the section is defined by the file at the bound offset,
  the file loads (model `loadDoc` of `Reader::read`) to exactly the document it defines.  Each of
  the four theorems is `loadDoc_of_binding` or `loadDoc_of_defined` with the frame (`header_found`) and the last section
  (`tableFile_parts` / `streamFile_parts`) put in.  `loadDoc_complete_table` and
  `loadDoc_complete_objstm` take the bindings in the general sense of `BindingDefined` (ordinary
  objects, streams with an INDIRECT `Length` resolved through the same map, object-stream
  containers), `loadDoc_complete` and `loadDoc_complete_stream` in the sense of `DefinesAt`.
-/
namespace Lopdf.Grammar
open Lopdf Gen

/-- **Whole files (table style, one revision), general bindings** — `loadDoc_complete` with
`BindingDefined` instead of `DefinesAt`: a stream may carry its `Length` as a reference to an
integer object of the same file (then the loaded dictionary has the resolved number as a direct
`Length`, as `Reader::read` stores it). -/
theorem loadDoc_complete_table {d : Nat} {es : List (Bytes × Obj)} {ebs : Bytes} (ver e0 body : Bytes)
    (secs : List TSub) (xb sp0 sp sp1 e1 s1 ds s2 e2 post : Bytes) (size : Int) (val : Nat → Nat × Obj) (cont : Nat → List (Nat × Obj))
    (hv : ∀ b ∈ ver, b < 128 ∧ notEol b = true) (he0 : IsEol e0)
    (hx : DerivesXrefTable secs xb) (hsp0 : DerivesSpace sp0) (hsp : DerivesSpace sp)
    (hes : DerivesEntries d es ebs) (hd : 1 + d ≤ MAX_NESTING) (hsp1 : DerivesSpace sp1)
    (hsize : (setEntries [] es).get SIZE = some (.int size)) (hprev : (setEntries [] es).get PREV = none)
    (henc : (setEntries [] es).get ENCRYPT = none)
    (he1 : IsEol e1) (hs1 : AllSp s1) (hds : DerivesNat (PDF_KW ++ (ver ++ (e0 ++ body))).length ds)
    (hs2 : AllSp s2) (he2 : IsEol e2) (hpost : IsFileEnd post)
    (hshort : (STARTXREF ++ (e1 ++ (s1 ++ (ds ++ (s2 ++ e2))))).length ≤ 25)
    (hmax : (tableOf secs).maxId + 1 < 4294967296)
    (file : Bytes)
    (hfile : file = (PDF_KW ++ (ver ++ (e0 ++ body))) ++ (xb ++ (TRAILER_KW ++ (sp0 ++
      ((60 :: 60 :: sp ++ ebs ++ [62, 62]) ++ (sp1 ++ (STARTXREF ++ (e1 ++ (s1 ++ (ds ++ (s2 ++ (e2 ++
        (EOF_MARK ++ post)))))))))))))
    (hdef : ∀ k e, (tableOf secs).get k = some e → BindingDefined file (tableOf secs) val cont k e)
    (hcont : ∀ k, (∀ off g, (tableOf secs).get k ≠ some (.normal off g)) → cont k = [])
    (hlisted : ∀ k, ∀ p ∈ cont k, ∃ i, (tableOf secs).get p.1 = some (.compressed k i)) :
    ∃ L, loadDoc file = .ok L ∧ L.version = ver ∧ L.trailer = setEntries [] es ∧
      L.xrefStart = (PDF_KW ++ (ver ++ (e0 ++ body))).length ∧ L.maxId = (tableOf secs).maxId ∧
      ∀ id : ObjId, L.objects.get id = definedObject (tableOf secs) val cont id :=
  loadDoc_of_binding file ver _ _ _ _ val cont (header_found ver e0 body _ hv he0 file hfile)
    (tableFile_parts secs _ xb sp0 sp _ sp1 e1 s1 ds s2 e2 post size (pdfHead_length _) hx hsp0 hsp hes rfl hd hsp1 hsize
      he1 hs1 hds hs2 he2 hpost hshort file hfile)
    hprev henc hmax hdef hcont hlisted

/-- **Whole files (table style, one revision), every spelling.**
The file: `%PDF-` version EOL, ANY body, a cross-reference table (`DerivesXrefTable`), `trailer`
and its dictionary (`DerivesEntries`, with an integer `Size`, no `Prev`, no `Encrypt`), the
`startxref` section stating the offset of the table, `%%EOF`.  If every object number the table
binds (`tableOf secs`, by `tableOf_get` the last in-use line for the number) is DEFINED by the
file at the bound offset (`DefinesAt`: an indirect object in any spelling, value `val k`), then
`Reader::read` (model `loadDoc`) succeeds and the loaded document has the version text, the
trailer dictionary, the `startxref` offset, and EXACTLY the objects the file defines: each bound
number loads to its object, every other id is absent. -/
theorem loadDoc_complete {d : Nat} {es : List (Bytes × Obj)} {ebs : Bytes} (ver e0 body : Bytes)
    (secs : List TSub) (xb sp0 sp sp1 e1 s1 ds s2 e2 post : Bytes) (size : Int) (val : Nat → Nat × Obj)
    (hv : ∀ b ∈ ver, b < 128 ∧ notEol b = true) (he0 : IsEol e0)
    (hx : DerivesXrefTable secs xb) (hsp0 : DerivesSpace sp0) (hsp : DerivesSpace sp)
    (hes : DerivesEntries d es ebs) (hd : 1 + d ≤ MAX_NESTING) (hsp1 : DerivesSpace sp1)
    (hsize : (setEntries [] es).get SIZE = some (.int size)) (hprev : (setEntries [] es).get PREV = none)
    (henc : (setEntries [] es).get ENCRYPT = none)
    (he1 : IsEol e1) (hs1 : AllSp s1) (hds : DerivesNat (PDF_KW ++ (ver ++ (e0 ++ body))).length ds)
    (hs2 : AllSp s2) (he2 : IsEol e2) (hpost : IsFileEnd post)
    (hshort : (STARTXREF ++ (e1 ++ (s1 ++ (ds ++ (s2 ++ e2))))).length ≤ 25)
    (hmax : (tableOf secs).maxId + 1 < 4294967296)
    (file : Bytes)
    (hfile : file = (PDF_KW ++ (ver ++ (e0 ++ body))) ++ (xb ++ (TRAILER_KW ++ (sp0 ++
      ((60 :: 60 :: sp ++ ebs ++ [62, 62]) ++ (sp1 ++ (STARTXREF ++ (e1 ++ (s1 ++ (ds ++ (s2 ++ (e2 ++
        (EOF_MARK ++ post)))))))))))))
    (hdef : ∀ k e, (tableOf secs).get k = some e →
      ∃ off, e = .normal off (val k).1 ∧ DefinesAt file off k (val k).1 (val k).2) :
    ∃ L, loadDoc file = .ok L ∧ L.version = ver ∧ L.trailer = setEntries [] es ∧
      L.xrefStart = (PDF_KW ++ (ver ++ (e0 ++ body))).length ∧ L.maxId = (tableOf secs).maxId ∧
      (∀ k e, (tableOf secs).get k = some e → L.objects.get (k, (val k).1) = some (val k).2) ∧
      (∀ id : ObjId, ((tableOf secs).get id.1 = none ∨ id.2 ≠ (val id.1).1) → L.objects.get id = none) := by
  obtain ⟨g0, g1⟩ := header_found ver e0 body _ hv he0 file hfile
  obtain ⟨g2, g2', g3⟩ := tableFile_parts secs _ xb sp0 sp _ sp1 e1 s1 ds s2 e2 post size (pdfHead_length _)
    hx hsp0 hsp hes rfl hd hsp1 hsize he1 hs1 hds hs2 he2 hpost hshort file hfile
  exact loadDoc_of_defined file ver _ _ _ _ val g0 g1 g2 g2' g3 hprev henc hmax hdef

/-- **Whole files (cross-reference-stream style, one revision, no object streams), every
spelling.**  The file: `%PDF-` version EOL, ANY body, an `/XRef` stream object in any spelling of
the indirect-object grammar — dictionary with integer `Size`, `W [w1 w2 w3]` (any widths, not all
zero), `Index` naming the subsections (or absent), no `Filter`, no `Prev`, no `Encrypt`; data =
the reference encoding of well-formed rows of ANY type —, ANY bytes (`sp7`), the
`startxref` section stating the offset of that object, `%%EOF`.  If every number the rows bind is
bound by a type-1 row and DEFINED by the file at the bound offset, `Reader::read` succeeds and
the document has the version text, the stream dictionary without `Length`/`W`/`Index` as its
trailer, and EXACTLY the objects the file defines. -/
theorem loadDoc_complete_stream {id : ObjId} {ibs : Bytes} (ver e0 body : Bytes) (dct : Dict) (size : Int)
    (w1 w2 w3 : Nat) (subs : List SSub) (sp7 e1 s1 ds s2 e2 post : Bytes) (val : Nat → Nat × Obj)
    (hv : ∀ b ∈ ver, b < 128 ∧ notEol b = true) (he0 : IsEol e0)
    (hX : DerivesIndirect id (.stream dct (encodeSubs w1 w2 w3 subs)) ibs)
    (hF : dct.has FILTER = false) (hS : dct.get SIZE = some (.int size))
    (hW : dct.get W_KEY = some (.arr [.int w1, .int w2, .int w3])) (hI : IndexDenotes dct size subs)
    (hok : SubsOk w1 w2 w3 subs) (hrows : 0 < totalRows subs) (hwid : 0 < w1 + w2 + w3)
    (hprev : (((dct.remove LENGTH).remove W_KEY).remove INDEX).get PREV = none)
    (henc : (((dct.remove LENGTH).remove W_KEY).remove INDEX).get ENCRYPT = none)
    (he1 : IsEol e1) (hs1 : AllSp s1) (hds : DerivesNat (PDF_KW ++ (ver ++ (e0 ++ body))).length ds)
    (hs2 : AllSp s2) (he2 : IsEol e2) (hpost : IsFileEnd post)
    (hshort : (STARTXREF ++ (e1 ++ (s1 ++ (ds ++ (s2 ++ e2))))).length ≤ 25)
    (hmax : (streamTableOf subs).maxId + 1 < 4294967296)
    (file : Bytes)
    (hfile : file = (PDF_KW ++ (ver ++ (e0 ++ body))) ++ (ibs ++ (sp7 ++ (STARTXREF ++ (e1 ++ (s1 ++ (ds ++
      (s2 ++ (e2 ++ (EOF_MARK ++ post))))))))))
    (hdef : ∀ k e, (streamTableOf subs).get k = some e →
      ∃ off, e = .normal off (val k).1 ∧ DefinesAt file off k (val k).1 (val k).2) :
    ∃ L, loadDoc file = .ok L ∧ L.version = ver ∧
      L.trailer = ((dct.remove LENGTH).remove W_KEY).remove INDEX ∧
      L.xrefStart = (PDF_KW ++ (ver ++ (e0 ++ body))).length ∧ L.maxId = (streamTableOf subs).maxId ∧
      (∀ k e, (streamTableOf subs).get k = some e → L.objects.get (k, (val k).1) = some (val k).2) ∧
      (∀ id : ObjId, ((streamTableOf subs).get id.1 = none ∨ id.2 ≠ (val id.1).1) → L.objects.get id = none) := by
  obtain ⟨g0, g1⟩ := header_found ver e0 body _ hv he0 file hfile
  obtain ⟨g2, g2', g3⟩ := streamFile_parts _ dct size w1 w2 w3 subs sp7 e1 s1 ds s2 e2 post (pdfHead_length _)
    hX hF hS hW hI hok hrows hwid he1 hs1 hds hs2 he2 hpost hshort file hfile
  exact loadDoc_of_defined file ver _ _ _ _ val g0 g1 g2 g2' g3 hprev henc hmax hdef

/-- **Whole files with object streams (cross-reference-stream style, one revision), every
spelling.**  As `loadDoc_complete_stream`, with rows of type 2 as well: every type-1 binding
is defined by the file at its offset, either as an ordinary object (`DefinesAt`) or as an
object-stream container (`DefinesContainerAt`: unfiltered `/ObjStm` whose content derives from the
object-stream grammar, members `cont k`); every member of a container is listed by a type-2 row
naming that container.  Then `Reader::read` succeeds and the document contains EXACTLY
(`definedObject`): under `(k, g)` the object a type-1 row defines, under `(k, 0)` the member
numbered `k` of the container a type-2 row names — and nothing else. -/
theorem loadDoc_complete_objstm {id : ObjId} {ibs : Bytes} (ver e0 body : Bytes) (dct : Dict) (size : Int)
    (w1 w2 w3 : Nat) (subs : List SSub) (sp7 e1 s1 ds s2 e2 post : Bytes) (val : Nat → Nat × Obj)
    (cont : Nat → List (Nat × Obj))
    (hv : ∀ b ∈ ver, b < 128 ∧ notEol b = true) (he0 : IsEol e0)
    (hX : DerivesIndirect id (.stream dct (encodeSubs w1 w2 w3 subs)) ibs)
    (hF : dct.has FILTER = false) (hS : dct.get SIZE = some (.int size))
    (hW : dct.get W_KEY = some (.arr [.int w1, .int w2, .int w3])) (hI : IndexDenotes dct size subs)
    (hok : SubsOk w1 w2 w3 subs) (hrows : 0 < totalRows subs) (hwid : 0 < w1 + w2 + w3)
    (hprev : (((dct.remove LENGTH).remove W_KEY).remove INDEX).get PREV = none)
    (henc : (((dct.remove LENGTH).remove W_KEY).remove INDEX).get ENCRYPT = none)
    (he1 : IsEol e1) (hs1 : AllSp s1) (hds : DerivesNat (PDF_KW ++ (ver ++ (e0 ++ body))).length ds)
    (hs2 : AllSp s2) (he2 : IsEol e2) (hpost : IsFileEnd post)
    (hshort : (STARTXREF ++ (e1 ++ (s1 ++ (ds ++ (s2 ++ e2))))).length ≤ 25)
    (hmax : (streamTableOf subs).maxId + 1 < 4294967296)
    (file : Bytes)
    (hfile : file = (PDF_KW ++ (ver ++ (e0 ++ body))) ++ (ibs ++ (sp7 ++ (STARTXREF ++ (e1 ++ (s1 ++ (ds ++
      (s2 ++ (e2 ++ (EOF_MARK ++ post))))))))))
    (hdef : ∀ k e, (streamTableOf subs).get k = some e → BindingDefined file (streamTableOf subs) val cont k e)
    (hcont : ∀ k, (∀ off g, (streamTableOf subs).get k ≠ some (.normal off g)) → cont k = [])
    (hlisted : ∀ k, ∀ p ∈ cont k, ∃ i, (streamTableOf subs).get p.1 = some (.compressed k i)) :
    ∃ L, loadDoc file = .ok L ∧ L.version = ver ∧
      L.trailer = ((dct.remove LENGTH).remove W_KEY).remove INDEX ∧
      L.xrefStart = (PDF_KW ++ (ver ++ (e0 ++ body))).length ∧ L.maxId = (streamTableOf subs).maxId ∧
      ∀ id : ObjId, L.objects.get id = definedObject (streamTableOf subs) val cont id :=
  loadDoc_of_binding file ver _ _ _ _ val cont (header_found ver e0 body _ hv he0 file hfile)
    (streamFile_parts _ dct size w1 w2 w3 subs sp7 e1 s1 ds s2 e2 post (pdfHead_length _)
      hX hF hS hW hI hok hrows hwid he1 hs1 hds hs2 he2 hpost hshort file hfile)
    hprev henc hmax hdef hcont hlisted

end Lopdf.Grammar
