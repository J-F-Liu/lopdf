import LopdfModel.Thm.C08
import LopdfModel.Thm.ReadG
/-
  C08 at the level of `Reader::read`, with filtered structural streams (and the exact treatment of
  deferred object-stream containers) in the model: `loadDocWithG sd`, for EVERY structural-stream
  decoder `sd`, is independent of the order in which the object-stream blocks arrive and of the
  order in which the deferred streams are completed. Instances: `plainDec` (= `loadDocWith`,
  `load_schedule_independent`) and `flateDec` — the reader the driver runs against lopdf under
  every hook order and on thread pools of 1..16 threads.
-/
namespace Lopdf
open Gen

theorem loadStepG_blocks_step (sd : StructDec) (buf : Bytes) (x : XTable) (n : Nat) (e : Nat × XEntry)
    (acc : Outcome (LObjects × List Block)) (p q : LObjects × List Block) (hacc : acc = .ok p)
    (h : loadStepG sd buf x n acc e = .ok q) : q.2 = p.2 ∨ ∃ objs, q.2 = p.2 ++ [(e.1, objs)] := by
  revert hacc h
  fun_cases loadStepG sd buf x n acc e <;> intro hacc h <;> cases hacc <;> cases h
  -- the two branches that append a block: object stream container (3), deferred stream completed (9)
  case case3 | case9 => exact Or.inr ⟨_, rfl⟩
  all_goals exact Or.inl rfl

theorem loadStepG_blocks (sd : StructDec) (buf : Bytes) (x : XTable) (n : Nat) (l : XTable) (p q : LObjects × List Block)
    (h : l.foldl (loadStepG sd buf x n) (.ok p) = .ok q) :
    ∃ ks, q.2.map (·.1) = p.2.map (·.1) ++ ks ∧ ks.Sublist (l.map (·.1)) := by
  refine Outcome.foldl_ok_induction (loadStepG_strict sd buf x n)
    (fun pre q => ∃ ks, q.2.map (·.1) = p.2.map (·.1) ++ ks ∧ ks.Sublist (pre.map (·.1)))
    ?_ l (pre := []) ⟨[], by simp, List.Sublist.refl _⟩ h
  rintro pre a e a' ⟨ks, hk, hs⟩ he
  rcases loadStepG_blocks_step sd buf x n e _ a a' rfl he with h1 | ⟨objs, h1⟩ <;> rw [h1]
  · exact ⟨ks, hk, hs.trans (by simp)⟩
  · exact ⟨ks ++ [e.1], by simp [hk], by simpa using hs.append (List.Sublist.refl [e.1])⟩

theorem fromStmG_keys_nodup (sd : StructDec) (buf : Bytes) (x : XTable) (n : Nat) (os : LObjects) (fs : List Block)
    (h : (x.sorted).foldl (loadStepG sd buf x n) (.ok ([], [])) = .ok (os, fs)) : DistinctKeys fs := by
  obtain ⟨ks, hk, hs⟩ := loadStepG_blocks sd buf x n _ _ _ h
  rw [DistinctKeys, hk]
  exact ((sorted_keys_lt x).sublist hs).imp Nat.ne_of_lt

/-- what the schedule can change does not change the objects: sorting erases the arrival order of
blocks with distinct keys, and the completion steps commute -/
theorem mergeAndComplete_schedule_independent (arr : List Block → List Block) (arr2 : List ObjId → List ObjId)
    (harr : ∀ bs, (arr bs).Perm bs) (harr2 : ∀ ids, (arr2 ids).Perm ids)
    (buf : Bytes) (x : XTable) (os : LObjects) (fs : List Block) (hd : DistinctKeys fs) :
    mergeAndComplete arr arr2 buf x os fs = mergeAndComplete id id buf x os fs := by
  unfold mergeAndComplete
  rw [← merge_schedule_independent x os fs (arr fs) (harr fs).symm hd]
  exact complete_order_irrelevant buf _ _ _ (harr2 _)

theorem readObjects_schedule_independent (sd : StructDec) (arr : List Block → List Block) (arr2 : List ObjId → List ObjId)
    (harr : ∀ bs, (arr bs).Perm bs) (harr2 : ∀ ids, (arr2 ids).Perm ids)
    (buf version mark : Bytes) (xs : Nat) (x : XTable) (tr : Dict) :
    readObjects sd arr arr2 buf version mark xs x tr = readObjects sd id id buf version mark xs x tr := by
  unfold readObjects
  split
  · rfl
  · split
    · rfl
    · refine Outcome.bind_congr fun r hr => ?_
      rw [mergeAndComplete_schedule_independent arr arr2 harr harr2 buf x r.1 r.2
        (fromStmG_keys_nodup sd buf x _ r.1 r.2 hr)]

/-- **Schedule independence of `Reader::read`, any structural-stream decoder.** -/
theorem loadG_schedule_independent (sd : StructDec) (arr : List Block → List Block) (arr2 : List ObjId → List ObjId)
    (harr : ∀ bs, (arr bs).Perm bs) (harr2 : ∀ ids, (arr2 ids).Perm ids)
    (file : Bytes) : loadDocWithG sd arr arr2 file = loadDocWithG sd id id file := by
  rcases loadDocWithG_front file with ⟨e, he⟩ | ⟨buf, version, mark, xs, hb⟩
  · rw [he, he]
  · rw [hb, hb]
    exact Outcome.bind_congr fun _ _ => Outcome.bind_congr fun _ _ =>
      readObjects_schedule_independent sd arr arr2 harr harr2 ..

theorem fromStm_keys_nodup (buf : Bytes) (x : XTable) (n : Nat) (os : LObjects) (fs : List Block)
    (h : (x.sorted).foldl (loadStep buf x n) (.ok ([], [])) = .ok (os, fs)) : DistinctKeys fs :=
  fromStmG_keys_nodup plainDec buf x n os fs (loadStepG_plain_fun buf x n ▸ h)

/-- **Schedule independence of `Reader::read`.** Whatever order the per-container blocks arrive
in and whatever order the deferred streams are completed in — `arr` and `arr2` are ANY functions
that permute them — the loaded document is the document of the sequential reader. -/
theorem load_schedule_independent (arr : List Block → List Block) (arr2 : List ObjId → List ObjId)
    (harr : ∀ bs, (arr bs).Perm bs) (harr2 : ∀ ids, (arr2 ids).Perm ids)
    (file : Bytes) : loadDocWith arr arr2 file = loadDocWith id id file := by
  rw [← loadDocWithG_plain, ← loadDocWithG_plain]
  exact loadG_schedule_independent plainDec arr arr2 harr harr2 file

/-- every arrival order (hook H1) and every completion order (hook H2) loads the document of the sequential reader -/
theorem load_order_irrelevant (order : Option (List Nat)) (zero : Option Nat) (file : Bytes) :
    loadDocOrd2 order zero file = loadDoc file := by
  unfold loadDoc loadDocOrd loadDocOrd2
  apply load_schedule_independent
  · intro bs; cases order with
    | none => exact List.Perm.refl _
    | some p => exact permuteBlocks_perm bs p
  · intro ids; cases zero with
    | none => exact List.Perm.refl _
    | some k => exact reorderZero_perm k ids

/-- **C08 for the reader the driver runs** (Flate / LZW / ASCII85-coded cross-reference streams and
object streams decoded inside the model): every order of the hook H1 and every rotation / reversal
of the hook H2 give the sequential reader's document, for every byte string. -/
theorem loadF_schedule_independent (order : List Nat) (k : Nat) (file : Bytes) :
    loadDocF2 (some order) (some k) file = loadDocF2 none none file := by
  unfold loadDocF2
  exact loadG_schedule_independent flateDec _ _ (fun bs => permuteBlocks_perm bs order) (fun ids => reorderZero_perm k ids) file

end Lopdf
