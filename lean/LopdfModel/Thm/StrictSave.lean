import LopdfModel.Lemmas.StrictBasic
/-
  C03 — what the strict reader (`Spec/Strict.lean`) finds in the two parts every save has in common
  with a classic-table save: the cross-reference table `write_xref` wrote (R2, R3) and the object
  area (R5, R6) — the tiling walk visits exactly the objects written, whose entries are exactly
  what the writer's map records.
-/
namespace Lopdf.Strict
open Lopdf Gen Lopdf.FileRT Lopdf.ObjRt

theorem padZero_field (w n : Nat) (hw : 1 ≤ w) (hn : n < 10 ^ w) :
    (padZero w (natDigits n)).length = w ∧ (padZero w (natDigits n)).all isDig = true ∧
      digitsVal (padZero w (natDigits n)) = n :=
  ⟨padZero_length w _ (natDigits_length_le w n hw hn), List.all_eq_true.mpr fun b hb => padZero_digits w n b hb,
    by rw [padZero, digitsVal_zeros, digitsVal_natDigits]⟩

/-- R2: a line `dddddddddd ddddd k` SP LF with `k` one of `n`, `f` is a table entry -/
theorem tableEntry_fields (d1 d2 : Bytes) (k : UInt8) (r : Bytes) (l1 : d1.length = 10) (l2 : d2.length = 5)
    (a1 : d1.all isDig = true) (a2 : d2.all isDig = true) (hk : k = 110 ∨ k = 102) :
    tableEntry (d1 ++ 32 :: (d2 ++ 32 :: k :: 32 :: 10 :: r)) = some ((digitsVal d1, digitsVal d2, k == 110), r) := by
  unfold tableEntry
  simp only [List.take_left' l1, List.drop_left' l1, List.take_left' l2, List.drop_left' l2, l1, l2, a1, a2]
  rcases hk with rfl | rfl <;> rfl

theorem tableEntry_line (e : Option (Nat × Nat)) (rest : Bytes) (h : EntryOk e) :
    tableEntry (xrefEntryLine e ++ rest) = some (entryParsed e, rest) := by
  have key : ∀ (off g : Nat) (k : UInt8), off < 4294967296 → g < 65536 → (k = 110 ∨ k = 102) →
      tableEntry (padZero 10 (natDigits off) ++ (32 :: (padZero 5 (natDigits g) ++ (32 :: k :: 32 :: 10 :: rest))))
        = some ((off, g, k == 110), rest) := by
    intro off g k ho hg hk
    obtain ⟨l10, d10, v10⟩ := padZero_field 10 off (by omega) (by omega)
    obtain ⟨l5, d5, v5⟩ := padZero_field 5 g (by omega) (by omega)
    rw [tableEntry_fields _ _ k rest l10 l5 d10 d5 hk, v10, v5]
  cases e with
  | none => simpa [xrefEntryLine, entryParsed] using key 0 65535 102 (by omega) (by omega) (Or.inr rfl)
  | some p =>
    obtain ⟨off, g⟩ := p
    simpa [xrefEntryLine, entryParsed] using key off g 110 h.1 h.2 (Or.inl rfl)

theorem tableEntries_free {c num off gen : Nat} {s r : Bytes} {acc : List Entry}
    (h : tableEntry s = some ((off, gen, false), r)) :
    tableEntries (c + 1) num s acc = tableEntries c (num + 1) r acc := by
  simp [tableEntries, h]

theorem tableEntries_used {c num off gen : Nat} {s r : Bytes} {acc : List Entry}
    (h : tableEntry s = some ((off, gen, true), r)) (hg : gen ≤ 65535) (hn : hasNum acc num = false) :
    tableEntries (c + 1) num s acc = tableEntries c (num + 1) r (acc ++ [(num, off, gen)]) := by
  simp [tableEntries, h, Nat.not_lt.mpr hg, hn]

/-- the in-use assignments as strict entries -/
def inUse : List (Nat × Option (Nat × Nat)) → List Entry
  | [] => []
  | (k, some (off, g)) :: rest => (k, off, g) :: inUse rest
  | (_, none) :: rest => inUse rest

theorem inUse_append (a b : List (Nat × Option (Nat × Nat))) : inUse (a ++ b) = inUse a ++ inUse b := by
  induction a with
  | nil => rfl
  | cons p rest ih =>
    obtain ⟨k, e⟩ := p
    cases e with
    | none => simp [inUse, ih]
    | some v => obtain ⟨off, g⟩ := v; simp [inUse, ih]

/-- one subsection; `Ltail` = the assignments still to come -/
theorem tableEntries_lines : ∀ (es : List (Option (Nat × Nat))) (s : Nat) (rest : Bytes) (acc : List Entry)
    (Ltail : List (Nat × Option (Nat × Nat))),
    (∀ e ∈ es, EntryOk e) → Fresh acc (assignsFrom s es ++ Ltail) →
    tableEntries es.length s ((es.map xrefEntryLine).flatten ++ rest) acc
        = .ok (acc ++ inUse (assignsFrom s es), rest) ∧
      Fresh (acc ++ inUse (assignsFrom s es)) Ltail := by
  intro es
  induction es with
  | nil => intro s rest acc Ltail _ hf; simpa [tableEntries, assignsFrom, inUse] using hf
  | cons e es ih =>
    intro s rest acc Ltail hok hf
    have hline := tableEntry_line e ((es.map xrefEntryLine).flatten ++ rest) (hok e (by simp))
    have hok' : ∀ e' ∈ es, EntryOk e' := fun e' h' => hok e' (by simp [h'])
    simp only [List.length_cons, List.map_cons, List.flatten_cons, List.append_assoc]
    cases e with
    | none =>
      rw [tableEntries_free hline]
      simpa [assignsFrom, inUse] using ih (s + 1) rest acc Ltail hok' hf.tail
    | some p =>
      obtain ⟨off, g⟩ := p
      have hg : g ≤ 65535 := by have := (hok (some (off, g)) (by simp)).2; omega
      rw [tableEntries_used hline hg hf.head]
      simpa [assignsFrom, inUse] using ih (s + 1) rest (acc ++ [(s, off, g)]) Ltail hok' (hf.push off g)

theorem subsections_stop (fuel : Nat) (rest : Bytes) (acc : List Entry) (count : Nat) (hr : NoDigitAhead rest) :
    subsections (fuel + 1) rest acc count = .ok (acc, rest, count) := by
  cases rest with
  | nil => rfl
  | cons b r => simp [subsections, isDig_eq, hr b r rfl]

/-- one subsection: header `start count` EOL, then the entries -/
theorem subsections_step {fuel start cnt count : Nat} {body s5 : Bytes} {acc acc' : List Entry}
    (hs : start < 10000000000000000000) (hc : cnt < 10000000000000000000)
    (hrows : tableEntries cnt start body acc = .ok (acc', s5)) :
    subsections (fuel + 1) (natDigits start ++ 32 :: (natDigits cnt ++ 10 :: body)) acc count
      = subsections fuel s5 acc' (count + 1) := by
  obtain ⟨a, as, hda, hdig⟩ := ObjRt.natDigits_head start
  have hnum := number_natDigits start 32 (natDigits cnt ++ 10 :: body) hs (by decide)
  rw [hda] at hnum ⊢
  simp only [List.cons_append] at hnum
  simp only [List.cons_append, subsections, isDig_eq, hdig, if_true, hnum,
    number_natDigits cnt 10 body hc (by decide), dropEol_lf, hrows]

theorem subsections_secs : ∀ (secs : List (Nat × List (Option (Nat × Nat)))) (fuel : Nat) (rest : Bytes)
    (acc : List Entry) (count : Nat),
    (∀ sec ∈ secs, SecOk sec) → NoDigitAhead rest → secs.length + 1 ≤ fuel → Fresh acc (assigns secs) →
    subsections fuel (secsBytes secs ++ rest) acc count
      = .ok (acc ++ inUse (assigns secs), rest, count + secs.length) := by
  intro secs
  induction secs with
  | nil =>
    intro fuel rest acc count _ hr hf _
    obtain ⟨f, rfl, _⟩ := fuel_succ hf
    simpa [secsBytes, assigns, inUse] using subsections_stop f rest acc count hr
  | cons sec more ih =>
    intro fuel rest acc count hok hr hf hfresh
    obtain ⟨s, es⟩ := sec
    obtain ⟨hb, he⟩ := hok (s, es) (by simp)
    simp only at hb he
    obtain ⟨f, rfl, hf'⟩ := fuel_succ hf
    rw [assigns_cons] at hfresh
    obtain ⟨t1, t2⟩ := tableEntries_lines es s (secsBytes more ++ rest) acc (assigns more) he hfresh
    have e0 : secsBytes ((s, es) :: more) ++ rest
        = natDigits s ++ 32 :: (natDigits es.length ++ 10 :: ((es.map xrefEntryLine).flatten ++ (secsBytes more ++ rest))) := by
      simp [secsBytes, xrefSectionBytes]
    rw [e0, subsections_step (by omega) (by omega) t1,
      ih f rest _ (count + 1) (fun sec' h' => hok sec' (by simp [h'])) hr hf' t2,
      assigns_cons, inUse_append, List.append_assoc, List.length_cons]
    congr 3; omega

/-- the in-use entries the strict reader collects from the table `write_xref` wrote -/
def tableEntriesOf (x : XrefMap) (size : Nat) : List Entry := inUse (assigns (tableSecs x size))

theorem assigns_tableSecs (x : XrefMap) (size : Nat) :
    assigns (tableSecs x size) = (0, none) :: (List.range' 1 (size - 1)).filterMap (idAssign x some) := by
  unfold tableSecs
  rw [loopSecs_spec x some (size - 1) 1 0 [none] (by intro _; rfl)]
  rfl

theorem assigns_tableSecs_nodup (x : XrefMap) (size : Nat) : ((assigns (tableSecs x size)).map (·.1)).Nodup := by
  rw [assigns_tableSecs]
  simp only [List.map_cons, List.nodup_cons]
  have hsub := idAssign_keys_sublist x (some : Nat × Nat → Option (Nat × Nat)) (List.range' 1 (size - 1))
  refine ⟨fun hm => ?_, List.Nodup.sublist hsub (List.nodup_range' 1)⟩
  have := hsub.subset hm
  simp [List.mem_range'_1] at this

theorem inUse_mem (L : List (Nat × Option (Nat × Nat))) (n off g : Nat) :
    (n, off, g) ∈ inUse L ↔ (n, some (off, g)) ∈ L := by
  induction L with
  | nil => simp [inUse]
  | cons p rest ih =>
    obtain ⟨k, e⟩ := p
    cases e with
    | none => simp [inUse, ih]
    | some v => obtain ⟨a, b⟩ := v; simp [inUse, ih]

theorem mem_tableEntriesOf (x : XrefMap) (size n off g : Nat) :
    (n, off, g) ∈ tableEntriesOf x size ↔ (1 ≤ n ∧ n < size) ∧ x.get n = some (off, g) := by
  unfold tableEntriesOf
  rw [inUse_mem, assigns_tableSecs, List.mem_cons, mem_filterMap_idAssign, List.mem_range'_1]
  simp only [Prod.mk.injEq, reduceCtorEq, and_false, false_or, Option.some.injEq, exists_eq_right]
  constructor <;> rintro ⟨h1, h2⟩ <;> exact ⟨by omega, h2⟩

theorem inUse_keys_sublist (L : List (Nat × Option (Nat × Nat))) : ((inUse L).map (·.1)).Sublist (L.map (·.1)) := by
  induction L with
  | nil => simp [inUse]
  | cons p rest ih =>
    obtain ⟨k, e⟩ := p
    cases e with
    | none => exact List.Sublist.cons _ ih
    | some v => obtain ⟨a, b⟩ := v; exact List.Sublist.cons_cons _ ih

theorem tableEntriesOf_nodup (x : XrefMap) (size : Nat) : ((tableEntriesOf x size).map (·.1)).Nodup :=
  List.Nodup.sublist (inUse_keys_sublist _) (assigns_tableSecs_nodup x size)

/-- R2, the way through `sectionAt` for a classic table: `xref` EOL, the subsections `S`,
`trailer`, white space, a dictionary `W` with `Size` -/
theorem sectionAt_table_of {b S W tail : Bytes} {x count : Nat} {entries : List Entry} {tr : Dict} {sz : Int}
    {pv : Option Nat} (hx : x ≤ b.length)
    (hdrop : b.drop x = XREF ++ (10 :: (S ++ (TRAILER ++ 10 :: (W ++ tail)))))
    (hsub : subsections ((S ++ (TRAILER ++ 10 :: (W ++ tail))).length + 1) (S ++ (TRAILER ++ 10 :: (W ++ tail))) [] 0
      = .ok (entries, TRAILER ++ 10 :: (W ++ tail), count)) (hc : count ≠ 0)
    (hws : skipWs (10 :: (W ++ tail)) = W ++ tail)
    (hobj : directObjects ((W ++ tail).length + 1) 0 (W ++ tail) = .ok (.dict tr) tail)
    (hsz : Dict.get tr kSize = some (.int sz)) (hprev : prevOf tr = .ok pv) :
    sectionAt b x = .ok { entries := entries, trailer := tr, secEnd := b.length - tail.length, prev := pv,
                          size := sz, selfId := none } := by
  unfold sectionAt
  simp only [Nat.not_lt.mpr hx, if_false, hdrop, stripPrefix_append, tableSection, dropEol_lf, hsub, hc, hws, hobj,
    hsz, hprev]

/-- **R2 on a written table, reals included**: the section `xref … trailer <<…>>` is read back with
exactly the recorded in-use entries, the trailer dictionary in normal form, and ends where the
dictionary ends -/
theorem sectionAt_table_nf (b pre tail : Bytes) (x : XrefMap) (size : Nat) (tr : Dict) (sz : Int)
    (hb : b = pre ++ (writeXrefTable x size ++ (TRAILER_KW ++ (writeObj (.dict tr) ++ tail))))
    (hx : XrefMapOk x) (hs : size ≤ 4294967295)
    (htr : WFObj (.dict tr) ∧ height (.dict tr) ≤ MAX_NESTING)
    (hsz : Dict.get tr SIZE = some (.int sz)) (pv : Option Nat) (hprev : prevOf (normD tr) = .ok pv) :
    sectionAt b pre.length
      = .ok { entries := tableEntriesOf x size, trailer := normD tr, secEnd := b.length - tail.length,
              prev := pv, size := sz, selfId := none } := by
  have hkw : ∀ r : Bytes, TRAILER_KW ++ r = TRAILER ++ 10 :: r := fun _ => rfl
  have hdrop : b.drop pre.length
      = XREF ++ (10 :: (secsBytes (tableSecs x size) ++ (TRAILER ++ 10 :: (writeObj (.dict tr) ++ tail)))) := by
    rw [hb, List.drop_left, writeXrefTable_eq, hkw]
    simp [XREF_KW, XREF]
  have hsub := subsections_secs (tableSecs x size)
    ((secsBytes (tableSecs x size) ++ (TRAILER ++ 10 :: (writeObj (.dict tr) ++ tail))).length + 1)
    (TRAILER ++ 10 :: (writeObj (.dict tr) ++ tail)) [] 0 (tableSecs_ok x size hx hs)
    (by rw [← hkw]; exact noDigit_trailer _)
    (by have := secsBytes_length (tableSecs x size); simp only [List.length_append]; omega)
    (fresh_nil (assigns_tableSecs_nodup x size))
  have hcount : 0 + (tableSecs x size).length ≠ 0 := by
    have := List.length_pos_iff.mpr (tableSecs_ne_nil x size); omega
  exact sectionAt_table_of (by rw [hb]; simp only [List.length_append]; omega) hdrop hsub hcount
    ((skipWs_ws 10 _ rfl).trans (skipWs_obj _ tail htr.1))
    (directObjects_written (.dict tr) tail htr.1 htr.2 trivial)
    (by rw [show kSize = SIZE from rfl, normD_get, hsz]; rfl) hprev

/-- **R2 on a written table**: the section `xref … trailer <<…>>` is read back with exactly the
recorded in-use entries, the trailer dictionary, and ends where the dictionary ends -/
theorem sectionAt_table (pre tail : Bytes) (x : XrefMap) (size : Nat) (tr : Dict) (sz : Int)
    (hx : XrefMapOk x) (hs : size ≤ 4294967295)
    (htr : WFObj (.dict tr) ∧ height (.dict tr) ≤ MAX_NESTING ∧ NoRealD tr)
    (hsz : Dict.get tr SIZE = some (.int sz)) (pv : Option Nat) (hprev : prevOf tr = .ok pv) :
    sectionAt (pre ++ (writeXrefTable x size ++ (TRAILER_KW ++ (writeObj (.dict tr) ++ tail)))) pre.length
      = .ok { entries := tableEntriesOf x size, trailer := tr,
              secEnd := (pre ++ (writeXrefTable x size ++ (TRAILER_KW ++ (writeObj (.dict tr) ++ tail)))).length
                - tail.length,
              prev := pv, size := sz, selfId := none } := by
  have hn := normD_noReal tr htr.2.2
  have := sectionAt_table_nf _ pre tail x size tr sz rfl hx hs ⟨htr.1, htr.2.1⟩ hsz pv (by rw [hn]; exact hprev)
  rwa [hn] at this

def bytesOf (os : Objects) : Bytes := (os.map fun p => writeIndirect p.1.1 p.1.2 p.2).flatten

/-- where the writer puts the objects: (number, offset, generation) in write order -/
def entriesOf : Objects → Nat → List Entry
  | [], _ => []
  | p :: r, pos => (p.1.1, pos, p.1.2) :: entriesOf r (pos + (writeIndirect p.1.1 p.1.2 p.2).length)

theorem writeIndirect_pos (n g : Nat) (o : Obj) : 0 < (writeIndirect n g o).length := by
  simp only [writeIndirect, List.length_append, List.length_cons]; omega

theorem bytesOf_cons (p : ObjId × Obj) (os : Objects) :
    bytesOf (p :: os) = writeIndirect p.1.1 p.1.2 p.2 ++ bytesOf os := rfl

theorem length_le_bytesOf (os : Objects) : os.length ≤ (bytesOf os).length := by
  induction os with
  | nil => simp
  | cons p os ih =>
    have := writeIndirect_pos p.1.1 p.1.2 p.2
    simp only [bytesOf_cons, List.length_cons, List.length_append]; omega

theorem entriesOf_off : ∀ (os : Objects) (pos : Nat), ∀ e ∈ entriesOf os pos,
    pos ≤ e.2.1 ∧ e.2.1 < pos + (bytesOf os).length := by
  intro os
  induction os with
  | nil => intro pos e he; simp [entriesOf] at he
  | cons p rest ih =>
    intro pos e he
    have hpos := writeIndirect_pos p.1.1 p.1.2 p.2
    simp only [entriesOf, List.mem_cons] at he
    simp only [bytesOf_cons, List.length_append]
    rcases he with rfl | he
    · exact ⟨Nat.le_refl _, by simp only; omega⟩
    · have := ih _ e he; omega

theorem entriesOf_nums (os : Objects) (pos : Nat) : (entriesOf os pos).map (·.1) = os.map (·.1.1) := by
  induction os generalizing pos with
  | nil => rfl
  | cons p rest ih => simp [entriesOf, ih]

theorem filter_singleton {α : Type} (key : α → Nat) (p : α → Bool) (a : α) (l : List α)
    (hn : (l.map key).Nodup) (ha : a ∈ l) (hall : ∀ b ∈ l, p b = true → b = a) (hp : p a = true) :
    l.filter p = [a] := by
  have hnd : ((l.filter p).map key).Nodup := hn.sublist (List.filter_sublist.map key)
  have heq : ∀ b ∈ l.filter p, b = a := fun b hb => hall b (List.mem_filter.mp hb).1 (List.mem_filter.mp hb).2
  have hmem : a ∈ l.filter p := List.mem_filter.mpr ⟨ha, hp⟩
  generalize l.filter p = fl at hnd heq hmem ⊢
  rcases fl with _ | ⟨b, _ | ⟨c, r⟩⟩
  · cases hmem
  · rw [heq b List.mem_cons_self]
  · -- two elements, both `a`: their keys are not distinct
    rw [heq b List.mem_cons_self, heq c (List.mem_cons_of_mem _ List.mem_cons_self)] at hnd
    exact absurd List.mem_cons_self (List.nodup_cons.mp hnd).1

theorem walk_step {b : Bytes} {resolve : ObjId → Option Int} {fuel pos stop en : Nat} {ents : List Entry}
    {acc : List (ObjId × Obj)} {e : Entry} {o : Obj} (hne : pos ≠ stop)
    (hfilt : ents.filter (fun e => e.2.1 == pos) = [e])
    (hobj : objectAt b e.2.1 e.1 e.2.2 resolve = .ok (o, en)) (hlt : pos < en) :
    walk b resolve (fuel + 1) ents pos stop acc
      = walk b resolve fuel (ents.filter fun e' => e'.2.1 != pos) en stop (((e.1, e.2.2), o) :: acc) := by
  simp only [walk, hne, if_false, hfilt, hobj, Nat.not_le.mpr hlt]

/-- **R6 on the written object area, reals included**: the walk visits the objects in write order,
each entry exactly once, and ends exactly at the cross-reference section -/
theorem walk_written_nf (resolve : ObjId → Option Int) : ∀ (os : Objects) (pre post : Bytes) (ents : List Entry)
    (acc : List (ObjId × Obj)) (fuel : Nat),
    (∀ p ∈ os, ObjOKN p.2) → (ents.map (·.1)).Nodup →
    (∀ e, e ∈ ents ↔ e ∈ entriesOf os pre.length) → os.length + 1 ≤ fuel →
    walk (pre ++ (bytesOf os ++ post)) resolve fuel ents pre.length (pre.length + (bytesOf os).length) acc
      = .ok (acc.reverse ++ os.map fun p => (p.1, nfObj p.2)) := by
  intro os
  induction os with
  | nil =>
    intro pre post ents acc fuel _ _ hiff hf
    have hnil : ents = [] := List.eq_nil_iff_forall_not_mem.mpr fun e he => by simpa [entriesOf] using (hiff e).mp he
    obtain ⟨f, rfl, _⟩ := fuel_succ hf
    simp [walk, bytesOf, hnil]
  | cons p rest ih =>
    intro pre post ents acc fuel hok hnd hiff hf
    obtain ⟨⟨n, g⟩, o⟩ := p
    obtain ⟨f, rfl, hf'⟩ := fuel_succ hf
    have hpos := writeIndirect_pos n g o
    -- the only entry at `pre.length` is this object's: every later one lies behind it
    have hfilt : ents.filter (fun e => e.2.1 == pre.length) = [(n, pre.length, g)] := by
      apply filter_singleton (fun e : Entry => e.1) _ _ ents hnd ((hiff _).mpr (by simp [entriesOf])) _ (by simp)
      intro b hbm hpb
      rcases List.mem_cons.mp ((hiff b).mp hbm) with h | h
      · exact h
      · have : pre.length + (writeIndirect n g o).length ≤ b.2.1 := (entriesOf_off rest _ b h).1
        have hoff : b.2.1 = pre.length := by simpa using hpb
        omega
    have hrest : ∀ e, e ∈ ents.filter (fun e' => e'.2.1 != pre.length)
        ↔ e ∈ entriesOf rest (pre ++ writeIndirect n g o).length := by
      intro e
      rw [List.mem_filter, hiff e, List.length_append]
      simp only [entriesOf, List.mem_cons, bne_iff_ne, ne_eq]
      constructor
      · rintro ⟨rfl | h1, h2⟩
        · exact absurd rfl h2
        · exact h1
      · intro h1
        have := (entriesOf_off rest _ e h1).1
        exact ⟨Or.inr h1, by omega⟩
    have hb : pre ++ (bytesOf (((n, g), o) :: rest) ++ post)
        = (pre ++ writeIndirect n g o) ++ (bytesOf rest ++ post) := by
      simp [bytesOf_cons]
    have hstop : pre.length + (bytesOf (((n, g), o) :: rest)).length
        = (pre ++ writeIndirect n g o).length + (bytesOf rest).length := by
      simp only [bytesOf_cons, List.length_append]; omega
    have hobj := objectAt_written_nf pre (bytesOf rest ++ post) n g o resolve (hok ((n, g), o) (by simp))
    rw [← List.append_assoc, ← hb] at hobj
    have hne : pre.length ≠ pre.length + (bytesOf (((n, g), o) :: rest)).length := by
      rw [hstop, List.length_append]; omega
    rw [walk_step hne hfilt hobj (by omega), hb, hstop, ← List.length_append,
      ih (pre ++ writeIndirect n g o) post _ (((n, g), nfObj o) :: acc) f (fun q hq => hok q (by simp [hq]))
        (List.Nodup.sublist (List.Sublist.map _ List.filter_sublist) hnd) hrest hf']
    simp

/-- **R6 on the written object area**: the walk visits the objects in write order, each entry
exactly once, and ends exactly at the cross-reference section -/
theorem walk_written (resolve : ObjId → Option Int) : ∀ (os : Objects) (pre post : Bytes) (ents : List Entry)
    (acc : List (ObjId × Obj)) (fuel : Nat),
    (∀ p ∈ os, ObjOK p.2) → (ents.map (·.1)).Nodup →
    (∀ e, e ∈ ents ↔ e ∈ entriesOf os pre.length) → os.length + 1 ≤ fuel →
    walk (pre ++ (bytesOf os ++ post)) resolve fuel ents pre.length (pre.length + (bytesOf os).length) acc
      = .ok (acc.reverse ++ os) := by
  intro os pre post ents acc fuel hok hnd hiff hf
  rw [walk_written_nf resolve os pre post ents acc fuel (fun p hp => objOKN_of_objOK (hok p hp)) hnd hiff hf,
    map_nfObj_noReal os hok]

theorem writeObjects_kept : ∀ (os : Objects) (out : Bytes) (x : XrefMap),
    (∀ p ∈ os, skippedOnSave p.2 = false) → (writeObjects os out x).1 = out ++ bytesOf os := by
  intro os
  induction os with
  | nil => intro out x _; simp [writeObjects, bytesOf]
  | cons p rest ih =>
    intro out x hk
    obtain ⟨⟨n, g⟩, o⟩ := p
    have := hk ((n, g), o) (by simp)
    simp only at this
    simp only [writeObjects, this, Bool.false_eq_true, if_false]
    rw [ih _ _ (fun q hq => hk q (by simp [hq]))]
    simp [bytesOf]

theorem entriesOf_get : ∀ (os : Objects) (out : Bytes) (x : XrefMap),
    (os.map (·.1.1)).Nodup → (∀ p ∈ os, skippedOnSave p.2 = false) →
    ∀ e ∈ entriesOf os out.length, (writeObjects os out x).2.get e.1 = some (e.2.1 % 4294967296, e.2.2) := by
  intro os
  induction os with
  | nil => intro out x _ _ e he; simp [entriesOf] at he
  | cons p rest ih =>
    intro out x hn hk e he
    obtain ⟨⟨n, g⟩, o⟩ := p
    have hkp := hk ((n, g), o) (by simp)
    simp only at hkp
    simp only [List.map_cons, List.nodup_cons] at hn
    simp only [writeObjects, hkp, Bool.false_eq_true, if_false]
    simp only [entriesOf, List.mem_cons] at he
    rcases he with rfl | he
    · simp only
      rw [writeObjects_get_other rest _ _ n hn.1, XrefMap.get_insert_same]
    · rw [← List.length_append] at he
      exact ih _ _ hn.2 (fun q hq => hk q (by simp [hq])) e he

/-- the writer's map (object loop) lists exactly the write-order entries -/
theorem xmap_entries_iff (pre : Bytes) (d : SDoc) (hwf : DocWF d) (hbl : (bodyOf pre d).length < 4294967296) (n off g : Nat) :
    (n, off, g) ∈ entriesOf d.objects (hdrOf pre d).length ↔
      (1 ≤ n ∧ n < d.maxId + 1) ∧ (xmapOf pre d).get n = some (off, g) := by
  have hblen : (bodyOf pre d).length = (hdrOf pre d).length + (bytesOf d.objects).length := by
    rw [bodyOf, writeObjects_kept _ _ _ hwf.kept, List.length_append]
  -- an entry of the write order is recorded under its own number, with its offset (below 4 GiB)
  have hget : ∀ e ∈ entriesOf d.objects (hdrOf pre d).length, (xmapOf pre d).get e.1 = some (e.2.1, e.2.2) := by
    intro e he
    have := entriesOf_get d.objects (hdrOf pre d) [] hwf.nodup hwf.kept e he
    rwa [Nat.mod_eq_of_lt (by have := (entriesOf_off _ _ e he).2; omega)] at this
  have hnums := entriesOf_nums d.objects (hdrOf pre d).length
  constructor
  · intro he
    have hn : n ∈ d.objects.map (·.1.1) := hnums ▸ List.mem_map_of_mem (f := (·.1)) he
    obtain ⟨p, hp, rfl⟩ := List.mem_map.mp hn
    have := hwf.range p hp
    exact ⟨by omega, hget _ he⟩
  · rintro ⟨_, hx⟩
    -- a number without an object has no entry
    have hn : n ∈ (entriesOf d.objects (hdrOf pre d).length).map (·.1) := by
      rw [hnums]
      refine Decidable.byContradiction fun hm => ?_
      rw [xmapOf, writeObjects_get_other d.objects (hdrOf pre d) [] n hm] at hx
      cases hx
    obtain ⟨⟨n', off', g'⟩, he, rfl⟩ := List.mem_map.mp hn
    have := hget _ he
    simp only [hx, Option.some.injEq, Prod.mk.injEq] at this
    rw [this.1, this.2]; exact he

end Lopdf.Strict
