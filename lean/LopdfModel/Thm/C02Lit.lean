import LopdfModel.Thm.C02Space
import LopdfModel.Lemmas.Lit
/-
  C02 — literal strings: every spelling of the body of a literal string the grammar allows
  (`DerivesLit`: Table 3 escapes, octal escapes of 1–3 digits with the greedy rule, backslash +
  end-of-line continuation in its three forms, an unknown escaped character standing for itself,
  raw bytes, raw LF, balanced raw parentheses nested up to MAX_BRACKET) is read by
  `literal_string` to the denoted bytes.  Raw CR / CR LF: lopdf's reading (finding F-C02-a).
-/
namespace Lopdf.Grammar
open Lopdf Gen
open Lopdf.LitRt (innerLit_close innerLit_plain innerLit_group)

theorem escapeSeq_named (c v : UInt8) (r : Bytes) (h : namedEscape c = some v) :
    escapeSeq (c :: r) = some (some v, r) := by
  unfold namedEscape at h
  split at h <;> first
    | (injection h with h; subst h; rfl)
    | cases h

theorem escapeSeq_other (c : UInt8) (r : Bytes) (hn : namedEscape c = none) (ho : isOctDigit c = false)
    (h13 : c ≠ 13) (h10 : c ≠ 10) : escapeSeq (c :: r) = some (some c, r) := by
  -- none of the five characters `escape_sequence` names
  have hc : c ≠ 110 ∧ c ≠ 114 ∧ c ≠ 116 ∧ c ≠ 98 ∧ c ≠ 102 := by
    refine ⟨?_, ?_, ?_, ?_, ?_⟩ <;> (rintro rfl; exact absurd hn (by decide))
  simp [escapeSeq, octChar, ho, eol, h13, h10, hc]

theorem escapeSeq_oct3 (a b c : UInt8) (r : Bytes) (ha : isOctDigit a = true) (hb : isOctDigit b = true)
    (hc : isOctDigit c = true) : escapeSeq (a :: b :: c :: r) = some (some (oct3 a b c), r) := by
  simp [escapeSeq, octChar, ha, hb, hc, oct3]

theorem escapeSeq_oct2 (a b : UInt8) (r : Bytes) (ha : isOctDigit a = true) (hb : isOctDigit b = true)
    (hr : Ahead (isOctDigit · = false) r) : escapeSeq (a :: b :: r) = some (some (oct2 a b), r) := by
  cases r with
  | nil => simp [escapeSeq, octChar, ha, hb, oct2]
  | cons c t => simp [escapeSeq, octChar, ha, hb, hr c t rfl, oct2]

theorem escapeSeq_oct1 (a : UInt8) (r : Bytes) (ha : isOctDigit a = true)
    (hr : Ahead (isOctDigit · = false) r) : escapeSeq (a :: r) = some (some (oct1 a), r) := by
  cases r with
  | nil => simp [escapeSeq, octChar, ha, oct1]
  | cons c t => simp [escapeSeq, octChar, ha, hr c t rfl, oct1]

theorem escapeSeq_lf (r : Bytes) : escapeSeq (10 :: r) = some (none, r) := rfl

theorem escapeSeq_crlf (r : Bytes) : escapeSeq (13 :: 10 :: r) = some (none, r) := rfl

theorem escapeSeq_cr (c : UInt8) (r : Bytes) (hc : c ≠ 10) : escapeSeq (13 :: c :: r) = some (none, c :: r) := by
  simp [escapeSeq, octChar, isOctDigit, eol_cr_other c r hc]

/-! ### one step of `inner_literal_string`

A closing parenthesis, a plain byte and a nested pair are `LitRt.innerLit_close`, `innerLit_plain`,
`innerLit_group`; here the escape sequences and the raw end-of-line markers. -/

theorem innerLit_esc (f d : Nat) (r r' : Bytes) (ob : Option UInt8) (h : escapeSeq r = some (ob, r'))
    (p : Bytes × Bytes) (hp : innerLit f d r' = p) :
    innerLit (f + 1) d (92 :: r) = (ob.toList ++ p.1, p.2) := by
  simp only [innerLit, h, hp]
  cases ob <;> rfl

theorem innerLit_crlf (f d : Nat) (r out r' : Bytes) (h2 : innerLit f d r = (out, r')) :
    innerLit (f + 1) d (13 :: 10 :: r) = (13 :: 10 :: out, r') := by
  rw [innerLit, h2]

theorem innerLit_cr (f d : Nat) (c : UInt8) (r out r' : Bytes) (hc : c ≠ 10)
    (h2 : innerLit f d (c :: r) = (out, r')) :
    innerLit (f + 1) d (13 :: c :: r) = (13 :: out, r') := by
  simp [innerLit, hc, h2]

/-- inside the string a spelling is followed by the closing parenthesis, which is no octal digit -/
theorem ahead_oct (bs rest : Bytes) (h : NoOctAhead bs) : Ahead (isOctDigit · = false) (bs ++ 41 :: rest) :=
  Ahead.append h (ahead_cons (by decide))

theorem ahead_lf (bs rest : Bytes) (h : NoLfAhead bs) :
    ∃ c r, bs ++ 41 :: rest = c :: r ∧ c ≠ 10 := by
  cases bs with
  | nil => exact ⟨41, rest, rfl, by decide⟩
  | cons b t => exact ⟨b, t ++ 41 :: rest, rfl, fun hb => h t (by rw [hb])⟩

theorem fuel_after {n f : Nat} (k : Nat) (h : n + k + 1 ≤ f + 1) : n ≤ f := by omega

/-- **The body of a literal string, every spelling**, up to the closing parenthesis of the
enclosing pair, at any nesting budget `d` the spelling fits in and for any sufficient fuel. -/
theorem innerLit_complete {d : Nat} {s bs : Bytes} (h : DerivesLit d s bs) :
    ∀ (fuel : Nat) (rest : Bytes), bs.length + 1 ≤ fuel →
    innerLit fuel d (bs ++ 41 :: rest) = (s, 41 :: rest) := by
  -- in every case the fuel is `f + 1`: one step of the loop, then the induction hypothesis at `f`
  induction h with
    (intro fuel rest hf; obtain ⟨f, rfl⟩ := Nat.exists_eq_add_one.mpr (Nat.lt_of_lt_of_le (Nat.succ_pos _) hf))
  | nil d => exact innerLit_close f d rest
  | raw d b s bs h40 h41 h92 h13 _ ih =>
    exact innerLit_plain f d b _ h40 h41 h92 h13 _ (ih f rest (fuel_after 0 hf))
  | rawCR d s bs hlf _ ih =>
    obtain ⟨c, r, hcr, hc⟩ := ahead_lf bs rest hlf
    rw [List.cons_append, hcr]
    exact innerLit_cr f d c r _ _ hc (hcr ▸ ih f rest (fuel_after 0 hf))
  | rawCRLF d s bs _ ih => exact innerLit_crlf f d _ _ _ (ih f rest (fuel_after 1 hf))
  | named d c v s bs hn _ ih =>
    exact innerLit_esc f d _ _ _ (escapeSeq_named c v _ hn) _ (ih f rest (fuel_after 1 hf))
  | other d c s bs hn ho h13 h10 _ ih =>
    exact innerLit_esc f d _ _ _ (escapeSeq_other c _ hn ho h13 h10) _ (ih f rest (fuel_after 1 hf))
  | octal3 d a b c s bs ha hb hc _ ih =>
    exact innerLit_esc f d _ _ _ (escapeSeq_oct3 a b c _ ha hb hc) _ (ih f rest (fuel_after 3 hf))
  | octal2 d a b s bs ha hb hno _ ih =>
    exact innerLit_esc f d _ _ _ (escapeSeq_oct2 a b _ ha hb (ahead_oct bs rest hno)) _ (ih f rest (fuel_after 2 hf))
  | octal1 d a s bs ha hno _ ih =>
    exact innerLit_esc f d _ _ _ (escapeSeq_oct1 a _ ha (ahead_oct bs rest hno)) _ (ih f rest (fuel_after 1 hf))
  | contLF d s bs _ ih => exact innerLit_esc f d _ _ _ (escapeSeq_lf _) _ (ih f rest (fuel_after 1 hf))
  | contCRLF d s bs _ ih => exact innerLit_esc f d _ _ _ (escapeSeq_crlf _) _ (ih f rest (fuel_after 2 hf))
  | contCR d s bs hlf _ ih =>
    obtain ⟨c, r, hcr, hc⟩ := ahead_lf bs rest hlf
    rw [List.cons_append, List.cons_append, hcr]
    exact innerLit_esc f d _ _ _ (escapeSeq_cr c r hc) _ (hcr ▸ ih f rest (fuel_after 1 hf))
  | nested d inner ibs s bs _ _ ihi iho =>
    simp only [List.length_cons, List.length_append] at hf
    have e : (40 :: ibs ++ 41 :: bs) ++ 41 :: rest = 40 :: (ibs ++ 41 :: (bs ++ 41 :: rest)) := by simp
    rw [e]
    simpa using innerLit_group f d _ inner _ _ _ (ihi f (bs ++ 41 :: rest) (by omega)) (iho f rest (by omega))

/-- **Literal strings, every spelling.** Whatever mix of raw bytes, raw end-of-line markers,
Table 3 escapes, octal escapes of one, two or three digits, line continuations, needlessly escaped
characters and balanced raw parentheses (nested at most MAX_BRACKET deep) the producer used,
`literal_string` reads the denoted bytes. (Raw CR / CR LF denote themselves in `DerivesLit` —
lopdf's reading, finding F-C02-a; ISO says LF.) -/
theorem lit_complete (s bs rest : Bytes) (h : DerivesLit MAX_BRACKET s bs) :
    pLiteral (40 :: bs ++ 41 :: rest) = some (s, rest) := by
  simp only [List.cons_append, pLiteral]
  rw [innerLit_complete h _ rest (by simp)]
  rfl

theorem derivesLit_mono {d : Nat} {s bs : Bytes} (h : DerivesLit d s bs) :
    ∀ d', d ≤ d' → DerivesLit d' s bs := by
  induction h with (intro d' hd)
  | nil d => exact .nil d'
  | raw d b s bs h1 h2 h3 h4 _ ih => exact .raw d' b s bs h1 h2 h3 h4 (ih d' hd)
  | rawCR d s bs h1 _ ih => exact .rawCR d' s bs h1 (ih d' hd)
  | rawCRLF d s bs _ ih => exact .rawCRLF d' s bs (ih d' hd)
  | named d c v s bs h1 _ ih => exact .named d' c v s bs h1 (ih d' hd)
  | other d c s bs h1 h2 h3 h4 _ ih => exact .other d' c s bs h1 h2 h3 h4 (ih d' hd)
  | octal3 d a b c s bs h1 h2 h3 _ ih => exact .octal3 d' a b c s bs h1 h2 h3 (ih d' hd)
  | octal2 d a b s bs h1 h2 h3 _ ih => exact .octal2 d' a b s bs h1 h2 h3 (ih d' hd)
  | octal1 d a s bs h1 h2 _ ih => exact .octal1 d' a s bs h1 h2 (ih d' hd)
  | contLF d s bs _ ih => exact .contLF d' s bs (ih d' hd)
  | contCRLF d s bs _ ih => exact .contCRLF d' s bs (ih d' hd)
  | contCR d s bs h1 _ ih => exact .contCR d' s bs h1 (ih d' hd)
  | nested d inner ibs s bs _ _ ihi iho =>
    match d', hd with
    | d'' + 1, hd => exact .nested d'' inner ibs s bs (ihi d'' (by omega)) (iho (d'' + 1) (by omega))

/-- non-vacuity: `(a\053\7)\` CR LF `(x\)) \q` + raw LF — an octal escape of three digits, one
of one digit before `)`, a continuation, a nested pair with an escaped parenthesis, an unknown
escape, a raw LF -/
example : DerivesLit 1 [97, 43, 7, 40, 120, 41, 41, 113, 10]
    [97, 92, 48, 53, 51, 92, 55, 92, 13, 10, 40, 120, 92, 41, 41, 92, 113, 10] :=
  .raw 1 97 _ _ (by decide) (by decide) (by decide) (by decide)
    (.octal3 1 48 53 51 _ _ (by decide) (by decide) (by decide)
      (.octal1 1 55 _ _ (by decide) (by intro b r h; injection h with h _; subst h; decide)
        (.contCRLF 1 _ _
          (.nested 0 [120, 41] [120, 92, 41] [113, 10] [92, 113, 10]
            (.raw 0 120 _ _ (by decide) (by decide) (by decide) (by decide)
              (.named 0 41 41 _ _ rfl (.nil 0)))
            (.other 1 113 _ _ rfl (by decide) (by decide) (by decide)
              (.raw 1 10 _ _ (by decide) (by decide) (by decide) (by decide) (.nil 1)))))))

end Lopdf.Grammar
