import LopdfModel.Thm.StrictNorm
import LopdfModel.Thm.FileHistory
/-
  C03 — **`strict_of_history`**: the strict structural reader accepts every file of a `History`
  (a plain save followed by any number of incremental saves, classic tables and cross-reference
  streams in any mix): every revision's section, tail, header lines (R7) and object area tile the
  file; the result has one revision per save and the newest object of every number.
-/
namespace Lopdf.Strict
open Lopdf Gen Lopdf.FileRT Lopdf.ObjRt

/-- **one revision under the strict reader**, inside any extension of the file it ends: section (R2),
tail (R1/R4), `Size` (R3) and the tiling walk over its objects (R5/R6) from the end of its header -/
theorem rev_strict (d : SDoc) (pre out : Bytes) (d' : SDoc) (hok : RevOK d)
    (h : saveFrom pre d = some (out, d')) (R : Bytes) (hlen : out.length < 4294967296)
    (pv : Option Nat) (hpv : prevOf (normD (writtenTrailer d pre)) = .ok pv) :
    ∃ rev, sectionAt (out ++ R) (bodyOf pre d).length = .ok rev ∧
      tailAt (out ++ R) rev.secEnd (bodyOf pre d).length = .ok out.length ∧ sizeOk rev = true ∧
      rev.selfId = revSelf d ∧ rev.trailer = normD (writtenTrailer d pre) ∧ rev.prev = pv ∧
      walk (out ++ R) (resolveIn (out ++ R) rev.entries) ((out ++ R).length + 1)
        (rev.entries.filter fun e => some e.1 != rev.selfId) (hdrOf pre d).length (bodyOf pre d).length []
        = .ok (d.objects.map fun p => (p.1, nfObj p.2)) :=
  rev_strict_of d pre out d' hok.wf hok.objs hok.tr (by have := revSize_le d; have := hok.hmax; omega) h R hlen pv hpv

theorem skipEols_incr (prev X : Bytes) (hX : ∀ b r, X = b :: r → isEolByte b = false) :
    skipEols ((match prev.getLast? with | none => [] | some b => if b = 10 then [] else [10]) ++ X) = X := by
  have hstop : skipEols X = X := by
    cases X with
    | nil => rfl
    | cons b r => simp [skipEols, hX b r rfl]
  cases prev.getLast? with
  | none => simpa using hstop
  | some b =>
    by_cases hb : b = 10
    · simpa [hb] using hstop
    · simp only [hb, if_false, List.cons_append, List.nil_append, skipEols]
      simpa [isEolByte] using hstop

/-- R7 for an appended revision: behind the previous file at most one EOL, then the two header lines -/
theorem headerAt_incr (outprev version mark rest : Bytes) (hv : ∀ b ∈ version, notEol b = true)
    (hm : (mark.all fun b => b ≥ 128) = true) :
    headerAt (skipEols ((incrPre outprev ++ (PDF_KW ++ (version ++ 10 :: 37 :: (mark ++ 10 :: rest)))).drop
      outprev.length)) = .ok (version, rest) := by
  have hd : (incrPre outprev ++ (PDF_KW ++ (version ++ 10 :: 37 :: (mark ++ 10 :: rest)))).drop outprev.length
      = (match outprev.getLast? with | none => [] | some b => if b = 10 then [] else [10]) ++
        (PDF_KW ++ (version ++ 10 :: 37 :: (mark ++ 10 :: rest))) := by
    rw [incrPre, List.append_assoc, List.drop_left]
    rfl
  rw [hd, skipEols_incr outprev _ (by intro b r hbr; cases hbr; rfl)]
  exact headerAt_saved version mark rest hv hm

theorem oldestDoc_cons_cons (r a : SDoc × Bytes) (l : List (SDoc × Bytes)) :
    oldestDoc (r :: a :: l) = oldestDoc (a :: l) := by
  simp only [oldestDoc, List.getLast?_cons_cons]

/-- what the strict reader's revision list must look like, revision by revision -/
def StrictFacts : List (SDoc × Bytes) → List RevData → Prop
  | [], [] => True
  | (d, pre) :: rs, rd :: rds =>
    rd.objs = d.objects.map (fun p => (p.1, nfObj p.2)) ∧ rd.rev.selfId = revSelf d ∧
      rd.rev.trailer = normD (writtenTrailer d pre) ∧ StrictFacts rs rds
  | _, _ => False

theorem incr_body_ge (outprev : Bytes) (d : SDoc) : outprev.length ≤ (bodyOf (incrPre outprev) d).length := by
  have h0 : (hdrOf (incrPre outprev) d).length ≤ (bodyOf (incrPre outprev) d).length :=
    (writeObjects_prefix d.objects (hdrOf (incrPre outprev) d) []).length_le
  have h2 : outprev.length ≤ (incrPre outprev).length := by simp [incrPre]
  have h3 : (incrPre outprev).length ≤ (hdrOf (incrPre outprev) d).length := by
    simp only [hdrOf, List.length_append]; omega
  omega

theorem strict_chain : ∀ (revs : List (SDoc × Bytes)) (out : Bytes), History revs out →
    out.length < 4294967296 → (∀ r ∈ revs, ∀ b ∈ r.1.version, notEol b = true) →
    ∀ (R : Bytes) (fuel : Nat), revs.length ≤ fuel →
    ∃ rds v, revisions (out ++ R) fuel (topX revs) = .ok (rds, v, out.length) ∧ StrictFacts revs rds ∧
      (∀ d0, oldestDoc revs = some d0 → v = d0.version) := by
  intro revs out h
  induction h with
  | base d out d' hok hs hprev =>
    intro hlen hver R fuel hf
    obtain ⟨f, rfl, _⟩ := fuel_succ hf
    obtain ⟨rev, hrev, hself, htr⟩ := revisions_save d out d' hok.wf hok.objs hok.tr
      (by have := revSize_le d; have := hok.hmax; omega) hs hlen (hver (d, []) (by simp)) hprev R f
    exact ⟨_, d.version, hrev, ⟨rfl, hself, htr, trivial⟩, fun d0 h0 => by simp [oldestDoc] at h0; rw [h0]⟩
  | step d prevs outprev out d' hprevH hok hs hprev ih =>
    intro hlen hver R fuel hf
    have hs' : saveFrom (incrPre outprev) d = some (out, d') := hs
    obtain ⟨rev, hsec, htl, hsz, hself, htr, hpr, hwalk⟩ :=
      rev_strict d (incrPre outprev) out d' hok hs' R hlen (some (topX prevs))
        (prevOf_some _ _ (by rw [writtenTrailer_free d _ (dict_nodup hok.tr.1) PREV freeKey_PREV]; exact hprev))
    obtain ⟨R0, hR0⟩ := incr_prefix outprev d out d' hs
    have hlenp : outprev.length < 4294967296 := by
      rw [← hR0] at hlen; simp only [List.length_append] at hlen; omega
    have hxprev := history_topX_lt prevs outprev hprevH
    have hbge := incr_body_ge outprev d
    obtain ⟨f, rfl, hf'⟩ := fuel_succ hf
    obtain ⟨rds, v, hrec, hsf, hv0⟩ := ih hlenp (fun r hr => hver r (by simp [hr])) (R0 ++ R) f hf'
    rw [← List.append_assoc, hR0] at hrec
    obtain ⟨rest, hsplit, hstart⟩ := hdr_split (incrPre outprev) d out d' R hs'
    have hhead : headerAt (skipEols ((out ++ R).drop outprev.length)) = .ok (d.version, rest) := by
      rw [hsplit]
      exact headerAt_incr outprev d.version d.binaryMark rest (hver (d, incrPre outprev) (by simp))
        (saveFrom_mark _ d out d' hs')
    refine ⟨_, v, revisions_newer hsec htl hsz hpr (show topX prevs < (bodyOf (incrPre outprev) d).length by omega) hrec hhead (by rw [hstart]; exact hwalk),
      ⟨rfl, hself, htr, hsf⟩, fun d0 h0 => hv0 d0 ?_⟩
    obtain ⟨a, l, rfl⟩ := List.exists_cons_of_ne_nil (history_ne_nil prevs outprev hprevH)
    rwa [oldestDoc_cons_cons] at h0

theorem get_filter_num (objs : List (ObjId × Obj)) (q : Nat → Bool) (id : ObjId) :
    Objects.get (objs.filter fun p => q p.1.1) id = if q id.1 then Objects.get objs id else none := by
  induction objs with
  | nil => simp [Objects.get]
  | cons p rest ih =>
    obtain ⟨i, o⟩ := p
    by_cases hi : i = id
    · subst hi; cases hq : q i.1 <;> simp [List.filter, Objects.get, hq, ih]
    · cases hq : q i.1 <;> simp [List.filter, Objects.get, hq, hi, ih]

theorem Objects_get_eq_none (objs : List (ObjId × Obj)) (id : ObjId) :
    Objects.get objs id = none ↔ ∀ o, (id, o) ∉ objs := by
  induction objs with
  | nil => simp [Objects.get]
  | cons q rest ih =>
    obtain ⟨i, o⟩ := q
    by_cases hi : i = id
    · subst hi
      exact ⟨fun h => by simp [Objects.get] at h, fun h => absurd List.mem_cons_self (h o)⟩
    · simp only [Objects.get, hi, if_false, ih]
      have hne : id ≠ i := fun e => hi e.symm
      exact forall_congr' fun o' => by simp [hne]

theorem flatten_get_eq_none (L : List (List (ObjId × Obj))) (id : ObjId) :
    Objects.get L.flatten id = none ↔ ∀ l ∈ L, Objects.get l id = none := by
  induction L with
  | nil => simp [Objects.get]
  | cons l rest ih => cases hl : Objects.get l id <;> simp [Objects_get_append, hl, ih]

def seenWith (self : Option Nat) (seen : List Nat) : List Nat :=
  match self with | some n => if seen.contains n then seen else n :: seen | none => seen

theorem mem_seenWith (self : Option Nat) (seen : List Nat) (n : Nat) :
    n ∈ seenWith self seen ↔ n ∈ seen ∨ self = some n := by
  unfold seenWith
  cases self with
  | none => simp
  | some m =>
    by_cases hc : m ∈ seen
    · simp only [List.contains_eq_mem, hc, decide_true, if_true, Option.some.injEq]
      exact ⟨Or.inl, fun h => h.elim id fun e => e ▸ hc⟩
    · simp only [List.contains_eq_mem, hc, decide_false, Bool.false_eq_true, if_false, List.mem_cons,
        Option.some.injEq, eq_comm (a := n), or_comm]

theorem mergeRevs_cons (r : RevData) (rest : List RevData) (seen : List Nat) (acc : List (ObjId × Obj)) :
    mergeRevs (r :: rest) seen acc =
      mergeRevs rest (seenWith r.rev.selfId seen ++ (r.objs.filter fun p => !(seenWith r.rev.selfId seen).contains p.1.1).map (·.1.1))
        (acc ++ r.objs.filter fun p => !(seenWith r.rev.selfId seen).contains p.1.1) := rfl

/-- **`mergeRevs` = newest wins**: with consistent generations and no clash with cross-reference
stream numbers, looking an id up in the merged list is looking it up revision by revision,
newest first -/
theorem merge_lookup : ∀ (rds : List RevData) (seen : List Nat) (acc : List (ObjId × Obj)) (id : ObjId),
    (∀ rd ∈ rds, ∀ n, rd.rev.selfId = some n → ∀ rd' ∈ rds, ∀ p ∈ rd'.objs, p.1.1 ≠ n) →
    (∀ rd1 ∈ rds, ∀ rd2 ∈ rds, ∀ p1 ∈ rd1.objs, ∀ p2 ∈ rd2.objs, p1.1.1 = p2.1.1 → p1.1.2 = p2.1.2) →
    Objects.get (mergeRevs rds seen acc) id =
      (Objects.get acc id).orElse (fun _ => if seen.contains id.1 then none
        else Objects.get (rds.map (·.objs)).flatten id) := by
  intro rds
  induction rds with
  | nil => intro seen acc id _ _; cases h : Objects.get acc id <;> simp [mergeRevs, h, Objects.get]
  | cons r rest ih =>
    intro seen acc id hself hgen
    have hself' : ∀ rd ∈ rest, ∀ n, rd.rev.selfId = some n → ∀ rd' ∈ rest, ∀ p ∈ rd'.objs, p.1.1 ≠ n :=
      fun rd hrd n hn rd' hrd' => hself rd (by simp [hrd]) n hn rd' (by simp [hrd'])
    have hgen' : ∀ rd1 ∈ rest, ∀ rd2 ∈ rest, ∀ p1 ∈ rd1.objs, ∀ p2 ∈ rd2.objs, p1.1.1 = p2.1.1 → p1.1.2 = p2.1.2 :=
      fun rd1 h1 rd2 h2 => hgen rd1 (by simp [h1]) rd2 (by simp [h2])
    rw [mergeRevs_cons]
    generalize hs1 : seenWith r.rev.selfId seen = seen1
    have hseen1 : ∀ n, n ∈ seen1 ↔ (n ∈ seen ∨ r.rev.selfId = some n) := fun n => hs1 ▸ mem_seenWith _ seen n
    rw [ih _ _ id hself' hgen', Objects_get_append, get_filter_num r.objs (fun n => !seen1.contains n) id,
      List.map_cons, List.flatten_cons, Objects_get_append]
    cases hacc : Objects.get acc id with
    | some o => rfl
    | none =>
      simp only [Option.orElse_none]
      by_cases h1 : id.1 ∈ seen1
      · -- seen before, or the number of this revision's cross-reference stream, which no object carries
        have hnone : seen.contains id.1 = false →
            (Objects.get r.objs id).orElse (fun _ => Objects.get (rest.map (·.objs)).flatten id) = none := by
          intro hc
          have hsf : r.rev.selfId = some id.1 := ((hseen1 id.1).mp h1).resolve_left (by simpa using hc)
          have hno : ∀ rd ∈ r :: rest, Objects.get rd.objs id = none := fun rd hrd =>
            (Objects_get_eq_none _ _).mpr fun o ho => hself r (by simp) id.1 hsf rd hrd (id, o) ho rfl
          rw [hno r (by simp), Option.orElse_none, flatten_get_eq_none]
          intro l hl
          obtain ⟨rd, hrd, rfl⟩ := List.mem_map.mp hl
          exact hno rd (by simp [hrd])
        have c1 : seen1.contains id.1 = true := by simpa using h1
        simp only [c1, Bool.not_true, Bool.false_eq_true, if_false, Option.orElse_none, List.contains_append,
          Bool.true_or, if_true]
        cases hc : seen.contains id.1 with
        | true => rfl
        | false => simp only [Bool.false_eq_true, if_false, hnone hc]
      · have c1 : seen1.contains id.1 = false := by simpa using h1
        have c0 : seen.contains id.1 = false := by simpa using fun h => h1 ((hseen1 id.1).mpr (Or.inl h))
        simp only [c1, c0, Bool.not_false, if_true, Bool.false_eq_true, if_false, List.contains_append, Bool.false_or]
        cases hr : Objects.get r.objs id with
        | some o => rfl
        | none =>
          simp only [Option.orElse_none]
          split
          · -- the number is taken by this revision with another generation: older ones cannot have the id
            rename_i hcont
            obtain ⟨p, hp, hpn⟩ := List.mem_map.mp
              (by simpa only [List.contains_eq_mem, decide_eq_true_eq] using hcont)
            have hp' := (List.mem_filter.mp hp).1
            refine ((flatten_get_eq_none _ _).mpr fun l hl => ?_).symm
            obtain ⟨rd, hrd, rfl⟩ := List.mem_map.mp hl
            refine (Objects_get_eq_none _ _).mpr fun o ho => ?_
            have hpid : p.1 = id := Prod.ext hpn (hgen r (by simp) rd (by simp [hrd]) p hp' (id, o) ho hpn)
            exact (Objects_get_eq_none _ _).mp hr p.2 (hpid ▸ hp')
          · rfl

/-- every `Prev` step goes back at least one byte: a history has no more revisions than bytes -/
theorem history_len {revs : List (SDoc × Bytes)} {out : Bytes} (h : History revs out) :
    revs.length ≤ topX revs + 1 ∧ topX revs < out.length := by
  induction h with
  | base d out d' _ hs _ => exact ⟨Nat.le_add_left _ _, body_lt_out [] d out d' hs⟩
  | step d prevs outprev out d' _ _ hs _ ih =>
    have := incr_body_ge outprev d
    exact ⟨by simp only [List.length_cons, topX]; omega, body_lt_out _ d out d' hs⟩

theorem strictFacts_mem : ∀ (revs : List (SDoc × Bytes)) (rds : List RevData), StrictFacts revs rds →
    rds.length = revs.length ∧ rds.map (·.objs) = revs.map (fun r => r.1.objects.map fun p => (p.1, nfObj p.2)) ∧
    rds.filterMap (·.rev.selfId) = revs.filterMap (fun r => revSelf r.1) ∧
    ∀ rd ∈ rds, ∃ r ∈ revs, rd.objs = r.1.objects.map (fun p => (p.1, nfObj p.2)) ∧ rd.rev.selfId = revSelf r.1 := by
  intro revs
  induction revs with
  | nil =>
    intro rds h
    cases rds with
    | nil => simp
    | cons a b => simp [StrictFacts] at h
  | cons r rs ih =>
    intro rds h
    obtain ⟨d, pre⟩ := r
    cases rds with
    | nil => simp [StrictFacts] at h
    | cons rd rest =>
      obtain ⟨h1, h2, _, h4⟩ := h
      obtain ⟨i1, i2, i3, i4⟩ := ih rest h4
      refine ⟨by simp [i1], by simp [h1, i2], ?_, ?_⟩
      · simp only [List.filterMap_cons, h2, i3]
      · intro rd' hrd'
        simp only [List.mem_cons] at hrd'
        rcases hrd' with rfl | hrd'
        · exact ⟨(d, pre), by simp, h1, h2⟩
        · obtain ⟨r, hr, e1, e2⟩ := i4 rd' hrd'
          exact ⟨r, by simp [hr], e1, e2⟩

theorem mem_revObjs_of_doc (d : SDoc) (pre : Bytes) (p : ObjId × Obj) (h : p ∈ d.objects) : p ∈ revObjs d pre := by
  unfold revObjs
  cases d.xrefKind <;> simp [h]

theorem mergeRevs_mem : ∀ (rds : List RevData) (seen : List Nat) (acc : List (ObjId × Obj)) (p : ObjId × Obj),
    p ∈ mergeRevs rds seen acc → p ∈ acc ∨ ∃ rd ∈ rds, p ∈ rd.objs := by
  intro rds
  induction rds with
  | nil => intro seen acc p h; simp only [mergeRevs] at h; exact Or.inl h
  | cons r rest ih =>
    intro seen acc p h
    simp only [mergeRevs] at h
    rcases ih _ _ p h with h1 | ⟨rd, hrd, hp⟩
    · rcases List.mem_append.mp h1 with h2 | h2
      · exact Or.inl h2
      · exact Or.inr ⟨r, by simp, (List.mem_filter.mp h2).1⟩
    · exact Or.inr ⟨rd, by simp [hrd], hp⟩

/-- **`strict_of_history` (C03).** For every history — a plain save followed by any number of
incremental saves, classic tables and cross-reference streams in any mix, well-formed revisions
(real numbers allowed: the objects come back in normal form `nfObj`, the identity on real-free ones), re-used numbers keep their generation, no document object carries the number of a
cross-reference stream, version texts without line breaks, final file < 4 GiB — the strict
structural reader ACCEPTS the final file: every revision's section, tail, header lines (R7) and
object area tile it. It reports one revision per save, the first header's version, the newest
revision's dictionary as trailer, the numbers of the cross-reference streams, and for EVERY id the
object of the newest revision that holds it. -/
theorem strict_of_history (revs : List (SDoc × Bytes)) (out : Bytes) (h : History revs out)
    (hlen : out.length < 4294967296) (hver : ∀ r ∈ revs, ∀ b ∈ r.1.version, notEol b = true)
    (hgen : GenConsistent revs)
    (hclash : ∀ r1 ∈ revs, ∀ n, revSelf r1.1 = some n → ∀ r2 ∈ revs, ∀ p ∈ r2.1.objects, p.1.1 ≠ n)
    (hsize : ∀ d pre rest, revs = (d, pre) :: rest → ∀ r ∈ revs, ∀ p ∈ r.1.objects, p.1.1 < revSize d) :
    ∃ sd, strictLoad out = .ok sd ∧ sd.revisions = revs.length ∧
      (∀ d0, oldestDoc revs = some d0 → sd.version = d0.version) ∧
      (∀ d pre rest, revs = (d, pre) :: rest → sd.trailer = normD (writtenTrailer d pre)) ∧
      sd.xrefStreamIds = revs.filterMap (fun r => revSelf r.1) ∧
      ∀ id, Objects.get sd.objects id = (Objects.get (revs.map (·.1.objects)).flatten id).map nfObj := by
  obtain ⟨d, pre, prevs, d', _, _, hrevs, hok, hs, _⟩ := history_top revs out h hlen
  obtain ⟨rds, v, hrev, hsf, hv0⟩ := strict_chain revs out h hlen hver [] (out.length + 1)
    (by have := history_len h; omega)
  rw [List.append_nil] at hrev
  obtain ⟨f1, f2, f3, f4⟩ := strictFacts_mem revs rds hsf
  -- the revisions the reader found are those of the history: their hypotheses carry over
  have hself : ∀ rd ∈ rds, ∀ n, rd.rev.selfId = some n → ∀ rd' ∈ rds, ∀ p ∈ rd'.objs, p.1.1 ≠ n := by
    intro rd hrd n hn rd' hrd' p hp
    obtain ⟨r1, hr1, _, e1⟩ := f4 rd hrd
    obtain ⟨r2, hr2, e2, _⟩ := f4 rd' hrd'
    rw [e2] at hp
    obtain ⟨q, hq, rfl⟩ := List.mem_map.mp hp
    exact hclash r1 hr1 n (by rw [← e1]; exact hn) r2 hr2 q hq
  have hgen' : ∀ rd1 ∈ rds, ∀ rd2 ∈ rds, ∀ p1 ∈ rd1.objs, ∀ p2 ∈ rd2.objs, p1.1.1 = p2.1.1 → p1.1.2 = p2.1.2 := by
    intro rd1 h1 rd2 h2 p1 hp1 p2 hp2 he
    obtain ⟨r1, hr1, e1, _⟩ := f4 rd1 h1
    obtain ⟨r2, hr2, e2, _⟩ := f4 rd2 h2
    rw [e1] at hp1; rw [e2] at hp2
    obtain ⟨q1, hq1, rfl⟩ := List.mem_map.mp hp1
    obtain ⟨q2, hq2, rfl⟩ := List.mem_map.mp hp2
    exact hgen r1 hr1 r2 hr2 q1 (mem_revObjs_of_doc _ _ _ hq1) q2 (mem_revObjs_of_doc _ _ _ hq2) he
  subst hrevs
  obtain ⟨newest, older, rfl⟩ : ∃ newest older, rds = newest :: older := by
    cases rds with
    | nil => simp at f1
    | cons a l => exact ⟨a, l, rfl⟩
  have htrN : newest.rev.trailer = normD (writtenTrailer d pre) := hsf.2.2.1
  have hload := strictLoad_of_revisions (sz := (revSize d : Nat))
    (by rw [(saveFrom_eq pre d out d' hs).1]
        exact lastXref_tail _ _ (by have := body_le_out pre d out d' hs; omega)) hrev
    (by rw [htrN, show kSize = SIZE from rfl, normD_get, writtenTrailer_size d pre (dict_nodup hok.tr.1)]; rfl)
    (by
      intro p hp
      rcases mergeRevs_mem _ _ _ p hp with h0 | ⟨rd, hrd, hpo⟩
      · simp at h0
      · obtain ⟨r, hr, e1, _⟩ := f4 rd hrd
        rw [e1] at hpo
        obtain ⟨q, hq, rfl⟩ := List.mem_map.mp hpo
        exact_mod_cast hsize d pre prevs rfl r hr q hq)
  refine ⟨_, hload, f1, hv0, ?_, f3, ?_⟩
  · intro d1 pre1 rest1 he
    cases he; exact htrN
  · intro id
    have hfl : (((d, pre) :: prevs).map fun r => r.1.objects.map fun p => (p.1, nfObj p.2)).flatten
        = ((((d, pre) :: prevs).map (·.1.objects)).flatten).map fun p => (p.1, nfObj p.2) := by
      rw [List.map_flatten, List.map_map]; rfl
    simp only
    rw [merge_lookup _ [] [] id hself hgen', f2, hfl, Objects.get_mapVals _ fun _ => nfObj]
    simp [Objects.get]

/-- non-vacuity: a one-revision history meets every hypothesis -/
example : ∃ out sd, History [(exDoc, [])] out ∧ strictLoad out = .ok sd ∧ sd.revisions = 1 := by
  obtain ⟨out, d', h, hlen⟩ := exDoc_saves
  have hH : History [(exDoc, [])] out := History.base exDoc out d' exDoc_revOK h (by simp [exDoc])
  obtain ⟨sd, h1, h2, _⟩ := strict_of_history _ out hH hlen
    (by intro r hr b hb; simp at hr; subst hr; simp [exDoc] at hb; rcases hb with h | h | h <;> subst h <;> decide)
    (by intro r1 h1 r2 h2 p1 hp1; simp at h1; subst h1; simp [revObjs, exDoc] at hp1)
    (by intro r1 h1 n hn; simp at h1; subst h1; simp [revSelf, exDoc] at hn)
    (by intro d pre rest he r hr p hp; simp at hr; subst hr; simp [exDoc] at hp)
  exact ⟨out, sd, hH, h1, h2⟩

end Lopdf.Strict
