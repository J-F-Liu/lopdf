import LopdfModel.Thm.C02File
/-
  C02 — bytes before the header: `Reader::read` starts at the first `%PDF-`; all offsets of the
  file are relative to it.  Whatever precedes the header (without containing `%PDF-` itself) does
  not change what is loaded.
-/
namespace Lopdf.Grammar
open Lopdf Gen

theorem findFrom_skip (pat : Bytes) : ∀ (junk rest : Bytes) (fuel i : Nat), junk.length < fuel →
    (∀ j, j < junk.length → pat.isPrefixOf ((junk ++ rest).drop j) = false) →
    findFrom pat fuel (junk ++ rest) i = findFrom pat (fuel - junk.length) rest (i + junk.length) := by
  intro junk
  induction junk with
  | nil => intro rest fuel i _ _; simp
  | cons a as ih =>
    intro rest fuel i hf hno
    cases fuel with
    | zero => simp at hf
    | succ f =>
      have h0 := hno 0 (by simp)
      simp only [List.drop_zero] at h0
      simp only [List.cons_append] at h0 ⊢
      simp only [findFrom, h0, Bool.false_eq_true, if_false]
      rw [ih rest f (i + 1) (by simp at hf; omega) (fun j hj => by
        have := hno (j + 1) (by simp; omega)
        simpa using this)]
      simp only [List.length_cons]
      congr 1 <;> omega

theorem no_occurrence_of_first (p0 : UInt8) (ps junk rest : Bytes) (h : p0 ∉ junk) :
    ∀ j, j < junk.length → (p0 :: ps).isPrefixOf ((junk ++ rest).drop j) = false := by
  intro j hj
  have hd : (junk ++ rest).drop j = junk.drop j ++ rest := by
    rw [List.drop_append_of_le_length (by omega)]
  rw [hd]
  cases hjd : junk.drop j with
  | nil =>
    have := congrArg List.length hjd
    simp at this; omega
  | cons x xs =>
    have hx : x ∈ junk := List.mem_of_mem_drop (by rw [hjd]; simp)
    have : p0 ≠ x := fun e => h (e ▸ hx)
    simp [List.isPrefixOf, this]

theorem findFrom_shift (pat : Bytes) (m : Nat) : ∀ (fuel : Nat) (b : Bytes) (i : Nat),
    findFrom pat fuel b (i + m) = (findFrom pat fuel b i).map (· + m)
  | 0, _, _ => rfl
  | _ + 1, [], _ => rfl
  | fuel + 1, x :: xs, i => by
    simp only [findFrom]
    split
    · rfl
    · rw [show i + m + 1 = i + 1 + m by omega]; exact findFrom_shift pat m fuel xs (i + 1)

/-- **Junk before the header.** Bytes in front of `%PDF-` in which no `%PDF-` starts are
skipped: the file loads exactly as without them (all offsets relative to the header). -/
theorem loadDoc_junk_prefix (junk file : Bytes)
    (hno : ∀ j, j < junk.length → PDF_KW.isPrefixOf ((junk ++ file).drop j) = false)
    (hfile : findFrom PDF_KW (file.length + 1) file 0 = some 0) :
    loadDoc (junk ++ file) = loadDoc file := by
  have h1 : findFrom PDF_KW ((junk ++ file).length + 1) (junk ++ file) 0 = some junk.length := by
    rw [findFrom_skip PDF_KW junk file _ 0 (by rw [List.length_append]; omega) hno,
      show (junk ++ file).length + 1 - junk.length = file.length + 1 by rw [List.length_append]; omega,
      findFrom_shift, hfile]
    simp
  unfold loadDoc loadDocOrd loadDocOrd2 loadDocWith
  rw [h1, hfile]
  dsimp only
  rw [List.drop_left, List.drop_zero]

/-- e.g. junk without any `%` byte -/
theorem loadDoc_junk_prefix_nopercent (junk file : Bytes) (h : (37 : UInt8) ∉ junk)
    (hfile : findFrom PDF_KW (file.length + 1) file 0 = some 0) : loadDoc (junk ++ file) = loadDoc file :=
  loadDoc_junk_prefix junk file (no_occurrence_of_first 37 _ junk file h) hfile

example : (37 : UInt8) ∉ [0xef, 0xbb, 0xbf, 106, 117, 110, 107, 10] := by decide

end Lopdf.Grammar
