import LopdfModel.Lemmas.CMapToken
/-
  C15 — completeness of `cmap_parser::parse` (model `parseCMap`) with respect to the declarative
  grammar of CMap texts (`DerivesCMapText`): every text the grammar derives — whatever blanks,
  end-of-line bytes, comments, hexadecimal case, counts, section order and metadata order its
  producer chose within the frame — is parsed to exactly the sections it denotes.

  Every production is read by rewriting with the token lemmas of Lemmas/CMapToken, one token at a
  time; what a token may be followed by is recorded as the class of the first byte of the rest
  (`Head P rest`).
-/
namespace Lopdf.CMapText
open Lopdf Lopdf.CMap Lopdf.Gen

theorem manyUpTo_hexBytes {vs : List Nat} {bs : Bytes} (h : DHexBytes vs bs) : ∀ (n : Nat) (x : UInt8) (r : Bytes),
    vs.length ≤ n → isHexDigit x = false → manyUpTo phexChar n (bs ++ x :: r) = (vs, x :: r) := by
  induction h with
  | nil =>
    intro n x r _ hx
    cases n with
    | zero => rfl
    | succ n => simp [manyUpTo, phexChar_stop x r hx]
  | cons a b vs bs ha hb _ ih =>
    intro n x r hn hx
    cases n with
    | zero => simp at hn
    | succ n =>
      simp only [List.cons_append, manyUpTo, phexChar_pair a b _ ha hb, ih n x r (by simpa using hn) hx]

theorem psourceCode_src {c : Nat × Nat} {bs : Bytes} (h : DSrc c bs) (r : Bytes) : psourceCode (bs ++ r) = .ok c r := by
  cases h with
  | mk vs hb hd h1 h4 =>
    have e : 60 :: hb ++ [62] ++ r = 60 :: (hb ++ 62 :: r) := by simp
    have hm := manyUpTo_hexBytes hd CMAP_SRC_MAX 62 r (by simpa [CMAP_SRC_MAX] using h4) (by decide)
    have hmin : ¬ vs.length < CMAP_SRC_MIN := by simp only [CMAP_SRC_MIN]; omega
    rw [e]
    unfold psourceCode
    simp only [t_lt, PR.bind, hm, hmin, if_false, t_gt]

theorem hexBytes_one {h : Nat} {hb : Bytes} (hd : DHexBytes [h] hb) :
    ∃ a b, hb = [a, b] ∧ isHexDigit a = true ∧ isHexDigit b = true ∧ h = (hexVal a).toNat * 16 + (hexVal b).toNat := by
  cases hd with
  | cons a b vs bs ha hb' hrest =>
    cases hrest
    exact ⟨a, b, rfl, ha, hb', rfl⟩

theorem pu16ms_unit {h1 h2 : Nat} {hb1 hb2 w l : Bytes} (d1 : DHexBytes [h1] hb1) (d2 : DHexBytes [h2] hb2)
    (hw : MS w) (hl : HeadNonWs l) : pu16ms (hb1 ++ hb2 ++ w ++ l) = .ok (h1 * 256 + h2) l := by
  obtain ⟨a, b, rfl, ha, hb, rfl⟩ := hexBytes_one d1
  obtain ⟨c, d, rfl, hc, hd, rfl⟩ := hexBytes_one d2
  have e : [a, b] ++ [c, d] ++ w ++ l = a :: b :: c :: d :: (w ++ l) := by simp
  rw [e]
  unfold pu16ms
  simp only [phexChar_pair a b _ ha hb, PR.bind, phexChar_pair c d _ hc hd, ms0_tok hw hl]

theorem units_head {us : List Nat} {bs : Bytes} (h : DUnits us bs) (r : Bytes) : HeadNonWs (bs ++ 62 :: r) := by
  cases h with
  | nil => exact headNonWs_cons (by decide) r
  | cons h1 h2 hb1 hb2 w us bs d1 d2 hw hrest =>
    obtain ⟨a, b, rfl, ha, _, _⟩ := hexBytes_one d1
    exact headNonWs_cons (hexDigit_nonws ha).1 _

theorem manyUpTo_units {us : List Nat} {bs : Bytes} (h : DUnits us bs) : ∀ (n : Nat) (r : Bytes), us.length ≤ n →
    manyUpTo pu16ms n (bs ++ 62 :: r) = (us, 62 :: r) := by
  induction h with
  | nil =>
    intro n r _
    cases n with
    | zero => rfl
    | succ n => simp [manyUpTo, pu16ms, phexChar_stop 62 r (by decide), PR.bind]
  | cons h1 h2 hb1 hb2 w us bs d1 d2 hw hrest ih =>
    intro n r hn
    cases n with
    | zero => simp at hn
    | succ n =>
      rw [List.append_assoc]
      simp only [manyUpTo, pu16ms_unit d1 d2 hw (units_head hrest r), ih n r (by simpa using hn)]

theorem ptargetString_target {us : List Nat} {bs : Bytes} (h : DTarget us bs) (r : Bytes) :
    ptargetString (bs ++ r) = .ok us r := by
  cases h with
  | mk ub hu h1 h256 =>
    have e : 60 :: ub ++ [62] ++ r = 60 :: (ub ++ 62 :: r) := by simp
    have hm := manyUpTo_units hu CMAP_DST_MAX r (by simpa [CMAP_DST_MAX] using h256)
    have hmin : ¬ us.length < CMAP_DST_MIN := by simp only [CMAP_DST_MIN]; omega
    rw [e]
    unfold ptargetString
    simp only [t_lt, PR.bind, hm, hmin, if_false, t_gt]

theorem ptargetString_not_lt {x : UInt8} (hx : x ≠ 60) (r : Bytes) : ptargetString (x :: r) = .error := by
  simp [ptargetString, t_lt_ne hx, PR.bind]

theorem src_head {c : Nat × Nat} {bs : Bytes} (h : DSrc c bs) : HeadNonWs bs := by
  cases h; exact headNonWs_cons (by decide) _

theorem target_head {us : List Nat} {bs : Bytes} (h : DTarget us bs) : HeadNonWs bs := by
  cases h; exact headNonWs_cons (by decide) _

theorem pcodeRangePair_pair {p : Nat × Nat × Nat} {bs : Bytes} (h : DPair p bs) (r : Bytes) :
    pcodeRangePair (bs ++ r) = .ok p r := by
  cases h with
  | mk lo hi len s1 w s2 d1 hw d2 =>
    simp only [List.append_assoc]
    unfold pcodeRangePair
    simp only [psourceCode_src d1, PR.bind, space0_tok hw ((src_head d2).append r), psourceCode_src d2,
      ne_eq, not_true_eq_false, if_false]

theorem pair_head {p : Nat × Nat × Nat} {bs : Bytes} (h : DPair p bs) : HeadNonWs bs := by
  cases h with
  | mk lo hi len s1 w s2 d1 _ _ => exact ((src_head d1).append w).append s2

theorem more_length {ts : List (List Nat)} {bs : Bytes} (h : DMoreTargets ts bs) : ts.length ≤ bs.length := by
  induction h with
  | nil => simp
  | cons t ts w tb bs hw _ _ ih =>
    have := List.length_pos_iff.mpr hw.2
    simp only [List.length_cons, List.length_append]; omega

theorem sepListGo_more {ts : List (List Nat)} {bs : Bytes} (h : DMoreTargets ts bs) :
    ∀ (fuel : Nat) (w2 r : Bytes), Blank0 w2 → ts.length ≤ fuel →
    sepListGo fuel (bs ++ (w2 ++ 93 :: r)) = (ts, w2 ++ 93 :: r) := by
  induction h with
  | nil =>
    intro fuel w2 r hw2 _
    cases fuel with
    | zero => rfl
    | succ f =>
      simp only [List.nil_append, sepListGo]
      cases w2 with
      | nil => simp [pspace1_head (headNonWs_cons (x := 93) (by decide) r)]
      | cons a as =>
        rw [pspace1_tok ⟨hw2, by simp⟩ (headNonWs_cons (x := 93) (by decide) r)]
        simp [ptargetString_not_lt (show (93 : UInt8) ≠ 60 by decide)]
  | cons t ts w tb bs hw ht _ ih =>
    intro fuel w2 r hw2 hf
    cases fuel with
    | zero => simp at hf
    | succ f =>
      simp only [List.append_assoc]
      simp only [sepListGo, pspace1_tok hw ((target_head ht).append _), ptargetString_target ht,
        ih f w2 r hw2 (by simpa using hf)]

theorem ptargets_targets {ts : List (List Nat)} {bs : Bytes} (h : DTargets ts bs) (r : Bytes) :
    palt ptargetSingle prangeTargetArray (bs ++ r) = .ok ts r := by
  cases h with
  | single t tb ht => simp [palt, ptargetSingle, ptargetString_target ht, PR.bind]
  | array t ts w1 tb more w2 hw1 ht hm hw2 =>
    have e : 91 :: w1 ++ tb ++ more ++ w2 ++ [93] ++ r = 91 :: (w1 ++ (tb ++ (more ++ (w2 ++ 93 :: r)))) := by simp
    have hlen := more_length hm
    rw [e, palt_error (by simp [ptargetSingle, ptargetString_not_lt (show (91 : UInt8) ≠ 60 by decide), PR.bind])]
    unfold prangeTargetArray
    rw [t_lb, PR.ok_bind, space0_tok hw1 ((target_head ht).append _), ptargetString_target ht, PR.ok_bind]
    rw [sepListGo_more hm _ w2 r hw2 (by simp only [List.length_append]; omega)]
    simp only
    rw [space0_tok hw2 (headNonWs_cons (by decide) r), t_rb, PR.ok_bind]

theorem targets_head {ts : List (List Nat)} {bs : Bytes} (h : DTargets ts bs) : HeadNonWs bs := by
  cases h with
  | single t tb ht => exact target_head ht
  | array => exact headNonWs_cons (by decide) _

theorem pbfCharLine_line {l : (Nat × Nat) × List Nat} {bs : Bytes} (h : DCharLine l bs) (x : UInt8) (r : Bytes)
    (hx : NonWs x) : pbfCharLine (bs ++ x :: r) = .ok l (x :: r) := by
  cases h with
  | mk c t s w tb m hs hw ht hm =>
    simp only [List.append_assoc]
    unfold pbfCharLine
    rw [space0_head ((src_head hs).append _), psourceCode_src hs, PR.ok_bind,
      space0_tok hw ((target_head ht).append _), ptargetString_target ht, PR.ok_bind,
      pms1_tok hm (headNonWs_cons hx r), PR.ok_bind]

theorem pbfRangeLine_line {l : (Nat × Nat × Nat) × List (List Nat)} {bs : Bytes} (h : DRangeLine l bs) (x : UInt8)
    (r : Bytes) (hx : NonWs x) : pbfRangeLine (bs ++ x :: r) = .ok l (x :: r) := by
  cases h with
  | mk p ts pb w tb m hp hw ht hm =>
    simp only [List.append_assoc]
    unfold pbfRangeLine
    rw [space0_head ((pair_head hp).append _), pcodeRangePair_pair hp, PR.ok_bind]
    simp only [space0_tok hw ((targets_head ht).append _), ptargets_targets ht, PR.bind,
      pms1_tok hm (headNonWs_cons hx r)]

theorem pcsLine_line {l : Nat × Nat × Nat} {bs : Bytes} (h : DCsLine l bs) (x : UInt8) (r : Bytes) (hx : NonWs x) :
    pcsLine (bs ++ x :: r) = .ok l (x :: r) := by
  cases h with
  | mk pb m hp hm =>
    simp only [List.append_assoc]
    unfold pcsLine
    rw [space0_head ((pair_head hp).append _), pcodeRangePair_pair hp, PR.ok_bind,
      pms1_tok hm (headNonWs_cons hx r), PR.ok_bind]

theorem charLine_head {l : (Nat × Nat) × List Nat} {bs : Bytes} (h : DCharLine l bs) : HeadNonWs bs := by
  cases h with
  | mk c t s w tb m hs _ _ _ => exact (((src_head hs).append _).append _).append _

theorem rangeLine_head {l : (Nat × Nat × Nat) × List (List Nat)} {bs : Bytes} (h : DRangeLine l bs) : HeadNonWs bs := by
  cases h with
  | mk p ts pb w tb m hp _ _ _ => exact (((pair_head hp).append _).append _).append _

theorem csLine_head {l : Nat × Nat × Nat} {bs : Bytes} (h : DCsLine l bs) : HeadNonWs bs := by
  cases h with
  | mk pb m hp _ => exact (pair_head hp).append _

theorem line_stops {l : Bytes} (h : Head (fun y => NonWs y ∧ y ≠ 60) l) :
    pbfCharLine l = .error ∧ pbfRangeLine l = .error ∧ pcsLine l = .error := by
  obtain ⟨y, r, rfl, hy, h60⟩ := h
  have : psourceCode (space0 (y :: r)) = .error := by
    simp [space0_head (headNonWs_cons hy r), psourceCode, t_lt_ne h60, PR.bind]
  simp [pbfCharLine, pbfRangeLine, pcsLine, pcodeRangePair, this, PR.bind]

/-! ### lists of items

`Q` is the class of the bytes an item may be followed by: every item starts with such a byte, and
so does the text after the list. -/

theorem dlist_head {α : Type} {D : α → Bytes → Prop} {Q : UInt8 → Prop} (hhead : ∀ a b, D a b → Head Q b)
    {ls : List α} {bs : Bytes} (h : DList D ls bs) (hne : ls ≠ []) : Head Q bs := by
  cases h with
  | nil => exact absurd rfl hne
  | cons a as b bs ha _ => exact (hhead a b ha).append _

theorem dlist_head_append {α : Type} {D : α → Bytes → Prop} {Q : UInt8 → Prop} (hhead : ∀ a b, D a b → Head Q b)
    {ls : List α} {bs : Bytes} (h : DList D ls bs) {tail : Bytes} (htail : Head Q tail) : Head Q (bs ++ tail) := by
  cases h with
  | nil => exact htail
  | cons a as b bs ha _ => exact ((hhead a b ha).append _).append _

theorem dlist_length {α : Type} {D : α → Bytes → Prop} {Q : UInt8 → Prop} (hhead : ∀ a b, D a b → Head Q b)
    {ls : List α} {bs : Bytes} (h : DList D ls bs) : ls.length ≤ bs.length := by
  induction h with
  | nil => simp
  | cons a as b bs ha _ ih =>
    have := (hhead a b ha).length_pos
    simp only [List.length_cons, List.length_append]; omega

theorem many0Go_dlist {α : Type} (p : Bytes → PR α) (D : α → Bytes → Prop) (Q : UInt8 → Prop)
    (hp : ∀ a b, D a b → ∀ (x : UInt8) (rest : Bytes), Q x → p (b ++ x :: rest) = .ok a (x :: rest))
    (hhead : ∀ a b, D a b → Head Q b)
    {tail : Bytes} (htail : Head Q tail) (hstop : p tail = .error)
    {ls : List α} {bs : Bytes} (h : DList D ls bs) :
    ∀ (fuel : Nat), ls.length ≤ fuel → many0Go p fuel (bs ++ tail) = .ok ls tail := by
  induction h with
  | nil =>
    intro fuel _
    cases fuel with
    | zero => rfl
    | succ f => simp [many0Go, hstop]
  | cons a as b bs ha hrest ih =>
    intro fuel hf
    cases fuel with
    | zero => simp at hf
    | succ f =>
      obtain ⟨x, t, e, hx⟩ := dlist_head_append hhead hrest htail
      have hlen : ¬ (x :: t).length ≥ (b ++ x :: t).length := by
        have := (hhead a b ha).length_pos
        simp only [List.length_append, List.length_cons]; omega
      rw [List.append_assoc, e]
      simp only [many0Go, hp a b ha x t hx, hlen, if_false]
      rw [← e, ih f (by simpa using hf), PR.ok_bind]

theorem pmany1_eq_many0 {α : Type} {p : Bytes → PR α} {i r : Bytes} {a : α} (h : p i = .ok a r) :
    pmany1 p i = many0Go p (r.length + 1) i := by
  simp only [pmany1, many0Go, h, PR.bind]

theorem pmany1_dlist {α : Type} (p : Bytes → PR α) (D : α → Bytes → Prop) (Q : UInt8 → Prop)
    (hp : ∀ a b, D a b → ∀ (x : UInt8) (rest : Bytes), Q x → p (b ++ x :: rest) = .ok a (x :: rest))
    (hhead : ∀ a b, D a b → Head Q b)
    {tail : Bytes} (htail : Head Q tail) (hstop : p tail = .error)
    {ls : List α} {bs : Bytes} (h : DList D ls bs) (hne : ls ≠ []) :
    pmany1 p (bs ++ tail) = .ok ls tail := by
  cases h with
  | nil => exact absurd rfl hne
  | cons a as b bs ha hrest =>
    obtain ⟨x, t, e, hx⟩ := dlist_head_append hhead hrest htail
    have h1 : p (b ++ bs ++ tail) = .ok a (bs ++ tail) := by
      rw [List.append_assoc, e]; exact hp a b ha x t hx
    rw [pmany1_eq_many0 h1]
    refine many0Go_dlist p D Q hp hhead htail hstop (.cons a as b bs ha hrest) _ ?_
    have := dlist_length hhead hrest
    simp only [List.length_cons, List.length_append]; omega

theorem digits_kw_then {α : Type} {n w : Bytes} (hn : AllDigitsC n) (hw : Blank1 w) {kw : String}
    (hk : HeadNonWs (strBytes kw)) (p : Bytes → PR α) (t : Bytes) :
    (pdigit1 >>> pspace1 >>> ptagS kw >>> p) (n ++ (w ++ (strBytes kw ++ t))) = p t := by
  rw [pthen_ok (pdigit1_tok hn hw _), pthen_ok (pspace1_tok hw (hk.append t)), pthen_ok (ptagS_append kw t)]

theorem digits_blank_kw (n w : Bytes) (kw : String) (t : Bytes) (hn : AllDigitsC n) (hw : Blank1 w)
    (hk : HeadNonWs (strBytes kw)) :
    (pdigit1 >>> pspace1 >>> ptagS kw >>> fun i => PR.ok () i) (n ++ (w ++ (strBytes kw ++ t))) = .ok () t :=
  digits_kw_then hn hw hk _ t

/-- **a section of any kind, every spelling**, generic in the line parser: the lines are read until
the end keyword, where a line parser fails because it does not find `<` -/
theorem psectionOf_d {α : Type} (bk ek : String) (line : Bytes → PR α) (D : α → Bytes → Prop)
    (hp : ∀ a b, D a b → ∀ (x : UInt8) (rest : Bytes), NonWs x → line (b ++ x :: rest) = .ok a (x :: rest))
    (hhead : ∀ a b, D a b → HeadNonWs b)
    (hstop : ∀ {l}, Head (fun y => NonWs y ∧ y ≠ 60) l → line l = .error)
    (hbk : HeadNonWs (strBytes bk)) (hek : Head (fun y => NonWs y ∧ y ≠ 60) (strBytes ek))
    {ls : List α} {lb : Bytes} (hl : DList D ls lb) (hne : ls ≠ []) {n w m1 m2 : Bytes}
    (hn : AllDigitsC n) (hw : Blank1 w) (hm1 : MS1 m1) (hm2 : MS1 m2) {l : Bytes} (hl' : HeadNonWs l) :
    psectionOf bk ek line (n ++ (w ++ (strBytes bk ++ (m1 ++ (lb ++ (strBytes ek ++ (m2 ++ l))))))) = .ok ls l := by
  unfold psectionOf
  rw [digits_kw_then hn hw hbk, pthen_ok (pms1_tok hm1 ((dlist_head hhead hl hne).append _)),
    pmany1_dlist line D NonWs hp hhead ((hek.imp fun _ h => h.1).append _) (hstop (hek.append _)) hl hne, PR.ok_bind,
    pthen_ok (ptagS_append ek _), pms1_tok hm2 hl', PR.ok_bind]

theorem psectionOf_other_kw {α : Type} (bk ek : String) (line : Bytes → PR α) {k : String} {n w : Bytes} (t : Bytes)
    (hn : AllDigitsC n) (hw : Blank1 w) (hk : HeadNonWs (strBytes k)) (hne : ptagS bk (strBytes k ++ t) = .error) :
    psectionOf bk ek line (n ++ (w ++ (strBytes k ++ t))) = .error := by
  unfold psectionOf
  rw [pthen_ok (pdigit1_tok hn hw _), pthen_ok (pspace1_tok hw (hk.append t)), pthen_error hne]
  rfl

theorem psectionAlt_d {s : Section} {bs : Bytes} (h : DSection s bs) (x : UInt8) (rest : Bytes) (hx : NonWs x) :
    palt pcsSection (palt pbfCharSection pbfRangeSection) (bs ++ x :: rest) = .ok s (x :: rest) := by
  have hxr := headNonWs_cons hx rest
  cases h with
  | cs ls n w m1 lb m2 hn hw hm1 hne hl hm2 =>
    simp only [↓ List.append_assoc]
    refine palt_ok ?_ _
    rw [pcsSection, psectionOf_d "begincodespacerange" "endcodespacerange" pcsLine DCsLine
      (fun _ _ h => pcsLine_line h) (fun _ _ h => csLine_head h) (fun h => (line_stops h).2.2)
      hn_begincodespacerange (by decide +kernel) hl hne hn hw hm1 hm2 hxr, PR.ok_bind]
  | bfChar ls n w m1 lb m2 hn hw hm1 hne hl hm2 =>
    simp only [↓ List.append_assoc]
    rw [palt_error, palt_ok]
    · rw [pbfCharSection, psectionOf_d "beginbfchar" "endbfchar" pbfCharLine DCharLine
        (fun _ _ h => pbfCharLine_line h) (fun _ _ h => charLine_head h) (fun h => (line_stops h).1)
        hn_beginbfchar (by decide +kernel) hl hne hn hw hm1 hm2 hxr, PR.ok_bind]
    · rw [pcsSection, psectionOf_other_kw _ _ _ _ hn hw hn_beginbfchar (ptagS_clash _ _ (by decide +kernel) _)]
      rfl
  | bfRange ls n w m1 lb m2 hn hw hm1 hne hl hm2 =>
    simp only [↓ List.append_assoc]
    rw [palt_error, palt_error, pbfRangeSection, psectionOf_d "beginbfrange" "endbfrange" pbfRangeLine DRangeLine
      (fun _ _ h => pbfRangeLine_line h) (fun _ _ h => rangeLine_head h) (fun h => (line_stops h).2.1)
      hn_beginbfrange (by decide +kernel) hl hne hn hw hm1 hm2 hxr, PR.ok_bind]
    · rw [pbfCharSection, psectionOf_other_kw _ _ _ _ hn hw hn_beginbfrange (ptagS_clash _ _ (by decide +kernel) _)]
      rfl
    · rw [pcsSection, psectionOf_other_kw _ _ _ _ hn hw hn_beginbfrange (ptagS_clash _ _ (by decide +kernel) _)]
      rfl

theorem psectionAlt_stops {y : UInt8} (hd : isDigit y = false) (r : Bytes) :
    palt pcsSection (palt pbfCharSection pbfRangeSection) (y :: r) = .error := by
  simp [palt, pcsSection, pbfCharSection, pbfRangeSection, psectionOf, pthen, pdigit1, hd, PR.bind]

theorem section_head {s : Section} {bs : Bytes} (h : DSection s bs) : Head (fun y => isDigit y = true) bs := by
  have key : ∀ {n : Bytes}, AllDigitsC n → ∀ t, Head (fun y => isDigit y = true) (n ++ t) := by
    intro n hn t
    obtain ⟨hd, hne⟩ := hn
    cases n with
    | nil => exact absurd rfl hne
    | cons b bs => exact head_cons (hd b (by simp)) _
  cases h <;> (simp only [↓ List.append_assoc]; exact key ‹_› _)

/-- **`cmap_codespace_and_mappings`, every spelling**: one or more sections of any kinds in any
order, followed by text that starts with a non-digit, non-blank byte (`endcmap`). -/
theorem psections_d {ss : List Section} {bs : Bytes} (h : DList DSection ss bs) (hne : ss ≠ [])
    {y : UInt8} (hy : NonWs y) (hd : isDigit y = false) (t : Bytes) :
    psections (bs ++ y :: t) = .ok ss (y :: t) := by
  unfold psections
  exact pmany1_dlist _ DSection NonWs (fun _ _ h => psectionAlt_d h)
    (fun _ _ h => (section_head h).imp fun _ => digit_nonws) (headNonWs_cons hy t) (psectionAlt_stops hd t) h hne

/-- not a byte PDF `space` would consume: the white space of CMap texts, NUL and FF -/
def PNonWs (x : UInt8) : Prop := NonWs x ∧ x ≠ 0 ∧ x ≠ 12

instance (x : UInt8) : Decidable (PNonWs x) := by unfold PNonWs; infer_instance

theorem digit_pnonws {d : UInt8} (h : isDigit d = true) : PNonWs d := by
  refine ⟨digit_nonws h, ?_, ?_⟩ <;> (rintro rfl; revert h; decide)

theorem pdfSpaceGo_ps {w : Bytes} (h : PS w) : ∀ (fuel : Nat) (x : UInt8) (r : Bytes), PNonWs x → w.length < fuel →
    pdfSpaceGo fuel (w ++ x :: r) = x :: r := by
  induction h with
  | nil =>
    rintro (_ | f) x r ⟨⟨h1, h2, h3, h4, h5⟩, h6, h7⟩ hf
    · cases hf
    · rw [List.nil_append, pdfSpaceGo, if_neg (by simp [WHITESPACE, h1, h2, h3, h4, h6, h7]), if_neg h5]
  | ws b bs hb _ ih =>
    rintro (_ | f) x r hx hf
    · cases hf
    · have hc : WHITESPACE.contains b = true := by rcases hb with rfl | rfl | rfl | rfl | rfl | rfl <;> decide
      rw [List.cons_append, pdfSpaceGo, if_pos hc]
      exact ih f x r hx (Nat.lt_of_succ_lt_succ hf)
  | comment body e bs hbody he _ ih =>
    rintro (_ | f) x r hx hf
    · cases hf
    · rw [List.append_assoc, List.cons_append, List.cons_append, pdfSpaceGo, if_neg (by decide), if_pos rfl]
      simp only [skipToEol_body body e _ hbody he]
      refine ih f x r hx ?_
      simp only [List.length_append, List.length_cons] at hf; omega

theorem pdfSpace_tok {w l : Bytes} (h : PS w) (hl : Head PNonWs l) : pdfSpace (w ++ l) = l := by
  obtain ⟨x, r, rfl, hx⟩ := hl
  exact pdfSpaceGo_ps h _ x r hx (by simp only [List.length_append, List.length_cons]; omega)

theorem nameBody_stop {nm : Bytes} (h : PlainName nm) {l : Bytes} (hl : Head (fun b => CMap.isRegular b = false) l) :
    nameBody (nm ++ l) = l := by
  obtain ⟨b, r, rfl, hb⟩ := hl
  have h35 : ¬ (b = 35) := by rintro rfl; revert hb; decide
  induction nm with
  | nil =>
    rw [List.nil_append]
    unfold nameBody
    simp only [h35, if_false, hb, Bool.false_eq_true]
  | cons c cs ih =>
    obtain ⟨h1, h2⟩ := h c List.mem_cons_self
    rw [List.cons_append]
    unfold nameBody
    simp only [h2, if_false, h1, if_true]
    exact ih (fun x hx => h x (List.mem_cons_of_mem _ hx))

theorem simpleLit_d (cs : Bytes) (r : Bytes) (h : ∀ c ∈ cs, c ≠ 40 ∧ c ≠ 41 ∧ c ≠ 92 ∧ c ≠ 13 ∧ c ≠ 10) :
    simpleLit (cs ++ 41 :: r) = some r := by
  induction cs with
  | nil => simp [simpleLit]
  | cons c cs ih =>
    obtain ⟨h1, h2, h3, h4, h5⟩ := h c List.mem_cons_self
    have hn : NOT_DIRECT_LITERAL.contains c = false := by
      simp [NOT_DIRECT_LITERAL, h1, h2, h3, h4, h5]
    simp only [List.cons_append, simpleLit, h2, if_false, hn, Bool.false_eq_true]
    exact ih (fun x hx => h x (List.mem_cons_of_mem _ hx))

/-- what may follow an entry: the `/` of the next key or the closing `>>` -/
def EntryStop (x : UInt8) : Prop := x = 47 ∨ x = 62

theorem ps_head {sp l : Bytes} (hsp : PS sp) (hl : Head EntryStop l) :
    Head (fun b => CMap.isRegular b = false ∧ isDigit b = false) (sp ++ l) := by
  cases hsp with
  | nil => exact hl.imp (by rintro _ (rfl | rfl) <;> decide)
  | ws b bs hb _ => exact head_cons (by rcases hb with rfl | rfl | rfl | rfl | rfl | rfl <;> decide) _
  | comment body e bs _ _ _ => exact head_cons (P := fun b => CMap.isRegular b = false ∧ isDigit b = false) (by decide) _

theorem psimpleValue_d {v : Bytes} (h : DSimpleValue v) {sp l : Bytes} (hsp : PS sp) (hl : Head EntryStop l) :
    psimpleValue (v ++ (sp ++ l)) = .ok () l := by
  have hsl := ps_head hsp hl
  have hsp' : pdfSpace (sp ++ l) = l := pdfSpace_tok hsp (hl.imp (by rintro _ (rfl | rfl) <;> decide))
  match h with
  | .lit cs hcs =>
    rw [List.append_assoc, List.cons_append, List.cons_append, List.nil_append, psimpleValue, if_pos rfl]
    simp only [simpleLit_d cs _ hcs, hsp']
  | .int n hn =>
    obtain ⟨hd, hne⟩ := hn
    obtain ⟨b, t, hbt, _, hbd⟩ := hsl
    have htd : takeDigits (n ++ (sp ++ l)) = sp ++ l := by rw [hbt]; exact takeDigits_digits n b t hd hbd
    obtain ⟨x, r, rfl, hx⟩ := hl
    have hx' : ¬ (isDigit x = true ∨ x = 46) := by rcases hx with rfl | rfl <;> decide
    cases n with
    | nil => exact absurd rfl hne
    | cons d ds =>
      have hd' := hd d (by simp)
      have h40 : ¬ (d = 40) := by rintro rfl; revert hd'; decide
      rw [List.cons_append] at htd ⊢
      rw [psimpleValue, if_neg h40, if_pos hd']
      simp only [htd, hsp', hx', if_false]
  | .name nm hnm =>
    rw [List.cons_append, psimpleValue, if_neg (by decide), if_neg (by decide), if_pos rfl,
      nameBody_stop hnm (hsl.imp fun _ h => h.1), hsp']

theorem value_head {v : Bytes} (h : DSimpleValue v) : Head PNonWs v := by
  match h with
  | .lit cs _ => exact head_cons (by decide) _
  | .int n hn =>
    obtain ⟨hd, hne⟩ := hn
    cases n with
    | nil => exact absurd rfl hne
    | cons d ds => exact head_cons (digit_pnonws (hd d (by simp))) _
  | .name nm _ => exact head_cons (by decide) _

theorem pdictEntry_d {bs : Bytes} (h : DDictEntry bs) (x : UInt8) (r : Bytes) (hx : EntryStop x) :
    pdictEntry (bs ++ x :: r) = .ok () (x :: r) := by
  cases h with
  | mk nm sp1 v sp2 hnm hsp1 hv hsep hsp2 =>
    have hvh := (value_head hv).append (sp2 ++ x :: r)
    have e : 47 :: nm ++ sp1 ++ v ++ sp2 ++ x :: r = 47 :: (nm ++ (sp1 ++ (v ++ (sp2 ++ x :: r)))) := by simp
    -- the name stops at the white space, or at the delimiter that starts the value
    have hstop : Head (fun b => CMap.isRegular b = false) (sp1 ++ (v ++ (sp2 ++ x :: r))) := by
      cases hsp1 with
      | nil =>
        rcases hsep with h | ⟨t, rfl⟩ | ⟨t, rfl⟩
        · exact absurd rfl h
        · exact head_cons (P := fun b => CMap.isRegular b = false) (by decide) _
        · exact head_cons (P := fun b => CMap.isRegular b = false) (by decide) _
      | ws b bs hb _ => exact head_cons (by rcases hb with rfl | rfl | rfl | rfl | rfl | rfl <;> decide) _
      | comment body e' bs _ _ _ => exact head_cons (P := fun b => CMap.isRegular b = false) (by decide) _
    rw [e]
    unfold pdictEntry pname
    rw [t_slash, PR.ok_bind, PR.ok_bind, nameBody_stop hnm hstop, pdfSpace_tok hsp1 hvh]
    exact psimpleValue_d hv hsp2 (head_cons hx r)

theorem entry_head {bs : Bytes} (h : DDictEntry bs) : Head EntryStop bs := by
  cases h; exact head_cons (Or.inl rfl) _

theorem pdictEntry_stop (t : Bytes) : pdictEntry (62 :: t) = .error := by
  have : ptagS "/" (62 :: t) = .error := ptagS_head_ne (c := 47) (by decide +kernel) (head_cons (by decide) t)
  simp [pdictEntry, pname, this, PR.bind]

theorem pdictionary_d {sp0 ents : Bytes} {el : List Unit} (hsp0 : PS sp0)
    (hents : DList (fun (_ : Unit) => DDictEntry) el ents) (t : Bytes) :
    pdictionary (60 :: 60 :: (sp0 ++ (ents ++ 62 :: 62 :: t))) = .ok () t := by
  have hhead : ∀ (a : Unit) b, DDictEntry b → Head EntryStop b := fun _ _ h => entry_head h
  have h62 : Head EntryStop (62 :: 62 :: t) := head_cons (Or.inr rfl) _
  have hl := dlist_length hhead hents
  have hlt : ∀ r, ptagS "<<" (60 :: 60 :: r) = .ok () r := ptagS_bytes (bs := [60, 60]) (by decide +kernel)
  unfold pdictionary
  rw [hlt, PR.ok_bind,
    pdfSpace_tok hsp0 ((dlist_head_append hhead hents h62).imp (by rintro _ (rfl | rfl) <;> decide)),
    many0Go_dlist pdictEntry _ EntryStop (fun _ _ h => pdictEntry_d h) hhead h62 (pdictEntry_stop _) hents _
      (by simp only [List.length_append]; omega),
    PR.ok_bind]
  exact ptagS_bytes (bs := [62, 62]) (by decide +kernel) t

/-- `/CIDSystemInfo << … >> def` -/
theorem pcidSystemInfo_d {m0 sp0 ents m1 m2 : Bytes} {el : List Unit} (hm0 : MS m0) (hsp0 : PS sp0)
    (hents : DList (fun (_ : Unit) => DDictEntry) el ents) (hm1 : MS1 m1) (hm2 : MS1 m2) {l : Bytes} (hl : HeadNonWs l) :
    pcidSystemInfo (strBytes "/CIDSystemInfo" ++ (m0 ++ (60 :: 60 :: (sp0 ++ (ents ++ (62 :: 62 :: (m1 ++ (strBytes "def" ++ (m2 ++ l)))))))))
      = .ok () l := by
  unfold pcidSystemInfo
  rw [pthen_ok (ptagS_append _ _), pthen_ok (pms0_tok hm0 (headNonWs_cons (by decide) _)),
    pthen_ok (palt_ok (pdictionary_d hsp0 hents _) _), pthen_ok (pms1_tok hm1 (hn_def.append _)),
    pthen_ok (ptagS_append _ _)]
  exact pms1_tok hm2 hl

/-- `/CMapName /name def` -/
theorem pcmapName_d {w0 nm w1 m : Bytes} (hw0 : Blank0 w0) (hnm : PlainName nm) (hw1 : Blank1 w1) (hm : MS1 m)
    {l : Bytes} (hl : HeadNonWs l) :
    pcmapName (strBytes "/CMapName" ++ (w0 ++ (47 :: (nm ++ (w1 ++ (strBytes "def" ++ (m ++ l))))))) = .ok () l := by
  have hnb : pname (47 :: (nm ++ (w1 ++ (strBytes "def" ++ (m ++ l))))) = .ok () (w1 ++ (strBytes "def" ++ (m ++ l))) := by
    have hb : Head (fun b => CMap.isRegular b = false) (w1 ++ (strBytes "def" ++ (m ++ l))) := by
      obtain ⟨hb0, hne⟩ := hw1
      cases w1 with
      | nil => exact absurd rfl hne
      | cons b bs => exact head_cons (by rcases hb0 b (by simp) with rfl | rfl <;> decide) _
    rw [pname, t_slash, PR.ok_bind, nameBody_stop hnm hb]
  unfold pcmapName
  rw [pthen_ok (ptagS_append _ _), pthen_ok (pspace0_tok hw0 (headNonWs_cons (by decide) _)), pthen_ok hnb,
    pthen_ok (pspace1_tok hw1 (hn_def.append _)), pthen_ok (ptagS_append _ _)]
  exact pms1_tok hm hl

/-- `/CMapType n def` -/
theorem pcmapType_d {w0 n w1 m : Bytes} (hw0 : Blank1 w0) (hn : AllDigitsC n) (hw1 : Blank1 w1) (hm : MS1 m)
    {l : Bytes} (hl : HeadNonWs l) :
    pcmapType (strBytes "/CMapType" ++ (w0 ++ (n ++ (w1 ++ (strBytes "def" ++ (m ++ l)))))) = .ok () l := by
  unfold pcmapType
  rw [pthen_ok (ptagS_append _ _), pthen_ok (pspace1_tok hw0 (digits_headNonWs hn _)), digits_kw_then hn hw1 hn_def]
  exact pms1_tok hm hl

theorem pmetaItem_d {bs : Bytes} (h : DMeta bs) (x : UInt8) (r : Bytes) (hx : NonWs x) :
    pmetaItem (bs ++ x :: r) = .ok () (x :: r) := by
  have hxr := headNonWs_cons hx r
  unfold pmetaItem
  cases h with
  | cid m0 sp0 ents m1 m2 el hm0 hsp0 hents hm1 hm2 =>
    simp only [↓ List.append_assoc, List.cons_append, List.nil_append]
    exact palt_ok (pcidSystemInfo_d hm0 hsp0 hents hm1 hm2 hxr) _
  | name w0 nm w1 m hw0 hnm hw1 hm =>
    simp only [↓ List.append_assoc, List.cons_append]
    rw [palt_error, palt_ok (pcmapName_d hw0 hnm hw1 hm hxr)]
    exact pthen_error (ptagS_clash _ _ (by decide +kernel) _) _
  | type w0 n w1 m hw0 hn hw1 hm =>
    simp only [↓ List.append_assoc]
    rw [palt_error, palt_error, pcmapType_d hw0 hn hw1 hm hxr]
    · exact pthen_error (ptagS_clash _ _ (by decide +kernel) _) _
    · exact pthen_error (ptagS_clash _ _ (by decide +kernel) _) _

theorem metaKw_head : Head (fun y => y = 47) (strBytes "/CIDSystemInfo") ∧ Head (fun y => y = 47) (strBytes "/CMapName") ∧
    Head (fun y => y = 47) (strBytes "/CMapType") := by decide +kernel

theorem meta_head {bs : Bytes} (h : DMeta bs) : Head (fun y => y = 47) bs := by
  cases h with
  | cid => simp only [↓ List.append_assoc]; exact metaKw_head.1.append _
  | name => simp only [↓ List.append_assoc]; exact metaKw_head.2.1.append _
  | type => simp only [↓ List.append_assoc]; exact metaKw_head.2.2.append _

theorem pmetaItem_stop {l : Bytes} (h : Head (fun y => y ≠ 47) l) : pmetaItem l = .error := by
  simp only [pmetaItem, pcidSystemInfo, pcmapName, pcmapType, palt, pthen, ptagS_head_ne metaKw_head.1 h,
    ptagS_head_ne metaKw_head.2.1 h, ptagS_head_ne metaKw_head.2.2 h, PR.bind]

/-- `fold_many_m_n` over the metadata items only counts what `many0` collects -/
theorem pmetaGo_eq_many0 (n : Nat) : ∀ i : Bytes,
    pmetaGo n i = (many0Go pmetaItem n i).bind fun as r => .ok as.length r := by
  induction n with
  | zero => intro i; rfl
  | succ n ih =>
    intro i
    simp only [pmetaGo, many0Go]
    cases pmetaItem i with
    | ok a r =>
      by_cases hl : r.length ≥ i.length
      · simp only [hl, if_true]; rfl
      · simp only [hl, if_false, ih r]
        cases many0Go pmetaItem n r <;> rfl
    | error => rfl
    | failure => rfl

/-- **`cmap_metadata`**: one to four items, up to the first section (which starts with a digit) -/
theorem pmetadata_d {ls : List Unit} {bs : Bytes} (h : DList (fun (_ : Unit) => DMeta) ls bs) (h1 : 1 ≤ ls.length)
    (h4 : ls.length ≤ 4) {l : Bytes} (hl : Head (fun y => isDigit y = true) l) : pmetadata (bs ++ l) = .ok () l := by
  have hhead : ∀ (a : Unit) b, DMeta b → HeadNonWs b := fun _ _ h => (meta_head h).imp (by rintro _ rfl; decide)
  have hk : ¬ (ls.length < 1) := by omega
  rw [pmetadata, pmetaGo_eq_many0,
    many0Go_dlist pmetaItem _ NonWs (fun _ _ h => pmetaItem_d h) hhead (hl.imp fun _ => digit_nonws)
      (pmetaItem_stop (hl.imp (by rintro _ h rfl; revert h; decide))) h 4 h4,
    PR.ok_bind, PR.ok_bind, if_neg hk]

/-- the first line: `/CIDInit /ProcSet findresource begin` with free separators -/
theorem frame_procset {m0 b1 ps b2 b3 m1 T : Bytes} (hm0 : MS m0) (hb1 : Blank0 b1)
    (hps : ps = strBytes "/ProcSet" ∨ ps = strBytes "/Procset") (hb2 : Blank1 b2) (hb3 : Blank1 b3) (hm1 : MS1 m1)
    (hT : HeadNonWs T) :
    pcidinitProcset (m0 ++ (strBytes "/CIDInit" ++ (b1 ++ (ps ++ (b2 ++ (strBytes "findresource" ++ (b3 ++
      (strBytes "begin" ++ (m1 ++ T))))))))) = .ok () T := by
  have hps' : HeadNonWs ps := by rcases hps with rfl | rfl; exact hn_s_ProcSet; exact hn_s_Procset
  have hpsalt : ∀ t : Bytes, palt (ptagS "/ProcSet") (ptagS "/Procset") (ps ++ t) = .ok () t := by
    intro t
    rcases hps with rfl | rfl
    · exact palt_ok (ptagS_append _ _) _
    · rw [palt_error (ptagS_clash _ _ (by decide +kernel) t)]; exact ptagS_append _ _
  unfold pcidinitProcset
  rw [pthen_ok (pms0_tok hm0 (hn_s_CIDInit.append _)), pthen_ok (ptagS_append _ _),
    pthen_ok (pspace0_tok hb1 (hps'.append _)), pthen_ok (hpsalt _),
    pthen_ok (pspace1_tok hb2 (hn_findresource.append _)), pthen_ok (ptagS_append _ _),
    pthen_ok (pspace1_tok hb3 (hn_begin.append _)), pthen_ok (ptagS_append _ _)]
  exact pms1_tok hm1 hT

/-- `<n> dict begin` -/
theorem frame_dict {n b4 b5 m2 T : Bytes} (hn : AllDigitsC n) (hb4 : Blank1 b4) (hb5 : Blank1 b5) (hm2 : MS1 m2)
    (hT : HeadNonWs T) :
    (pdigit1 >>> pspace1 >>> ptagS "dict" >>> pspace1 >>> ptagS "begin" >>> pms1)
      (n ++ (b4 ++ (strBytes "dict" ++ (b5 ++ (strBytes "begin" ++ (m2 ++ T)))))) = .ok () T := by
  rw [digits_kw_then hn hb4 hn_dict, pthen_ok (pspace1_tok hb5 (hn_begin.append _)), pthen_ok (ptagS_append _ _)]
  exact pms1_tok hm2 hT

/-- `endcmap CMapName currentdict /CMap defineresource pop` -/
theorem frame_end {m4 b6 b7 b8 b9 m5 T : Bytes} (hm4 : MS1 m4) (hb6 : Blank1 b6) (hb7 : Blank1 b7) (hb8 : Blank1 b8)
    (hb9 : Blank1 b9) (hm5 : MS1 m5) (hT : HeadNonWs T) :
    pcmapEnd (strBytes "endcmap" ++ (m4 ++ (strBytes "CMapName" ++ (b6 ++ (strBytes "currentdict" ++ (b7 ++
      (strBytes "/CMap" ++ (b8 ++ (strBytes "defineresource" ++ (b9 ++ (strBytes "pop" ++ (m5 ++ T)))))))))))) = .ok () T := by
  unfold pcmapEnd
  rw [pthen_ok (ptagS_append _ _), pthen_ok (pms1_tok hm4 (hn_CMapName.append _)),
    pthen_ok (ptagS_append _ _), pthen_ok (pspace1_tok hb6 (hn_currentdict.append _)),
    pthen_ok (ptagS_append _ _), pthen_ok (pspace1_tok hb7 (hn_s_CMap.append _)),
    pthen_ok (ptagS_append _ _), pthen_ok (pspace1_tok hb8 (hn_defineresource.append _)),
    pthen_ok (ptagS_append _ _), pthen_ok (pspace1_tok hb9 (hn_pop.append _)),
    pthen_ok (ptagS_append _ _)]
  exact pms1_tok hm5 hT

/-- **`cmap_parser::parse`, every text of the grammar.** Whatever blanks, end-of-line bytes,
comments, hexadecimal case, counts, array / single targets, section kinds and order, and metadata
(`/CMapName`, `/CMapType`, 1 to 4 items in any order) the producer chose within the frame,
`parse` returns exactly the sections the text denotes. -/
theorem parseCMap_complete {ss : List Section} {text : Bytes} (h : DerivesCMapText ss text) :
    parseCMap text = some ss := by
  cases h with
  | mk m0 b1 ps b2 b3 m1 n b4 b5 m2 m3 metas secs m4 b6 b7 b8 b9 m5 m6 trail metaL
      hm0 hb1 hps hb2 hb3 hm1 hn hb4 hb5 hm2 hm3 hmetas hml1 hml4 hne hsecs hm4 hb6 hb7 hb8 hb9 hm5 hm6 =>
    -- `endcmap` starts with a byte that is neither white space nor a digit
    obtain ⟨y, t, hyt, hy, hyd⟩ : Head (fun y => NonWs y ∧ isDigit y = false) (strBytes "endcmap") := by decide +kernel
    have hsecs' := dlist_head (fun _ _ h => section_head h) hsecs hne
    have hmetas' : HeadNonWs metas :=
      dlist_head (fun _ _ h => (meta_head h).imp (by rintro _ rfl; decide)) hmetas (by rintro rfl; simp at hml1)
    -- `↓`: reassociate from the root, one step per `++` (bottom-up takes quadratically many)
    simp only [↓ List.append_assoc]
    unfold parseCMap pcmapStream
    rw [frame_procset hm0 hb1 hps hb2 hb3 hm1 (digits_headNonWs hn _), PR.ok_bind]
    unfold presourceDict
    rw [frame_dict hn hb4 hb5 hm2 (hn_begincmap.append _), PR.ok_bind]
    unfold pcmapData
    rw [pthen_ok (ptagS_append _ _), pthen_ok (pms1_tok hm3 (hmetas'.append _)),
      pmetadata_d hmetas hml1 hml4 (hsecs'.append _), PR.ok_bind, hyt, List.cons_append,
      psections_d hsecs hne hy hyd, PR.ok_bind, ← List.cons_append, ← hyt,
      frame_end hm4 hb6 hb7 hb8 hb9 hm5 (hn_end.append _), PR.ok_bind, PR.ok_bind,
      pthen_ok (ptagS_append _ _), pms1_tok hm6 (hn_end.append _), PR.ok_bind, PR.ok_bind,
      pthen_ok (ptagS_append _ _)]
    rfl

end Lopdf.CMapText
