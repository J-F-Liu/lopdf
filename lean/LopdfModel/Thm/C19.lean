import LopdfModel.Model.Sink
/-
  C19 — saving to a sink that may split writes, interrupt or fail. For EVERY sink script and EVERY
  request list `saveRun_cases` says what a run looks like; the properties (delivered bytes are a
  prefix of the complete output, success means everything was delivered, chunking is invisible, a
  failure is reported, the offset counter does not depend on the sink) are read off it.
-/
namespace Lopdf

/-- `write_all` delivers a prefix of its buffer, and the whole buffer when it reports success -/
theorem writeAll_delivered (buf : Bytes) (s : List Resp) :
    (writeAll buf s).delivered <+: buf ∧ ((writeAll buf s).ok = true → (writeAll buf s).delivered = buf) := by
  unfold writeAll
  induction s, buf using writeAllS.induct with
  | case1 buf => simp [writeAllS]
  | case2 r s buf h =>
    simp only [writeAllS, h, if_true]
    exact ⟨List.nil_prefix, fun _ => (List.isEmpty_iff.mp h).symm⟩
  | case3 s buf h => simp [writeAllS, h]
  | case4 s buf h k hk ih =>
    simp only [writeAllS, h, hk, if_false, Bool.false_eq_true]
    refine ⟨?_, fun hok => ?_⟩
    · conv => rhs; rw [← List.take_append_drop k buf]
      exact (List.prefix_append_right_inj _).mpr ih.1
    · rw [ih.2 hok, List.take_append_drop]
  | case5 s buf h ih => simpa only [writeAllS, h, if_false, Bool.false_eq_true] using ih
  | case6 s buf h => simp [writeAllS, h]

/-- a response that neither fails nor is a zero-length write -/
def Resp.benign : Resp → Bool
  | .accept k => k != 0
  | .interrupted => true
  | .fail => false

theorem writeAll_benign (buf : Bytes) (s : List Resp) (hb : s.all Resp.benign = true) :
    (writeAll buf s).ok = true ∧ (writeAll buf s).script.all Resp.benign = true := by
  unfold writeAll
  induction s, buf using writeAllS.induct with
  | case1 buf => simp [writeAllS]
  | case2 r s buf h => simp only [writeAllS, h, if_true]; exact ⟨trivial, hb⟩
  | case3 s buf h => simp [Resp.benign] at hb
  | case4 s buf h k hk ih =>
    simp only [writeAllS, h, hk, if_false, Bool.false_eq_true]
    simp only [List.all_cons, Bool.and_eq_true] at hb
    exact ih hb.2
  | case5 s buf h ih =>
    simp only [writeAllS, h, if_false, Bool.false_eq_true]
    simp only [List.all_cons, Bool.and_eq_true] at hb
    exact ih hb.2
  | case6 s buf h => simp [Resp.benign] at hb

/-- **Every run**: either all requests went through, or the requests `done` did and request `c` stopped after a
prefix `p` of it — which takes a response that fails or accepts nothing. The counter has then counted `c` whole. -/
theorem saveRun_cases (chunks : List Bytes) (s : List Resp) :
    saveRun chunks s = { ok := true, delivered := chunks.flatten, counter := (chunks.map List.length).sum,
                         issued := chunks.length } ∨
    ∃ done c rest p, chunks = done ++ c :: rest ∧ p <+: c ∧ ¬ s.all Resp.benign = true ∧
      saveRun chunks s = { ok := false, delivered := (done ++ [p]).flatten,
                           counter := ((done ++ [c]).map List.length).sum, issued := done.length + 1 } := by
  induction chunks generalizing s with
  | nil => exact .inl rfl
  | cons c cs ih =>
    rw [saveRun]
    cases hok : (writeAll c s).ok
    · refine .inr ⟨[], c, cs, _, rfl, (writeAll_delivered c s).1, fun hb => ?_, ?_⟩
      · rw [(writeAll_benign c s hb).1] at hok; cases hok
      · rw [List.nil_append, List.flatten_singleton]; rfl
    · rw [(writeAll_delivered c s).2 hok]
      rcases ih (writeAll c s).script with h | ⟨done, c', rest, p, rfl, hp, hb, h⟩ <;> rw [h]
      · exact .inl rfl
      · exact .inr ⟨c :: done, c', rest, p, rfl, hp, fun hb' => hb (writeAll_benign c s hb').2, rfl⟩

/-- **Delivered bytes are a prefix of the complete output** — every sink, every failure point. -/
theorem delivered_prefix : ∀ (chunks : List Bytes) (s : List Resp),
    (saveRun chunks s).delivered <+: chunks.flatten := by
  intro chunks s
  rcases saveRun_cases chunks s with h | ⟨done, c, rest, p, rfl, hp, -, h⟩ <;> rw [h]
  · exact List.prefix_rfl
  · rw [List.flatten_append, List.flatten_append, List.flatten_singleton, List.flatten_cons]
    exact (List.prefix_append_right_inj _).mpr (hp.trans (List.prefix_append _ _))

/-- **Success means everything was delivered.** -/
theorem ok_delivers_all : ∀ (chunks : List Bytes) (s : List Resp),
    (saveRun chunks s).ok = true → (saveRun chunks s).delivered = chunks.flatten := by
  intro chunks s
  rcases saveRun_cases chunks s with h | ⟨done, c, rest, p, rfl, -, -, h⟩ <;> rw [h]
  · exact fun _ => rfl
  · exact fun hok => nomatch hok

/-- **Chunking and transient interruptions are invisible**: whatever way the sink splits the
writes (any accept sizes ≥ 1, any number of `Interrupted`), saving succeeds and — by
`ok_delivers_all` — delivers exactly the complete output. -/
theorem no_fail_ok : ∀ (chunks : List Bytes) (s : List Resp), s.all Resp.benign = true →
    (saveRun chunks s).ok = true := by
  intro chunks s hs
  rcases saveRun_cases chunks s with h | ⟨done, c, rest, p, -, -, hb, -⟩
  · rw [h]
  · exact absurd hs hb

theorem chunking_invisible (chunks : List Bytes) (s : List Resp) (h : s.all Resp.benign = true) :
    (saveRun chunks s).delivered = chunks.flatten :=
  ok_delivers_all chunks s (no_fail_ok chunks s h)

/-- **A failure is reported**: if not all requests were issued, the result is an error. -/
theorem fail_reported : ∀ (chunks : List Bytes) (s : List Resp),
    (saveRun chunks s).issued < chunks.length → (saveRun chunks s).ok = false := by
  intro chunks s
  rcases saveRun_cases chunks s with h | ⟨done, c, rest, p, -, -, -, h⟩ <;> rw [h]
  · exact fun hlt => absurd hlt (Nat.lt_irrefl _)
  · exact fun _ => rfl

/-- **Offsets do not depend on the sink**: the counter equals the total length of the requests
issued so far, for every script (short writes, interruptions, failures). -/
theorem counter_chunk_free : ∀ (chunks : List Bytes) (s : List Resp),
    (saveRun chunks s).counter = ((chunks.take (saveRun chunks s).issued).map List.length).sum := by
  intro chunks s
  rcases saveRun_cases chunks s with h | ⟨done, c, rest, p, rfl, -, -, h⟩ <;> rw [h]
  · rw [List.take_length]
  · rw [List.take_length_add_append, List.take_succ_cons, List.take_zero]

/- Non-vacuity: a sink that splits into 1-byte writes with an interruption, and one that fails. -/
example : (saveRun [[1, 2, 3], [4]] [.accept 1, .interrupted, .accept 1]).delivered = [1, 2, 3, 4] := by decide
example : (saveRun [[1, 2, 3], [4]] [.accept 2, .fail]).ok = false ∧
    (saveRun [[1, 2, 3], [4]] [.accept 2, .fail]).delivered = [1, 2] := by decide

end Lopdf
