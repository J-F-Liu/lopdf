import LopdfModel.Lemmas.CMapBuild
import LopdfModel.Lemmas.CMapGrammar
/-
  C15 — property theorems: ToUnicode CMaps decode text as the CMap defines.

  History: at the pinned commit the statement was FALSE (findings F-C15-a..e: coalesced equal
  targets, split ranges, index panic, u16 overflow panic, BOM sniffing; refuted here by proved
  counter-witnesses). The defects were fixed in /repo (9416257, 32becda); the model below is the
  fixed code, and the former counter-witnesses are kept as regression theorems (`regress_*`).
-/
namespace Lopdf.CMap
open Lopdf Lopdf.Gen Lopdf.CMapSpec

set_option linter.unusedSimpArgs false

/-- the stored offset of a single-unit target gives back `u + (c - a)`: the `u32` wrap-around of
`wrapping_sub` and `wrapping_add` cancel, and the truncation to `u16` keeps a sum that fits -/
theorem single_arith (u a c : Nat) (hac : a ≤ c) (hc : c < 4294967296)
    (hfit : u + (c - a) < 65536) :
    wrappingAdd c (wrappingSub u a) % U16 = u + (c - a) := by
  have e : c + (u + 4294967296 - a) = u + (c - a) + 4294967296 := by omega
  rw [wrappingAdd, wrappingSub, U32, U16, Nat.add_mod_mod, e, Nat.add_mod_right,
    Nat.mod_mod_of_dvd _ (by decide), Nat.mod_eq_of_lt hfit]

theorem get_eq_val {m : UMap} (hi : ∀ l, Inv 0 none (m l)) (c l : Nat) :
    get m c l =
      if badLen l then .ok none
      else match rmVal (m l) c with
        | none => .ok none
        | some t => targetAt c t := by
  rw [get, rmVal, rmGetKV_eq_find (hi l)]
  cases rmFind (m l) c <;> rfl

theorem targetAt_cp {u a c : Nat} (hac : a ≤ c) (hc : c < U32) (hfit : u + (c - a) < 65536) :
    targetAt c (.cp (wrappingSub u a)) = .ok (some [u + (c - a)]) := by
  rw [targetAt, single_arith u a c hac hc hfit]

theorem targetAt_hex {s c : Nat} {t : List Nat} (hs : s ≤ c)
    (hfit : ∀ last, t.getLast? = some last → last + (c - s) < U16) :
    targetAt c (.hex s t) = .ok (match t.getLast? with
      | none => none
      | some last => some (t.dropLast ++ [last + (c - s)])) := by
  rw [targetAt]
  cases hg : t.getLast? with
  | none => rfl
  | some last =>
    have h := hfit last hg
    simp only [if_neg (Nat.not_lt.mpr hs), Nat.mod_eq_of_lt (Nat.lt_of_le_of_lt (Nat.le_add_left ..) h),
      Nat.mod_eq_of_lt h]

theorem targetAt_arr {s c : Nat} (vs : List (List Nat)) (hs : s ≤ c) :
    targetAt c (.arr s vs) = .ok vs[c - s]? := by
  rw [targetAt, if_neg (Nat.not_lt.mpr hs)]

theorem targetAt_stored (D : Def) (hwf : D.wf) (c : Nat) (hlo : D.lo ≤ c) (hhi : c ≤ D.hi) (hc : c < U32) :
    targetAt c (storedOf D) = .ok (D.target c) := by
  cases D with
  | char code len dst =>
    obtain rfl : c = code := Nat.le_antisymm hhi hlo
    obtain ⟨_, _, _, hne, hu⟩ := hwf
    have hlast : dst.getLast hne + (c - c) < 65536 := by rw [Nat.sub_self]; exact hu _ (List.getLast_mem hne)
    have hg := List.getLast?_eq_some_getLast hne
    rcases dst with _ | ⟨u, _ | ⟨v, t⟩⟩
    · exact absurd rfl hne
    · exact (targetAt_cp (Nat.le_refl c) hc hlast).trans (by rw [Nat.sub_self]; rfl)
    · refine (targetAt_hex (Nat.le_refl c) fun last h => by cases hg.symm.trans h; exact hlast).trans ?_
      rw [hg, Nat.sub_self]
      exact congrArg (fun x => Outcome.ok (some x)) (List.dropLast_concat_getLast hne)
  | range lo hi len dsts =>
    obtain ⟨_, _, _, _, hne, hts, hshape⟩ := hwf
    have hd : c - lo ≤ hi - lo := Nat.sub_le_sub_right hhi lo
    rcases dsts with _ | ⟨t, _ | _⟩
    · exact absurd rfl hne
    · have hfit : ∀ last, t.getLast? = some last → last + (c - lo) < 65536 := fun last hg =>
        Nat.lt_of_le_of_lt (Nat.add_le_add_left hd _) (hshape last hg)
      rcases t with _ | ⟨u, _ | _⟩
      · exact absurd rfl (hts [] List.mem_cons_self).1
      · exact targetAt_cp hlo hc (hfit u rfl)
      · exact targetAt_hex hlo hfit
    · simp only [storedOf, Def.target]
      exact targetAt_arr _ hlo

/-- the start a stored target subtracts from the code (`cp` subtracts nothing) -/
def Target.start : Target → Nat
  | .hex s _ | .arr s _ => s
  | .cp _ => 0

theorem targetAt_no_panic {c : Nat} {t : Target} (h : t.start ≤ c) : (targetAt c t).isPanic = false := by
  cases t with
  | cp off => rfl
  | hex s v =>
    have hs : ¬ c < s := Nat.not_lt.mpr h
    rw [targetAt]; cases v.getLast? <;> simp only [if_neg hs] <;> rfl
  | arr s vs =>
    have hs : ¬ c < s := Nat.not_lt.mpr h
    rw [targetAt, if_neg hs]; rfl

theorem storedOf_start_le (D : Def) : (storedOf D).start ≤ D.lo := by
  unfold storedOf
  split <;> first | exact Nat.le_refl _ | exact Nat.zero_le _

theorem targetAt_stored_no_panic (D : Def) (c : Nat) (hlo : D.lo ≤ c) :
    (targetAt c (storedOf D)).isPanic = false :=
  targetAt_no_panic (Nat.le_trans (storedOf_start_le D) hlo)

theorem get_build (ds : List Def) (hok : ∀ d ∈ ds, putOk d) (c l : Nat) :
    get (buildFrom UMap.empty ds) c l =
      match lastCovering ds c l with
      | none => .ok none
      | some D => targetAt c (storedOf D) := by
  obtain ⟨hinv, hval⟩ := build_val ds UMap.empty (fun _ _ => none) inv_empty (fun _ _ => rfl) hok
  have hval : ∀ c l, rmVal (buildFrom UMap.empty ds l) c = (lastCovering ds c l).map storedOf := hval
  rw [get_eq_val hinv, hval]
  cases hl : lastCovering ds c l with
  | none => exact ite_self _
  | some D =>
    obtain ⟨hmem, rfl, _⟩ := lastCovering_some hl
    rw [badLen_false (hok D hmem).2.1 (hok D hmem).2.2]
    rfl

theorem wf_ok {d : Def} (w : d.wf) : putOk d ∧ rangeOk d := by
  cases d with
  | char code len dst => exact ⟨⟨Nat.le_refl _, w.1, w.2.1⟩, trivial⟩
  | range lo hi len dsts => exact ⟨⟨w.2.2.1, w.1, w.2.1⟩, w.2.2.1, w.2.2.2.2.1⟩

theorem wf_hi_lt {D : Def} (w : D.wf) : D.hi < U32 := by
  have hp : ∀ len, len ≤ 4 → 256 ^ len ≤ U32 := fun len h => Nat.pow_le_pow_right (by decide) h
  cases D with
  | char code len dst => exact Nat.lt_of_lt_of_le w.2.2.1 (hp len w.2.1)
  | range lo hi len dsts => exact Nat.lt_of_lt_of_le w.2.2.2.1 (hp len w.2.1)

theorem get_defines (ds : List Def) (hwf : ∀ d ∈ ds, d.wf) (c l : Nat) :
    get (buildFrom UMap.empty ds) c l = .ok (defines ds c l) := by
  rw [get_build ds fun d hd => (wf_ok (hwf d hd)).1, defines]
  cases hl : lastCovering ds c l with
  | none => rfl
  | some D =>
    obtain ⟨hmem, _, hlo, hhi⟩ := lastCovering_some hl
    exact targetAt_stored D (hwf D hmem) c hlo hhi (Nat.lt_of_le_of_lt hhi (wf_hi_lt (hwf D hmem)))

theorem fromSections_wf {ss : List Section} (hwf : ∀ d ∈ defsOf ss, d.wf) :
    fromSections ss = some (buildFrom UMap.empty (defsOf ss)) :=
  fromSections_ok ss fun d hd => (wf_ok (hwf d hd)).2

/-- **cmap_get — the full statement.** For every well-formed CMap (any mix of bfchar and bfrange
sections; 1–4-byte codes; single-unit, multi-unit incrementing and array targets; overlapping or
adjacent definitions in any order) and every code of every length: `from_sections` succeeds and
`get` returns exactly what the CMap defines — the target of the LAST definition covering the code,
the offset within the range added to the last UTF-16 unit, an array target indexed by the offset;
`none` for an unmapped code. No guard. (The bound on the code is not needed: `cmap_get_any`.) -/
theorem cmap_get (ss : List Section) (hwf : ∀ d ∈ defsOf ss, d.wf) (c l : Nat) (hc : c < U32) :
    ∃ m, fromSections ss = some m ∧ get m c l = .ok (defines (defsOf ss) c l) :=
  ⟨_, fromSections_wf hwf, get_defines _ hwf c l⟩

/-- non-vacuity of `cmap_get`: ligatures adjacent to each other with EQUAL targets, a later bfchar inside
an incrementing multi-unit range, adjacent equal arrays, a target ending in FFFF, an array with a
surrogate pair, overlapping single-unit ranges — everything the old code got wrong, all well-formed -/
example : ∀ d ∈ defsOf
      [.bfChar [((0x01, 1), [0x66, 0x69]), ((0x02, 1), [0x66, 0x69]), ((0x05, 1), [0x41, 0xFFFF]), ((0x06, 1), [0x41, 0xFFFF])],
       .bfRange [((0x10, 0x13, 1), [[0x41, 0x30]]), ((0x20, 0x21, 1), [[0xD83D, 0xDE00], [0x263a]]),
                 ((0x22, 0x23, 1), [[0xD83D, 0xDE00], [0x263a]]), ((0x30, 0x7e, 1), [[0x30]]), ((0x41, 0x5a, 1), [[0x61]])],
       .bfChar [((0x11, 1), [0x58])]],
    d.wf := by
  decide +kernel

/-- **cmap_get_no_panic** — for EVERY CMap `from_sections` accepts (targets of any shape: empty, arrays
shorter or longer than their range, incrementing targets running past FFFF) and every code of every
length, `get` does not panic: the two `code - start` subtractions cannot underflow, the array is
indexed with `.get`, the `u16` addition wraps. -/
theorem cmap_get_no_panic (ss : List Section) (hok : ∀ d ∈ defsOf ss, putOk d ∧ rangeOk d) (c l : Nat) :
    ∃ m, fromSections ss = some m ∧ (get m c l).isPanic = false := by
  refine ⟨_, fromSections_ok ss fun d hd => (hok d hd).2, ?_⟩
  rw [get_build _ fun d hd => (hok d hd).1]
  cases hl : lastCovering (defsOf ss) c l with
  | none => rfl
  | some D => exact targetAt_stored_no_panic D c (lastCovering_some hl).2.2.1

/-! ### regression: the former counter-witnesses (F-C15-a..d) on the fixed code -/

def getAfter (ss : List Section) (c l : Nat) : Option (Outcome (Option (List Nat))) :=
  (fromSections ss).map fun m => get m c l

/-- F-C15-a (fixed): two adjacent codes mapped to the same ligature both decode to it ("fifi", not "fifj"). -/
def witA : List Section := [.bfChar [((1, 1), [0x66, 0x69]), ((2, 1), [0x66, 0x69])]]
theorem regress_adjacent :
    getAfter witA 2 1 = some (.ok (defines (defsOf witA) 2 1)) ∧ defines (defsOf witA) 2 1 = some [0x66, 0x69] ∧
    (fromSections witA).map (fun m => (bytesToUnits m [1, 2])) = some (.ok [0x66, 0x69, 0x66, 0x69]) := by
  decide +kernel

/-- F-C15-b (fixed): a later bfchar inside an incrementing multi-unit range does not shift the rest. -/
def witB : List Section := [.bfRange [((0x10, 0x13, 1), [[0x41, 0x42]])], .bfChar [((0x11, 1), [0x58])]]
theorem regress_split :
    getAfter witB 0x12 1 = some (.ok (some [0x41, 0x44])) ∧ defines (defsOf witB) 0x12 1 = some [0x41, 0x44] := by
  decide +kernel

def witB' : List Section :=
  [.bfRange [((0x10, 0x12, 1), [[0x41, 0x41], [0x42, 0x42], [0x43, 0x43]])], .bfChar [((0x10, 1), [0x58])]]
theorem regress_split_array :
    getAfter witB' 0x11 1 = some (.ok (some [0x42, 0x42])) ∧ defines (defsOf witB') 0x11 1 = some [0x42, 0x42] := by
  decide +kernel

/-- F-C15-c (fixed): two adjacent array ranges with equal arrays: no index panic, the right entry. -/
def witC : List Section :=
  [.bfRange [((1, 2, 1), [[0x41, 0x41], [0x42, 0x42]]), ((3, 4, 1), [[0x41, 0x41], [0x42, 0x42]])]]
theorem regress_index :
    getAfter witC 3 1 = some (.ok (some [0x41, 0x41])) ∧ defines (defsOf witC) 3 1 = some [0x41, 0x41] := by
  decide +kernel

/-- F-C15-d (fixed): equal adjacent targets ending in FFFF: no overflow panic, the defined target. -/
def witD : List Section := [.bfChar [((1, 1), [0x41, 0xFFFF]), ((2, 1), [0x41, 0xFFFF])]]
theorem regress_overflow :
    getAfter witD 2 1 = some (.ok (some [0x41, 0xFFFF])) ∧ defines (defsOf witD) 2 1 = some [0x41, 0xFFFF] := by
  decide +kernel

theorem witnesses_wf : (∀ d ∈ defsOf witA, d.wf) ∧ (∀ d ∈ defsOf witB, d.wf) ∧ (∀ d ∈ defsOf witC, d.wf) ∧
    (∀ d ∈ defsOf witD, d.wf) := by
  decide +kernel

/-- big-endian value of a code given as its bytes -/
def codeVal (bs : List Nat) : Nat := bs.foldl (fun acc b => acc * 256 + b) 0

theorem codeVal_snoc (bs : List Nat) (b : Nat) : codeVal (bs ++ [b]) = codeVal bs * 256 + b := by
  simp [codeVal, List.foldl_append]

theorem codeVal_take_succ {bs : List Nat} {i : Nat} (h : i < bs.length) :
    codeVal (bs.take (i + 1)) = codeVal (bs.take i) * 256 + bs[i] := by
  rw [List.take_succ_eq_append_getElem h, codeVal_snoc]

def prependOk (v : List Nat) : Outcome (List Nat) → Outcome (List Nat)
  | .ok r => .ok (v ++ r)
  | .err e => .err e
  | .panic s => .panic s

theorem prependOk_nil (x : Outcome (List Nat)) : prependOk [] x = x := by cases x <;> rfl

theorem prependOk_append (u v : List Nat) (x : Outcome (List Nat)) :
    prependOk (u ++ v) x = prependOk u (prependOk v x) := by
  cases x <;> simp only [prependOk, List.append_assoc]

theorem segLoop_cons (m : UMap) (st : Nat × Nat) (b : Nat) (bs : List Nat) :
    segLoop m st (b :: bs) =
      match segStep m st b with
      | .ok (st', out) => prependOk out (segLoop m st' bs)
      | .err e => .err e
      | .panic s => .panic s := by
  rw [segLoop]; rfl

theorem segStep_hit {m : UMap} {n code b : Nat} {v : List Nat} (hn : n ≠ CMAP_SEG_MAX)
    (hg : get m (code * 256 + b) (n + 1) = .ok (some v)) : segStep m (n, code) b = .ok ((0, 0), v) := by
  simp [segStep, hn, hg]

theorem segStep_miss {m : UMap} {n code b : Nat} (hn : n ≠ CMAP_SEG_MAX)
    (hg : get m (code * 256 + b) (n + 1) = .ok none) :
    segStep m (n, code) b = .ok ((n + 1, code * 256 + b), []) := by
  simp [segStep, hn, hg]

theorem segStep_flush {m : UMap} {code b : Nat} {r : List Nat} (hr : getOrReplacement m code CMAP_SEG_MAX = .ok r) :
    segStep m (CMAP_SEG_MAX, code) b =
      match segStep m (0, 0) b with
      | .ok (st, out) => .ok (st, r ++ out)
      | .err x => .err x
      | .panic x => .panic x := by
  simp only [segStep, if_true, hr, show (0 : Nat) ≠ CMAP_SEG_MAX by decide, if_false]
  cases get m (0 * 256 + b) (0 + 1) with
  | ok o => cases o <;> simp
  | err x => rfl
  | panic x => rfl

/-! The loop on a string `bs`, seen from the start of a code: after `i < 4` bytes that matched nothing
the state is `(i, codeVal (bs.take i))` and `bs.drop i` is left. -/

theorem segLoop_miss {m : UMap} {bs : List Nat} {i : Nat} (hi : i < 4) (hl : i < bs.length)
    (hg : get m (codeVal (bs.take (i + 1))) (i + 1) = .ok none) :
    segLoop m (i, codeVal (bs.take i)) (bs.drop i) =
      segLoop m (i + 1, codeVal (bs.take (i + 1))) (bs.drop (i + 1)) := by
  rw [codeVal_take_succ hl] at hg ⊢
  rw [List.drop_eq_getElem_cons hl, segLoop_cons, segStep_miss (Nat.ne_of_lt hi) hg]
  exact prependOk_nil _

theorem segLoop_hit {m : UMap} {bs : List Nat} {i : Nat} {v : List Nat} (hi : i < 4) (hl : i < bs.length)
    (hg : get m (codeVal (bs.take (i + 1))) (i + 1) = .ok (some v)) :
    segLoop m (i, codeVal (bs.take i)) (bs.drop i) = prependOk v (segLoop m (0, 0) (bs.drop (i + 1))) := by
  rw [codeVal_take_succ hl] at hg
  rw [List.drop_eq_getElem_cons hl, segLoop_cons, segStep_hit (Nat.ne_of_lt hi) hg]

theorem segLoop_flush {m : UMap} {n code : Nat} {rest r : List Nat} (hn : 0 < n)
    (h : n = CMAP_SEG_MAX ∨ rest = []) (hr : getOrReplacement m code n = .ok r) :
    segLoop m (n, code) rest = prependOk r (segLoop m (0, 0) rest) := by
  cases rest with
  | nil => simp only [segLoop, hn, if_true, hr, Nat.lt_irrefl, if_false, prependOk, List.append_nil]
  | cons b rest =>
    obtain rfl : n = CMAP_SEG_MAX := h.resolve_right nofun
    rw [segLoop_cons, segLoop_cons, segStep_flush hr]
    cases segStep m (0, 0) b with
    | ok p => exact prependOk_append r p.2 _
    | err x => rfl
    | panic x => rfl

theorem seg_misses (m : UMap) (bs : List Nat) :
    ∀ j, j ≤ 4 → j ≤ bs.length →
      (∀ i, i < j → get m (codeVal (bs.take (i + 1))) (i + 1) = .ok none) →
      segLoop m (0, 0) bs = segLoop m (j, codeVal (bs.take j)) (bs.drop j) := by
  intro j
  induction j with
  | zero => intros; rfl
  | succ j ih =>
    intro h4 hl hmiss
    rw [ih (Nat.le_of_succ_le h4) (Nat.le_of_succ_le hl) fun i hi => hmiss i (Nat.lt_succ_of_lt hi)]
    exact segLoop_miss h4 hl (hmiss j (Nat.lt_succ_self j))

theorem seg_code (m : UMap) (bs : List Nat) {j : Nat} {v : List Nat} (h4 : j < 4) (hl : j < bs.length)
    (hmiss : ∀ i, i < j → get m (codeVal (bs.take (i + 1))) (i + 1) = .ok none)
    (hhit : get m (codeVal (bs.take (j + 1))) (j + 1) = .ok (some v)) :
    segLoop m (0, 0) bs = prependOk v (segLoop m (0, 0) (bs.drop (j + 1))) :=
  (seg_misses m bs j (Nat.le_of_lt h4) (Nat.le_of_lt hl) hmiss).trans (segLoop_hit h4 hl hhit)

theorem seg_unmatched (m : UMap) (bs : List Nat) (hne : bs ≠ [])
    (hmiss : ∀ i, i < 4 → i < bs.length → get m (codeVal (bs.take (i + 1))) (i + 1) = .ok none) :
    segLoop m (0, 0) bs = prependOk [CMAP_REPLACEMENT_CHAR] (segLoop m (0, 0) (bs.drop 4)) := by
  have hrep : ∀ c l, get m c l = .ok none → getOrReplacement m c l = .ok [CMAP_REPLACEMENT_CHAR] :=
    fun c l h => by rw [getOrReplacement, h]
  rcases Nat.le_total bs.length 4 with hle | hge
  · -- the string ends inside the unmatched code
    obtain ⟨n, hn⟩ := Nat.exists_eq_add_one_of_ne_zero (mt List.eq_nil_of_length_eq_zero hne)
    have hlast := hmiss n (by omega) (by omega)
    rw [← hn, List.take_length] at hlast
    rw [seg_misses m bs bs.length hle (Nat.le_refl _) fun i hi => hmiss i (by omega) hi,
      List.drop_length, List.take_length, List.drop_eq_nil_of_le hle]
    exact segLoop_flush (by omega) (Or.inr rfl) (hrep _ _ hlast)
  · rw [seg_misses m bs 4 (Nat.le_refl _) hge fun i hi => hmiss i hi (by omega)]
    exact segLoop_flush (by decide) (Or.inl rfl) (hrep _ _ (hmiss 3 (by decide) hge))

/-- a code (as bytes) with its target, usable for exact segmentation w.r.t. the map `m` -/
def SegOk (m : UMap) (bs v : List Nat) : Prop :=
  bs ≠ [] ∧ bs.length ≤ 4 ∧
  (∀ k, 0 < k → k < bs.length → get m (codeVal (bs.take k)) k = .ok none) ∧
  get m (codeVal bs) bs.length = .ok (some v)

/-- **segment_exact** — for every stored map and every byte string that is the concatenation of
codes (1–4 bytes each) which are mapped and none of whose proper prefixes is mapped
(prefix-free), `bytes_to_string`'s loop cuts the string into exactly these codes and emits
the concatenation of their targets; no length bound on the string. -/
theorem segment_exact (m : UMap) (codes : List (List Nat × List Nat))
    (h : ∀ p ∈ codes, SegOk m p.1 p.2) :
    bytesToUnits m (codes.flatMap (·.1)) = .ok (codes.flatMap (·.2)) := by
  unfold bytesToUnits
  induction codes with
  | nil => rfl
  | cons p codes ih =>
    obtain ⟨bs, v⟩ := p
    obtain ⟨hbs, hrest⟩ := List.forall_mem_cons.mp h
    obtain ⟨h1, h2, h3, h4⟩ : SegOk m bs v := hbs
    obtain ⟨n, hn⟩ := Nat.exists_eq_add_one_of_ne_zero (mt List.eq_nil_of_length_eq_zero h1)
    -- `bs` is the first code of the string, its last byte at position `n`
    have hcode := seg_code m (bs ++ codes.flatMap (·.1)) (j := n) (v := v) (by omega)
      (by rw [List.length_append]; omega)
      (fun i hi => by
        rw [List.take_append_of_le_length (by omega)]; exact h3 _ (Nat.succ_pos i) (by omega))
      (by rw [← hn, List.take_left' rfl]; exact h4)
    rw [List.flatMap_cons, List.flatMap_cons, hcode, ← hn, List.drop_left' rfl, ih hrest]
    rfl

/-- non-vacuity of `segment_exact`: a 1-byte and a 2-byte code in one map (prefix-free) -/
example : ∃ m, fromSections [.bfChar [((0x01, 1), [0x41]), ((0x8001, 2), [0x66, 0x69])]] = some m ∧
    SegOk m [0x01] [0x41] ∧ SegOk m [0x80, 0x01] [0x66, 0x69] := by
  refine ⟨_, rfl, ⟨by simp, by simp, ?_, by decide⟩, ⟨by simp, by simp, ?_, by decide⟩⟩
  · intro k h1 h2; simp at h2; omega
  · intro k h1 h2
    have : k = 1 := by simp at h2; omega
    subst this; decide

theorem utf16Go_encodeScalar (c : Nat) (hc : isScalar c) (rest : List Nat) :
    utf16Go none (encodeScalar c ++ rest) = c :: utf16Go none rest := by
  unfold isScalar at hc
  unfold encodeScalar
  split
  · have h1 : isHighSur c = false := by
      simp only [isHighSur, Bool.and_eq_false_iff, decide_eq_false_iff_not]; omega
    have h2 : isLowSur c = false := by
      simp only [isLowSur, Bool.and_eq_false_iff, decide_eq_false_iff_not]; omega
    simp only [List.cons_append, List.nil_append, utf16Go, h1, h2, Bool.false_eq_true, if_false]
  · -- `c - 0x10000 = 0x400 * q + r` with `q, r < 0x400`
    have hq : (c - 0x10000) / 0x400 < 0x400 := Nat.div_lt_of_lt_mul (by omega)
    have hr := Nat.mod_lt (c - 0x10000) (by decide : 0 < 0x400)
    have hqr := Nat.div_add_mod (c - 0x10000) 0x400
    generalize (c - 0x10000) / 0x400 = q at *
    generalize (c - 0x10000) % 0x400 = r at *
    have h1 : isHighSur (0xD800 + q) = true := by
      simp only [isHighSur, Bool.and_eq_true, decide_eq_true_eq]; omega
    have h2 : isLowSur (0xDC00 + r) = true := by
      simp only [isLowSur, Bool.and_eq_true, decide_eq_true_eq]; omega
    have h3 : surScalar (0xD800 + q) (0xDC00 + r) = c := by
      unfold surScalar
      rw [Nat.add_sub_cancel_left, Nat.add_sub_cancel_left, Nat.mul_comm, Nat.add_assoc, hqr]
      omega
    simp only [List.cons_append, List.nil_append, utf16Go, h1, h2, h3, if_true]

/-- **surrogates_roundtrip** — decoding the UTF-16 encoding of any list of Unicode scalar values
returns that list: every surrogate pair becomes ONE scalar value (and nothing else changes). -/
theorem surrogates_roundtrip (cs : List Nat) (h : ∀ c ∈ cs, isScalar c) :
    utf16Scalars (encodeUtf16 cs) = cs := by
  unfold utf16Scalars
  induction cs with
  | nil => rfl
  | cons c cs ih =>
    obtain ⟨hc, hcs⟩ := List.forall_mem_cons.mp h
    rw [encodeUtf16, List.flatMap_cons, utf16Go_encodeScalar c hc, ← encodeUtf16, ih hcs]

/-- **decode_exact** — end to end on the model: for a byte string of mapped, prefix-free codes whose
targets together are the UTF-16 encoding of the scalar values `cs`, `decode_text` yields exactly `cs`
(a leading U+FEFF or U+FFFE included: nothing is sniffed, F-C15-e fixed). -/
theorem decode_exact (m : UMap) (codes : List (List Nat × List Nat)) (cs : List Nat)
    (hseg : ∀ p ∈ codes, SegOk m p.1 p.2) (hcs : ∀ c ∈ cs, isScalar c)
    (henc : codes.flatMap (·.2) = encodeUtf16 cs) :
    (match bytesToUnits m (codes.flatMap (·.1)) with
     | .ok us => some (decodeUnits us)
     | _ => none) = some cs := by
  rw [segment_exact m codes hseg, henc]
  simp only [decodeUnits, surrogates_roundtrip cs hcs]

/-- F-C15-e (fixed): a text starting with U+FFFE or U+FEFF is decoded unit by unit like any other. -/
theorem regress_bom :
    decodeUnits [0xFFFE, 0x0041] = [0xFFFE, 0x41] ∧ decodeUnits [0xFEFF, 0x0041] = [0xFEFF, 0x41] := by decide

example : utf16Scalars [0xD83D, 0xDE00, 0x41] = [0x1F600, 0x41] := by decide

/-- a code (as bytes) the CMap maps to `v`, none of whose proper prefixes is mapped -/
def DefinedCode (ds : List Def) (bs v : List Nat) : Prop :=
  bs ≠ [] ∧ bs.length ≤ 4 ∧ (∀ b ∈ bs, b < 256) ∧
  (∀ k, 0 < k → k < bs.length → defines ds (codeVal (bs.take k)) k = none) ∧
  defines ds (codeVal bs) bs.length = some v

theorem segOk_of_defined {ds : List Def} (hwf : ∀ d ∈ ds, d.wf) {bs v : List Nat} (h : DefinedCode ds bs v) :
    SegOk (buildFrom UMap.empty ds) bs v := by
  obtain ⟨h1, h2, _, h4, h5⟩ := h
  refine ⟨h1, h2, fun k hk1 hk2 => ?_, ?_⟩
  · rw [get_defines ds hwf, h4 k hk1 hk2]
  · rw [get_defines ds hwf, h5]

/-- **cmap_decode — the property on the model.** For every well-formed CMap and every byte string (any
length) made of mapped codes none of whose proper prefixes is mapped, `from_sections` succeeds and
`bytes_to_string`'s loop produces exactly the concatenation of the targets the CMap defines. -/
theorem cmap_decode (ss : List Section) (hwf : ∀ d ∈ defsOf ss, d.wf)
    (codes : List (List Nat × List Nat)) (hcodes : ∀ p ∈ codes, DefinedCode (defsOf ss) p.1 p.2) :
    ∃ m, fromSections ss = some m ∧ bytesToUnits m (codes.flatMap (·.1)) = .ok (codes.flatMap (·.2)) :=
  ⟨_, fromSections_wf hwf, segment_exact _ codes fun p hp => segOk_of_defined hwf (hcodes p hp)⟩

/-- … and the decoded text: if the defined targets are the UTF-16 encoding of the scalar values `cs`,
`decode_text` returns exactly `cs` — every surrogate pair one character. -/
theorem cmap_decode_text (ss : List Section) (hwf : ∀ d ∈ defsOf ss, d.wf)
    (codes : List (List Nat × List Nat)) (hcodes : ∀ p ∈ codes, DefinedCode (defsOf ss) p.1 p.2)
    (cs : List Nat) (hcs : ∀ c ∈ cs, isScalar c) (henc : codes.flatMap (·.2) = encodeUtf16 cs) :
    ∃ m, fromSections ss = some m ∧
      (match bytesToUnits m (codes.flatMap (·.1)) with
       | .ok us => some (decodeUnits us)
       | _ => none) = some cs :=
  ⟨_, fromSections_wf hwf,
    decode_exact _ codes cs (fun p hp => segOk_of_defined hwf (hcodes p hp)) hcs henc⟩

/-- **cmap_parse_render** — the grammar model (`cmap_stream` and everything below it) reads back the
canonical writer: for every non-empty list of sections of any kinds and sizes with 1–4-byte codes and
1–256-unit targets, parsing the written stream yields exactly these sections. -/
theorem cmap_parse_render (ss : List Section) (hne : ss ≠ []) (hok : ∀ s ∈ ss, SectionOk s) :
    parseCMap (CMapRender.renderCMap ss) = some ss := parse_render ss hne hok

/-- **cmap_text_get** — from the bytes of the /ToUnicode stream to the looked-up target:
`ToUnicodeCMap::parse` of the written CMap followed by `get` returns what the CMap defines, for every
code of every length. -/
theorem cmap_text_get (ss : List Section) (hne : ss ≠ []) (hok : ∀ s ∈ ss, SectionOk s)
    (hwf : ∀ d ∈ defsOf ss, d.wf) (c l : Nat) (hc : c < U32) :
    ∃ m, (parseCMap (CMapRender.renderCMap ss)).bind fromSections = some m ∧
      get m c l = .ok (defines (defsOf ss) c l) := by
  obtain ⟨m, hm, hg⟩ := cmap_get ss hwf c l hc
  exact ⟨m, by rw [parse_render ss hne hok]; exact hm, hg⟩

/-- non-vacuity: a CMap with all three kinds of sections, an array and a surrogate pair is writable -/
example : ∀ s ∈ ([.csRange [(0, 0xFFFF, 2)], .bfChar [((0x01, 1), [0x66, 0x69]), ((0x0003, 2), [0x41])],
                  .bfRange [((0x10, 0x13, 1), [[0x41, 0x30]]), ((0x20, 0x21, 1), [[0xD83D, 0xDE00], [0x263a]])]] : List Section),
    SectionOk s := by
  simp only [List.forall_mem_cons, List.not_mem_nil, false_imp_iff, implies_true, and_true, SectionOk,
    CsLineOk, CharLineOk, RangeLineOk, CodeOk, TargetOk]
  decide +kernel

/-- the constants regenerated from the source are the documented ones: unmapped codes become
U+FFFD, codes have 1 to 4 bytes, a target string has 1 to 256 UTF-16 units -/
theorem cmap_constants_documented :
    CMAP_REPLACEMENT_CHAR = 0xFFFD ∧ CMAP_MAX_CODE_LEN = 4 ∧ CMAP_BAD_CODE_LEN = 0 ∧ CMAP_NUM_MAPS = 4 ∧
    CMAP_SEG_MAX = 4 ∧ CMAP_SRC_MIN = 1 ∧ CMAP_SRC_MAX = 4 ∧ CMAP_DST_MIN = 1 ∧ CMAP_DST_MAX = 256 := by
  decide

end Lopdf.CMap
