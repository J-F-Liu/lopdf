import LopdfModel.Thm.ReadG
import LopdfModel.Model.Content
/-
  C04 — parsing untrusted bytes never panics, aborts or hangs (the part carried by the models).
  The reader and content models keep every place where attacker-chosen numbers meet arithmetic
  as an explicit range check (`start + index` in `usize`, `start + j` in `i64`, the field
  widths of a cross-reference stream, the inline-image geometry, the nesting counter). The
  theorems state, for EVERY input, that no `panic` outcome is reachable and that buffers are
  bounded by the input; the recursion depth of the object grammar is bounded by `MAX_NESTING`
  in the model itself (`directObjects` refuses deeper nesting), and termination is Lean's own
  obligation (all functions are structural or bounded by the input length).
  `a85_no_panic` (C09), `decode_never_fails` (C16) and the totality theorems of C13 cover the
  filter, text and query entry points.

  Each proof walks the branches of its function (`fun_cases` / `fun_induction`): a branch answers
  `ok` or `err`, or is the recursive call, or hands on the panic of a callee — and then names the
  theorem that says the callee has none.
-/
namespace Lopdf
open Gen

theorem addSection_noPanic (x : XTable) (start : Nat) (es : List (Nat × Nat × Bool)) (idx : Nat) :
    (addSection x start es idx).noPanic := by
  fun_induction addSection x start es idx <;> trivial

theorem foldSections_noPanic (n : Nat) (inp : Bytes) (x : XTable) (any : Bool) :
    (foldSections n inp x any).noPanic := by
  fun_induction foldSections n inp x any
  -- the branch that hands on a panic of `addSection`
  case case4 h => exact (addSection_noPanic ..).of_eq h
  all_goals trivial

/-- the cross-reference table parser cannot panic on any input (checked `start + index`) -/
theorem pXref_noPanic (inp : Bytes) : (pXref inp).noPanic := by
  fun_cases pXref inp
  -- the branch that answers whatever `foldSections` answered, other than a table
  case case3 => exact foldSections_noPanic ..
  all_goals trivial

theorem xrefRows_noPanic (w1 w2 w3 : Nat) (start : Int) (todo j : Nat) (data : Bytes) (x : XTable) :
    (xrefRows w1 w2 w3 start todo j data x).noPanic := by
  fun_induction xrefRows w1 w2 w3 start todo j data x <;> trivial

theorem xrefSections_noPanic (w1 w2 w3 : Nat) (index : List Int) (data : Bytes) (x : XTable) :
    (xrefSections w1 w2 w3 index data x).noPanic := by
  fun_induction xrefSections w1 w2 w3 index data x
  -- the branch that hands on a panic of `xrefRows`
  case case3 h => exact (xrefRows_noPanic ..).of_eq h
  all_goals trivial

/-- decoding a cross-reference stream cannot panic on any dictionary and any content
(checked `start + j`, widths bounded by the data) -/
theorem decodeXrefStream_noPanic (d : Dict) (content : Bytes) : (decodeXrefStream d content).noPanic := by
  fun_cases decodeXrefStream d content
  -- the branch that hands on a panic of `xrefSections`, reached once all parameter checks have passed
  case case7 h => exact (xrefSections_noPanic ..).of_eq h
  all_goals trivial

/-- **Buffers of the cross-reference stream decoder are bounded by the input**: whenever
decoding gets past the parameter checks, each of the three field widths (the sizes of the
buffers `bytes1..3`) is at most the length of the stream data. -/
theorem xref_widths_bounded (d : Dict) (content : Bytes) (a b c : Int) (rest : List Int)
    (hw : (d.get W_KEY).bind intArray = some (a :: b :: c :: rest))
    (r : XTable × Nat × Dict) (hr : decodeXrefStream d content = .ok r) :
    a ≤ content.length ∧ b ≤ content.length ∧ c ≤ content.length := by
  revert hr
  fun_cases decodeXrefStream d content
  -- the one branch that answers `ok`: the widths have passed the comparison with the data
  case case5 hW _ hle _ _ _ =>
    intro _
    cases hw.symm.trans hW
    simp only [Bool.or_eq_true, decide_eq_true_eq, not_or, Int.not_lt] at hle
    omega
  all_goals (intro hr; cases hr)

/-- `ObjectStream::new` on an unfiltered stream has no arithmetic that could overflow -/
theorem objStmObjects_noPanic (d : Dict) (c : Bytes) : (objStmObjects d c).noPanic := by
  fun_cases objStmObjects d c <;> trivial

def StructDec.safe (sd : StructDec) : Prop :=
  (∀ d c s, sd.xref d c ≠ .panic s) ∧ (∀ d c s, sd.objstm d c ≠ .panic s) ∧ (∀ d s, sd.deferred d ≠ .panic s)

theorem plainDec_safe : plainDec.safe := by
  refine ⟨fun d c s => (decodeXrefStream_noPanic d c).ne_panic, fun d c s h => ?_, fun d s h => ?_⟩
  · have := objStmObjects_noPanic d c
    simp only [plainDec] at h
    cases ho : objStmObjects d c <;> rw [ho] at h this
    · cases h
    · cases h
    · exact this
  · simp only [plainDec] at h
    split at h <;> cases h

section
variable {sd : StructDec} (h : sd.safe)
include h

theorem xrefStreamAltG_noPanic (inp : Bytes) : (xrefStreamAltG sd inp).noPanic := by
  fun_cases xrefStreamAltG sd inp
  case case3 => trivial
  -- a stream, or a stream still waiting for its length: the answer is the decoder's, which has no panic
  all_goals exact (noPanic_iff _).mpr (h.1 _ _)

/-- reading one cross-reference section (table + trailer, or cross-reference stream) cannot panic -/
theorem xrefAndTrailerG_noPanic (inp : Bytes) : (xrefAndTrailerG sd inp).noPanic := by
  fun_cases xrefAndTrailerG sd inp
  -- a panic of `pXref` (1); no trailer after the table (5) or no table at all (6): the cross-reference stream instead
  case case1 hp => exact (pXref_noPanic inp).of_eq hp
  case case5 => exact xrefStreamAltG_noPanic h inp
  case case6 => exact xrefStreamAltG_noPanic h inp
  all_goals trivial

theorem hybridMergeG_noPanic (buf : Bytes) (x1 : XTable) (stm : Option Obj) :
    (hybridMergeG sd buf x1 stm).noPanic := by
  fun_cases hybridMergeG sd buf x1 stm
  -- the branch that hands on a panic of the section read at `XRefStm`
  case case5 hp => exact (xrefAndTrailerG_noPanic h _).of_eq hp
  all_goals trivial

theorem prevLoopG_noPanic (buf : Bytes) (fuel : Nat) (p : Option Obj) (seen : List Int) (x : XTable) (tr : Dict) :
    (prevLoopG sd buf fuel p seen x tr).noPanic := by
  fun_induction prevLoopG sd buf fuel p seen x tr
  -- the two branches that hand on a panic: of the section read at `Prev` (5), of the hybrid merge (9)
  case case5 hp => exact (xrefAndTrailerG_noPanic h _).of_eq hp
  case case9 hp => exact (hybridMergeG_noPanic h ..).of_eq hp
  all_goals trivial

theorem loadStepG_noPanic (buf : Bytes) (x : XTable) (n : Nat) (acc : Outcome (LObjects × List Block))
    (e : Nat × XEntry) (ha : acc.noPanic) : (loadStepG sd buf x n acc e).noPanic := by
  fun_cases loadStepG sd buf x n acc e
  -- the two branches that hand on a panic of the decoder: object stream container (6), deferred stream (12)
  case case6 ho _ => exact absurd ho (h.2.1 _ _ _)
  case case12 hd _ => exact absurd hd (h.2.2 _ _)
  all_goals trivial

theorem readObjects_noPanic (arr : List Block → List Block) (arr2 : List ObjId → List ObjId)
    (buf version mark : Bytes) (xs : Nat) (x : XTable) (tr : Dict) :
    (readObjects sd arr arr2 buf version mark xs x tr).noPanic := by
  unfold readObjects
  split
  · trivial
  · split
    · trivial
    · exact Outcome.noPanic_bind (Outcome.noPanic_foldl (loadStepG_noPanic h buf x _) _ trivial)
        fun _ _ => trivial

theorem readBody_noPanic (arr : List Block → List Block) (arr2 : List ObjId → List ObjId)
    (buf version mark : Bytes) (xs : Nat) : (readBody sd arr arr2 buf version mark xs).noPanic :=
  Outcome.noPanic_bind (xrefAndTrailerG_noPanic h _) fun _ _ =>
    Outcome.noPanic_bind (prevLoopG_noPanic h ..) fun _ _ => readObjects_noPanic h ..

end

/-- the generic reader never panics when its structural-stream decoder does not -/
theorem loadDocWithG_never_panics (sd : StructDec) (h : sd.safe) (arr : List Block → List Block) (arr2 : List ObjId → List ObjId)
    (file : Bytes) : (loadDocWithG sd arr arr2 file).noPanic := by
  rcases loadDocWithG_front file with ⟨e, he⟩ | ⟨buf, version, mark, xs, hb⟩
  · rw [he]; trivial
  · rw [hb]; exact readBody_noPanic h ..

/-- following the `Prev` chain (any length, cycles cut by `already_seen`) cannot panic -/
theorem prevLoop_noPanic (buf : Bytes) : ∀ (fuel : Nat) (p : Option Obj) (seen : List Int) (x : XTable) (tr : Dict),
    (prevLoop buf fuel p seen x tr).noPanic :=
  fun fuel p seen x tr => prevLoopG_plain buf fuel p seen x tr ▸ prevLoopG_noPanic plainDec_safe ..

/-- **Loading never panics (model).** For EVERY byte string and every merge order, the model of
`Reader::read` returns a document or an error: header search, `startxref` search, cross-reference
tables and streams with any numbers in them, `Prev` chains and cycles, object and stream
parsing with direct / indirect / cyclic Lengths, object streams — no arithmetic overflow, no
out-of-range index is reachable. -/
theorem loadDoc_never_panics (order : Option (List Nat)) (file : Bytes) : (loadDocOrd order file).noPanic := by
  unfold loadDocOrd loadDocOrd2
  rw [← loadDocWithG_plain]
  exact loadDocWithG_never_panics plainDec plainDec_safe _ _ file

/-- the inline-image length computation cannot panic (checked geometry) -/
theorem imageDataStream_noPanic (inp : Bytes) (d : Dict) : ∀ s, imageDataStream inp d ≠ .panic s := by
  intro s
  fun_cases imageDataStream inp d <;> nofun

theorem inlineImageImpl_ne_panic (inp : Bytes) (s : String) : inlineImageImpl inp ≠ .panic s := by
  fun_cases inlineImageImpl inp
  case case5 hp => exact absurd hp (imageDataStream_noPanic _ _ _)
  all_goals nofun

theorem pOperation_ne_panic (inp : Bytes) (s : String) : pOperation inp ≠ .panic s := by
  fun_cases pOperation inp
  case case1 => exact inlineImageImpl_ne_panic _ s
  all_goals nofun

theorem manyOperations_noPanic (n : Nat) (inp : Bytes) : (manyOperations n inp).noPanic := by
  fun_induction manyOperations n inp
  case case6 hp => exact absurd hp (pOperation_ne_panic _ _)
  all_goals trivial

/-- **Content decoding never panics (model)**: every byte string, incl. inline images with any
geometry, arrays and dictionaries nested to any depth. -/
theorem decodeContent_never_panics (inp : Bytes) : (decodeContent inp).noPanic :=
  manyOperations_noPanic _ _

end Lopdf
