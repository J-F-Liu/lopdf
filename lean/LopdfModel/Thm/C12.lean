import LopdfModel.Model.Pages
import LopdfModel.Lemmas.Objects
/-
  C12 — the page iterator. On an embedded page tree it yields the leaves, depth first, left to
  right: proved for any sibling stack and any budget (`run_forest`), the induction the statement
  about a whole tree needs. On any graph every id it yields was classified as a Page; termination
  on every graph is part of `run`'s (fuel-free) definition.
-/
namespace Lopdf
open Gen

/-- abstract page tree -/
inductive PT where
  | page (id : ObjId)
  | pages (id : ObjId) (kids : List PT)

mutual
def PT.size : PT → Nat
  | .page _ => 1
  | .pages _ ks => 1 + PT.sizeL ks
def PT.sizeL : List PT → Nat
  | [] => 0
  | t :: ts => t.size + PT.sizeL ts
end

mutual
def PT.leaves : PT → List ObjId
  | .page id => [id]
  | .pages _ ks => PT.leavesL ks
def PT.leavesL : List PT → List ObjId
  | [] => []
  | t :: ts => t.leaves ++ PT.leavesL ts
end

mutual
def PT.height : PT → Nat
  | .page _ => 0
  | .pages _ ks => 1 + PT.heightL ks
def PT.heightL : List PT → Nat
  | [] => 0
  | t :: ts => max t.height (PT.heightL ts)
end

def PT.id : PT → ObjId
  | .page id => id
  | .pages id _ => id

def PT.kidObj (t : PT) : Obj := .ref t.id.1 t.id.2

def PT.idsL (ts : List PT) : List Obj := ts.map PT.kidObj

/- `Embeds cls t`: the document (seen through `cls`) contains the tree: every
node's kid entry is classified as what the tree says, an intermediate node's
`Kids` are exactly its children's references. -/
mutual
def Embeds (cls : Obj → Cls) : PT → Prop
  | .page id => cls (.ref id.1 id.2) = .page id
  | .pages id ks => cls (.ref id.1 id.2) = .pages (some (PT.idsL ks)) ∧ EmbedsL cls ks
def EmbedsL (cls : Obj → Cls) : List PT → Prop
  | [] => True
  | t :: ts => Embeds cls t ∧ EmbedsL cls ts
end

theorem idsL_cons (t : PT) (ts : List PT) : PT.idsL (t :: ts) = t.kidObj :: PT.idsL ts := rfl

theorem derefAux_of_not_ref (os : Objects) (n : Nat) {o : Obj} (hn : ∀ a b, o ≠ .ref a b) :
    derefAux os n o = some o :=
  derefAux.eq_2 os n o hn

theorem deref_of_not_ref (os : Objects) {o : Obj} (hn : ∀ a b, o ≠ .ref a b) : deref os o = some o :=
  derefAux_of_not_ref os _ hn

theorem getDictionary_of_get {os : Objects} {q : ObjId} {d : Dict} (h : os.get q = some (.dict d)) :
    getDictionary os q = some d := by
  rw [getDictionary, getObject, h, Option.bind_some, deref_of_not_ref os (o := .dict d) (fun _ _ => nofun)]; rfl

theorem derefAux_not_ref (os : Objects) (n : Nat) (o o' : Obj) (h : derefAux os n o = some o') (a b : Nat) :
    o' ≠ .ref a b := by
  fun_induction derefAux os n o with
  | case1 | case2 => cases h
  | case3 _ _ _ _ _ ih => exact ih h
  | case4 _ o hn => cases h; exact hn a b

theorem run_page (cls : Obj → Cls) {kid : Obj} {id : ObjId} (rest : List Obj) (stk : List (List Obj)) {lim : Nat}
    (hc : cls kid = .page id) (hl : lim ≠ 0) :
    run cls (some (kid :: rest)) stk lim = id :: run cls (some rest) stk (lim - 1) := by
  rw [run]; simp only [hl, hc, if_false]

theorem run_pages (cls : Obj → Cls) {kid : Obj} {ks : Option (List Obj)} (rest : List Obj) (stk : List (List Obj))
    {lim : Nat} (hc : cls kid = .pages ks) (hl : lim ≠ 0) (hd : stk.length < PAGE_TREE_DEPTH_LIMIT) :
    run cls (some (kid :: rest)) stk lim = run cls ks (if rest.isEmpty then stk else rest :: stk) (lim - 1) := by
  rw [run]; simp only [hl, hc, hd, if_false, if_true]

theorem run_pop (cls : Obj → Cls) (top : List Obj) (stk : List (List Obj)) (lim : Nat) :
    run cls (some []) (top :: stk) lim = run cls (some top) stk lim := by
  rw [run]

/- Depth first, by structural recursion on the embedded tree: a tree's entry in a kid list yields
the tree's leaves and leaves the rest of the list to be read, with the budget reduced by the number
of nodes; a forest does so entry by entry. While the kids of a `Pages` node are read its remaining
siblings wait on the stack, which is why the stack must have room for the tree's height. -/
mutual
theorem run_tree (cls : Obj → Cls) : ∀ (t : PT) (rest : List Obj) (stk : List (List Obj)) (lim : Nat),
    Embeds cls t → t.size ≤ lim → stk.length + t.height ≤ PAGE_TREE_DEPTH_LIMIT →
    run cls (some (t.kidObj :: rest)) stk lim = t.leaves ++ run cls (some rest) stk (lim - t.size)
  | .page id, rest, stk, lim, hemb, hlim, _ => by
    rw [Embeds] at hemb; rw [PT.size] at hlim
    exact run_page cls (kid := (PT.page id).kidObj) rest stk hemb (Nat.ne_of_gt hlim)
  | .pages id ks, rest, stk, lim, hemb, hlim, hh => by
    rw [Embeds] at hemb; rw [PT.size] at hlim; rw [PT.height] at hh
    obtain ⟨hl, hd, hlim', hh0, hh1⟩ : lim ≠ 0 ∧ stk.length < PAGE_TREE_DEPTH_LIMIT ∧ PT.sizeL ks ≤ lim - 1 ∧
        stk.length + PT.heightL ks ≤ PAGE_TREE_DEPTH_LIMIT ∧
        stk.length + 1 + PT.heightL ks ≤ PAGE_TREE_DEPTH_LIMIT := by omega
    rw [PT.leaves, PT.size, ← Nat.sub_sub, run_pages cls (kid := (PT.pages id ks).kidObj) rest stk hemb.1 hl hd]
    cases rest with
    | nil => exact run_forest_aux cls ks stk (lim - 1) hemb.2 hlim' hh0
    | cons r rest =>
      -- the siblings wait on the stack while `ks` is enumerated
      show run cls (some (PT.idsL ks)) ((r :: rest) :: stk) (lim - 1) = _
      rw [run_forest_aux cls ks ((r :: rest) :: stk) (lim - 1) hemb.2 hlim' hh1, run_pop]
theorem run_forest_aux (cls : Obj → Cls) : ∀ (ts : List PT) (stk : List (List Obj)) (lim : Nat),
    EmbedsL cls ts → PT.sizeL ts ≤ lim → stk.length + PT.heightL ts ≤ PAGE_TREE_DEPTH_LIMIT →
    run cls (some (PT.idsL ts)) stk lim = PT.leavesL ts ++ run cls (some []) stk (lim - PT.sizeL ts)
  | [], stk, lim, _, _, _ => by rw [PT.leavesL, PT.sizeL]; rfl
  | t :: ts, stk, lim, hemb, hlim, hh => by
    rw [EmbedsL] at hemb; rw [PT.sizeL] at hlim; rw [PT.heightL] at hh
    obtain ⟨hl1, hl2, hh1, hh2⟩ : t.size ≤ lim ∧ PT.sizeL ts ≤ lim - t.size ∧
        stk.length + t.height ≤ PAGE_TREE_DEPTH_LIMIT ∧ stk.length + PT.heightL ts ≤ PAGE_TREE_DEPTH_LIMIT := by
      omega
    rw [idsL_cons, run_tree cls t _ stk lim hemb.1 hl1 hh1, run_forest_aux cls ts stk (lim - t.size) hemb.2 hl2 hh2,
      PT.leavesL, PT.sizeL, Nat.sub_sub, List.append_assoc]
end

/-- For a forest `ts` embedded in the document, any
sibling stack `stk` that leaves room for the forest's height and any budget
`lim` at least the forest's size, the iterator yields the forest's leaves in
order and continues as if the forest's entries had been consumed. -/
theorem run_forest (cls : Obj → Cls) :
    ∀ (n : Nat) (ts : List PT) (stk : List (List Obj)) (lim : Nat),
      PT.sizeL ts ≤ n →
      EmbedsL cls ts → PT.sizeL ts ≤ lim → stk.length + PT.heightL ts ≤ PAGE_TREE_DEPTH_LIMIT →
      run cls (some (PT.idsL ts)) stk lim
        = PT.leavesL ts ++ run cls (some []) stk (lim - PT.sizeL ts) :=
  fun _ ts stk lim _ => run_forest_aux cls ts stk lim

/-- the documented nesting limit of the page tree (the property's "documented limit") -/
theorem depth_limit_documented : PAGE_TREE_DEPTH_LIMIT = 256 := rfl

theorem run_done (cls : Obj → Cls) (lim : Nat) : run cls (some []) [] lim = [] := by
  rw [run]

/-- **C12, depth-first order.** If the page tree rooted at `Pages` is embedded in
the document with intermediate-node nesting within the documented limit, the
drained iterator is exactly the leaf pages, depth first, left to right
(`get_pages` numbers them 1..n by `enumerate`). The budget hypothesis is the
iterator's own `iter_limit = |objects|`; it holds whenever the nodes are
distinct objects of the document. -/
theorem iter_dfs (cls : Obj → Cls) (ks : List PT) (lim : Nat)
    (hemb : EmbedsL cls ks) (hbudget : PT.sizeL ks ≤ lim)
    (hdepth : PT.heightL ks ≤ PAGE_TREE_DEPTH_LIMIT) :
    run cls (some (PT.idsL ks)) [] lim = PT.leavesL ks := by
  rw [run_forest_aux cls ks [] lim hemb hbudget ((Nat.zero_add _).symm ▸ hdepth), run_done, List.append_nil]

/-- **C12, malformed trees.** On *any* graph — cycles, dangling or ill-typed kids,
wrong counts — every id the iterator yields was classified as a `Page`
dictionary (and `run` is total: termination is part of its definition). -/
theorem iter_only_pages (cls : Obj → Cls) :
    ∀ (k : Option (List Obj)) (stk : List (List Obj)) (lim : Nat) (id : ObjId),
      id ∈ run cls k stk lim → ∃ kid, cls kid = .page id := by
  intro k stk lim id hid
  fun_induction run cls k stk lim with
  | case1 | case8 | case9 => cases hid
  -- the one branch that yields an id: the kid classified as `.page`; all others only continue
  | case3 kid _ _ _ _ pid hc ih =>
    rcases List.mem_cons.mp hid with rfl | hid
    · exact ⟨kid, hc⟩
    · exact ih hid
  | case2 _ _ _ _ _ _ ih | case4 _ _ _ _ _ _ _ _ ih | case5 _ _ _ _ _ _ _ _ ih | case6 _ _ _ ih
  | case7 _ _ _ ih => exact ih hid

theorem classify_page (os : Objects) (kid : Obj) (id : ObjId) (h : classify os kid = .page id) :
    kid.asRef = some id ∧ (getDictionary os id).bind Dict.getType = some PAGE := by
  revert h
  fun_cases classify os kid <;> intro h <;> cases h
  -- the only branch that answers `.page`: the kid is a reference and the type it found is `Page`
  exact ⟨‹_›, ‹_›⟩

/-- Instance for concrete documents: everything `page_iter` yields is a `Page` dictionary. -/
theorem pageIter_only_pages (trailer : Dict) (os : Objects) (id : ObjId)
    (h : id ∈ pageIter trailer os) : (getDictionary os id).bind Dict.getType = some PAGE := by
  unfold pageIter at h
  simp only at h
  split at h
  · obtain ⟨kid, hk⟩ := iter_only_pages _ _ _ _ _ h
    exact (classify_page os kid id hk).2
  · simp at h

/-- the number of yielded pages never exceeds the number of objects (`iter_limit`) -/
theorem run_length_le (cls : Obj → Cls) :
    ∀ (k : Option (List Obj)) (stk : List (List Obj)) (lim : Nat), (run cls k stk lim).length ≤ lim := by
  intro k stk lim
  fun_induction run cls k stk lim with
  | case1 | case8 | case9 => exact Nat.zero_le _
  -- a yielded page (3) costs one unit of the budget; a skipped kid or a `Pages` node (2, 4, 5) costs one and
  -- yields nothing; popping the stack (6, 7) costs nothing
  | case3 _ _ _ limit h _ _ ih => exact Nat.succ_le_of_lt (Nat.lt_of_le_of_lt ih (Nat.pred_lt h))
  | case2 _ _ _ _ _ _ ih | case4 _ _ _ _ _ _ _ _ ih | case5 _ _ _ _ _ _ _ _ ih =>
    exact Nat.le_trans ih (Nat.sub_le _ _)
  | case6 _ _ _ ih | case7 _ _ _ ih => exact ih

theorem pageIter_length_le (trailer : Dict) (os : Objects) : (pageIter trailer os).length ≤ os.length := by
  unfold pageIter
  dsimp only
  split
  · exact run_length_le _ _ _ _
  · exact Nat.zero_le _

/- Non-vacuity: a concrete two-level tree with an empty intermediate node, embedded in a
concrete classification, meets the hypotheses and enumerates as 3,5. -/
private def exTree : List PT :=
  [.pages (2,0) [.page (3,0), .pages (4,0) []], .page (5,0)]
private def exCls : Obj → Cls
  | .ref 2 0 => .pages (some [.ref 3 0, .ref 4 0])
  | .ref 3 0 => .page (3,0)
  | .ref 4 0 => .pages (some [])
  | .ref 5 0 => .page (5,0)
  | _ => .skip
private theorem exTree_embeds : EmbedsL exCls exTree :=
  ⟨⟨rfl, rfl, ⟨rfl, trivial⟩, trivial⟩, rfl, trivial⟩
example : EmbedsL exCls exTree ∧ PT.sizeL exTree ≤ 4 ∧ PT.heightL exTree ≤ PAGE_TREE_DEPTH_LIMIT :=
  ⟨exTree_embeds, by decide, by decide⟩
example : run exCls (some (PT.idsL exTree)) [] 4 = [(3,0), (5,0)] := by
  rw [iter_dfs exCls exTree 4 exTree_embeds (by decide) (by decide)]
  rfl

/-! ### concrete documents: the budget `iter_limit = |objects|` is always enough for an embedded
tree whose nodes are distinct objects -/

mutual
def PT.allIds : PT → List ObjId
  | .page id => [id]
  | .pages id ks => id :: PT.allIdsL ks
def PT.allIdsL : List PT → List ObjId
  | [] => []
  | t :: ts => t.allIds ++ PT.allIdsL ts
end

mutual
theorem PT.allIds_length : ∀ t : PT, t.allIds.length = t.size
  | .page _ => by rw [PT.allIds, PT.size]; rfl
  | .pages _ ks => by rw [PT.allIds, PT.size, List.length_cons, PT.allIdsL_length ks, Nat.add_comm]
theorem PT.allIdsL_length : ∀ ts : List PT, (PT.allIdsL ts).length = PT.sizeL ts
  | [] => by rw [PT.allIdsL, PT.sizeL]; rfl
  | t :: ts => by rw [PT.allIdsL, PT.sizeL, List.length_append, PT.allIds_length t, PT.allIdsL_length ts]
end

theorem nodup_present_le (ids : List ObjId) : ∀ (os : Objects), ids.Nodup →
    (∀ id ∈ ids, (os.get id).isSome) → ids.length ≤ os.length := by
  intro os hnd hpres
  have hsub : ids ⊆ os.map (·.1) := fun id hid => by
    obtain ⟨o, ho⟩ := Option.isSome_iff_exists.mp (hpres id hid)
    exact List.mem_map_of_mem (f := (·.1)) (Objects.get_mem ho)
  exact List.length_map (as := os) _ ▸ hnd.length_le_of_subset hsub

theorem classify_present (os : Objects) (id : ObjId) (c : Cls) (hc : classify os (.ref id.1 id.2) = c)
    (hne : c ≠ .skip) : (os.get id).isSome := by
  cases hg : os.get id with
  | some _ => rfl
  | none =>
    have hd : getDictionary os id = none := by rw [getDictionary, getObject, hg]; rfl
    -- an id whose object is missing has no dictionary, so it classifies as `.skip`
    exact absurd (hc ▸ by rw [classify]; simp only [Obj.asRef, hd]; rfl) hne

mutual
theorem Embeds_present (os : Objects) : ∀ t : PT, Embeds (classify os) t → ∀ id ∈ t.allIds, (os.get id).isSome
  | .page pid, h, id, hid => by
    rw [PT.allIds, List.mem_singleton] at hid
    exact hid ▸ classify_present os pid (.page pid) h nofun
  | .pages pid ks, h, id, hid => by
    rw [Embeds] at h; rw [PT.allIds] at hid
    rcases List.mem_cons.mp hid with rfl | hid
    · exact classify_present os _ _ h.1 nofun
    · exact EmbedsL_present os ks h.2 id hid
theorem EmbedsL_present (os : Objects) : ∀ ts : List PT, EmbedsL (classify os) ts → ∀ id ∈ PT.allIdsL ts, (os.get id).isSome
  | [], _, id, hid => by rw [PT.allIdsL] at hid; cases hid
  | t :: ts, h, id, hid => by
    rw [EmbedsL] at h; rw [PT.allIdsL] at hid
    rcases List.mem_append.mp hid with hid | hid
    · exact Embeds_present os t h.1 id hid
    · exact EmbedsL_present os ts h.2 id hid
end

/-- **C12 for concrete documents.** If the catalog's `Pages` node has the forest `ks` as its
kids, the forest is embedded in the document (every node is a `Page` / `Pages` dictionary with
exactly these kids), its nodes are pairwise distinct objects, and intermediate nodes nest at
most PAGE_TREE_DEPTH_LIMIT deep, then `page_iter` yields exactly the leaf pages, depth first,
left to right — the iterator's own budget `|objects|` always suffices. -/
theorem pageIter_dfs (trailer : Dict) (os : Objects) (cat pid : ObjId) (catd : Dict) (ks : List PT)
    (hroot : (trailer.get ROOT).bind Obj.asRef = some cat)
    (hcat : getDictionary os cat = some catd)
    (hpages : (catd.get PAGES).bind Obj.asRef = some pid)
    (hkids : kidsOf os pid = some (PT.idsL ks))
    (hemb : EmbedsL (classify os) ks)
    (hnodup : (PT.allIdsL ks).Nodup)
    (hdepth : PT.heightL ks ≤ PAGE_TREE_DEPTH_LIMIT) :
    pageIter trailer os = PT.leavesL ks := by
  have hbudget : PT.sizeL ks ≤ os.length := by
    rw [← PT.allIdsL_length]
    exact nodup_present_le _ os hnodup (EmbedsL_present os ks hemb)
  unfold pageIter
  simp only [hroot, Option.bind_some, hcat, hpages, hkids]
  exact iter_dfs (classify os) ks os.length hemb hbudget hdepth

end Lopdf
