import LopdfModel.Thm.C17
/-
  C17 (1) — `rep_of_ops`: for EVERY sequence of `add_bookmark` calls (children attached in any
  order, parents that do not exist, parents that are themselves unreachable) the bookmark table
  represents the forest the calls denote.  This is the bridge from the public API to the forest the
  theorems `ocLoop_spec` / `outline_links` / `walk_emb` speak of.  The invariant carried along the
  calls: the ids of the forest are pairwise distinct and at most the id counter.
-/
namespace Lopdf.C17
open Lopdf

theorem bmGet_put (t : BmTable) (k q : Nat) (b : Bm) :
    (t.put k b).get q = if k = q then some b else t.get q := rfl

theorem bmGet_modify (t : BmTable) (x q : Nat) (f : Bm → Bm) :
    (t.modify x f).get q = if q = x then (t.get x).map f else t.get q := by
  induction t with
  | nil => simp [BmTable.modify, BmTable.get]
  | cons e r ih =>
    obtain ⟨k, d⟩ := e
    by_cases hk : k = x
    · subst hk
      by_cases hq : q = k
      · subst hq; simp [BmTable.modify, BmTable.get]
      · have : ¬ k = q := fun h => hq h.symm
        simp [BmTable.modify, BmTable.get, hq, this]
    · by_cases hq : q = x
      · subst hq; simp [BmTable.modify, BmTable.get, hk, ih]
      · simp only [BmTable.modify, hk, if_false, BmTable.get, ih, hq]

theorem bmModify_absent (t : BmTable) (p : Nat) (f : Bm → Bm) (h : t.get p = none) : t.modify p f = t := by
  induction t with
  | nil => rfl
  | cons e r ih =>
    obtain ⟨k, d⟩ := e
    simp only [BmTable.get] at h
    by_cases hk : k = p
    · simp [hk] at h
    · simp only [hk, if_false] at h
      simp [BmTable.modify, hk, ih h]

mutual
def idsN : BT → List Nat
  | .node id _ _ _ _ kids => id :: idsL kids
def idsL : List BT → List Nat
  | [] => []
  | t :: r => idsN t ++ idsL r
end

theorem idsL_cons (id : Nat) (title : List Nat) (f : Nat) (c : List Bytes) (page : ObjId) (kids r : List BT) :
    idsL (.node id title f c page kids :: r) = id :: (idsL kids ++ idsL r) := by
  simp only [idsL, idsN, List.cons_append]

theorem idsL_append : ∀ (a b : List BT), idsL (a ++ b) = idsL a ++ idsL b := by
  intro a
  induction a with
  | nil => intro b; rfl
  | cons t r ih => intro b; simp only [List.cons_append, idsL, ih, List.append_assoc]

theorem nodup_idsL_cons {id : Nat} {kids r : List BT} (h : (id :: (idsL kids ++ idsL r)).Nodup) :
    id ∉ idsL kids ∧ id ∉ idsL r ∧ (idsL kids).Nodup ∧ (idsL r).Nodup ∧
      ∀ i, i ∈ idsL kids → i ∉ idsL r := by
  obtain ⟨h1, h2⟩ := List.nodup_cons.mp h
  obtain ⟨hk, hr, hd⟩ := List.nodup_append.mp h2
  exact ⟨fun m => h1 (List.mem_append_left _ m), fun m => h1 (List.mem_append_right _ m), hk, hr,
    fun i a b => hd i a i b rfl⟩

theorem repL_append {t : BmTable} : ∀ (as : List BT) (a b : List Nat) (bs : List BT),
    repL t a as = true → repL t b bs = true → repL t (a ++ b) (as ++ bs) = true := by
  intro as
  induction as with
  | nil => intro a b bs ha hb; rw [repL_nil_right ha]; simpa using hb
  | cons n ns ih =>
    intro a b bs ha hb
    cases a with
    | nil => simp [repL] at ha
    | cons i is =>
      simp only [repL, Bool.and_eq_true, List.cons_append] at ha ⊢
      exact ⟨ha.1, ih is b bs ha.2 hb⟩

theorem rep_congr_ids {t t' : BmTable} (ts : List BT) : ∀ (ids : List Nat),
    (∀ i ∈ idsL ts, t'.get i = t.get i) → repL t ids ts = true → repL t' ids ts = true := by
  induction ts using BT.forest_ind with
  | nil => intro ids _ hr; rw [repL_nil_right hr]; rfl
  | cons id title f c page kids r ihk ihr =>
    intro ids hg hr
    obtain ⟨is, b, rfl, hb, h1, h2, h3, h4, h5, h6⟩ := repL_cons_inv hr
    simp only [idsL_cons, List.mem_cons, List.mem_append] at hg
    exact repL_cons_intro ((hg id (Or.inl rfl)).trans hb) h1 h2 h3 h4
      (ihk _ (fun i hi => hg i (Or.inr (Or.inl hi))) h5) (ihr _ (fun i hi => hg i (Or.inr (Or.inr hi))) h6)

/-- the table update `add_bookmark(b, Some(p))` performs, uniformly (a missing `p` changes nothing) -/
def attach (t : BmTable) (p k : Nat) (b : Bm) : BmTable :=
  (t.modify p (fun pb => { pb with children := pb.children ++ [k] })).put k b

theorem attach_get (t : BmTable) (p k : Nat) (b : Bm) {i : Nat} (hk : i ≠ k) :
    (attach t p k b).get i = if i = p then (t.get p).map (fun pb => { pb with children := pb.children ++ [k] })
      else t.get i := by
  rw [attach, bmGet_put, if_neg (Ne.symm hk), bmGet_modify]

/-- attaching a fresh bookmark `k` below `p` in a forest with distinct ids: the updated table
represents the forest with the new leaf inserted -/
theorem rep_insert (ts : List BT) : ∀ (t : BmTable) (ids : List Nat) (p k : Nat) (bnew : Bm),
    (idsL ts).Nodup → k ∉ idsL ts → bnew.children = [] → repL t ids ts = true →
    repL (attach t p k bnew) ids
      (BT.insertUnderL p (.node k bnew.title bnew.format bnew.color bnew.page []) ts) = true := by
  induction ts using BT.forest_ind with
  | nil => intro t ids p k bnew _ _ _ hr; rw [repL_nil_right hr]; rfl
  | cons id title f c page kids r ihk ihr =>
    intro t ids p k bnew hnd hk hc hr
    obtain ⟨is, b, rfl, hb, h1, h2, h3, h4, h5, h6⟩ := repL_cons_inv hr
    rw [idsL_cons] at hnd hk
    obtain ⟨hid_k, -, hnk, hnr, -⟩ := nodup_idsL_cons hnd
    simp only [List.mem_cons, List.mem_append, not_or] at hk
    obtain ⟨hkid, hkk, hkr⟩ := hk
    have hrest := ihr t is p k bnew hnr hkr hc h6
    simp only [BT.insertUnderL, BT.insertUnder]
    split
    · rename_i hp
      subst hp
      refine repL_cons_intro (b := { b with children := b.children ++ [k] })
        (by rw [attach_get _ _ _ _ (Ne.symm hkid), if_pos rfl, hb]; rfl) h1 h2 h3 h4 ?_ hrest
      refine repL_append kids b.children [k] _ (rep_congr_ids kids _ (fun i hi => ?_) h5) ?_
      · rw [attach_get _ _ _ _ (by rintro rfl; exact hkk hi), if_neg (by rintro rfl; exact hid_k hi)]
      · simp [repL, repN, attach, bmGet_put, hc]
    · rename_i hp
      exact repL_cons_intro (by rw [attach_get _ _ _ _ (Ne.symm hkid), if_neg hp]; exact hb) h1 h2 h3 h4
        (ihk t _ p k bnew hnk hkk hc h5) hrest

theorem insert_absent (ts : List BT) : ∀ (p : Nat) (new : BT), p ∉ idsL ts → BT.insertUnderL p new ts = ts := by
  induction ts using BT.forest_ind with
  | nil => intros; rfl
  | cons id title f c page kids r ihk ihr =>
    intro p new hp
    simp only [idsL_cons, List.mem_cons, List.mem_append, not_or] at hp
    simp only [BT.insertUnderL, BT.insertUnder, if_neg (Ne.symm hp.1), ihk p new hp.2.1, ihr p new hp.2.2]

theorem insert_perm (ts : List BT) : ∀ (p k : Nat) (new : BT), idsN new = [k] → (idsL ts).Nodup → p ∈ idsL ts →
    (idsL (BT.insertUnderL p new ts)).Perm (k :: idsL ts) := by
  induction ts using BT.forest_ind with
  | nil => intro p k new _ _ hp; cases hp
  | cons id title f c page kids r ihk ihr =>
    intro p k new hnew hnd hp
    rw [idsL_cons] at hnd hp ⊢
    obtain ⟨hid_k, hid_r, hnk, hnr, hdisj⟩ := nodup_idsL_cons hnd
    simp only [BT.insertUnderL, BT.insertUnder]
    rcases List.mem_cons.mp hp with rfl | hp
    · rw [if_pos rfl, insert_absent r _ new hid_r]
      simp only [idsL, idsN, idsL_append, hnew, List.append_nil, List.append_assoc, List.cons_append]
      exact (List.perm_middle.cons _).trans (List.Perm.swap _ _ _)
    · have hne : ¬ id = p := fun e => by
        subst e; exact (List.mem_append.mp hp).elim hid_k hid_r
      rw [if_neg hne, idsL_cons]
      rcases List.mem_append.mp hp with hp | hp
      · rw [insert_absent r p new (hdisj p hp)]
        exact (List.Perm.cons _ ((ihk p k new hnew hnk hp).append_right _)).trans (List.Perm.swap _ _ _)
      · rw [insert_absent kids p new (fun h => hdisj p h hp)]
        exact (List.Perm.cons _ (((ihr p k new hnew hnr hp).append_left _).trans List.perm_middle)).trans
          (List.Perm.swap _ _ _)

/-- the ids of the forest are pairwise distinct and at most the id counter: what every call of
`add_bookmark` preserves, and what makes the id it hands out fresh -/
def IdsFresh (st : Nat × List BT) : Prop := (idsL st.2).Nodup ∧ ∀ i ∈ idsL st.2, i ≤ st.1

theorem ids_step (st : Nat × List BT) (op : Bm × Option Nat) (h : IdsFresh st) : IdsFresh (forestStep st op) := by
  obtain ⟨hn, hb⟩ := h
  have hk : st.1 + 1 ∉ idsL st.2 := fun hm => Nat.not_succ_le_self _ (hb _ hm)
  obtain ⟨b, parent⟩ := op
  cases parent with
  | none =>
    simp only [IdsFresh, forestStep, idsL_append, idsL, idsN, List.append_nil, List.mem_append, List.mem_singleton]
    refine ⟨List.nodup_append.mpr ⟨hn, by simp, fun a ha c hc e => ?_⟩, ?_⟩
    · rw [List.mem_singleton.mp hc] at e; exact hk (e ▸ ha)
    · rintro i (hi | rfl)
      · exact Nat.le_succ_of_le (hb i hi)
      · exact Nat.le_refl _
  | some p =>
    simp only [IdsFresh, forestStep]
    by_cases hp : p ∈ idsL st.2
    · have hperm := insert_perm st.2 p (st.1 + 1) (.node (st.1 + 1) b.title b.format b.color b.page []) rfl hn hp
      refine ⟨hperm.nodup_iff.mpr (List.nodup_cons.mpr ⟨hk, hn⟩), fun i hi => ?_⟩
      rcases List.mem_cons.mp (hperm.mem_iff.mp hi) with rfl | hi
      · exact Nat.le_refl _
      · exact Nat.le_succ_of_le (hb i hi)
    · rw [insert_absent _ p _ hp]
      exact ⟨hn, fun i hi => Nat.le_succ_of_le (hb i hi)⟩

theorem ids_foldl (ops : List (Bm × Option Nat)) : ∀ st, IdsFresh st → IdsFresh (ops.foldl forestStep st) := by
  induction ops with
  | nil => exact fun _ h => h
  | cons op r ih => exact fun st h => ih _ (ids_step st op h)

theorem ids_nodup_of_ops (ops : List (Bm × Option Nat)) : (idsL (forestOfOps ops)).Nodup :=
  (ids_foldl ops (0, []) ⟨List.nodup_nil, nofun⟩).1

/-- invariant linking the bookmark state with (counter, forest) of `forestStep` -/
def Inv (s : BmState) (st : Nat × List BT) : Prop :=
  s.maxBm = st.1 ∧ IdsFresh st ∧ repL s.table s.roots st.2 = true

theorem inv_step (s : BmState) (st : Nat × List BT) (b : Bm) (parent : Option Nat) (h : Inv s st)
    (hc : b.children = []) :
    Inv (addBookmark s b parent).1 (forestStep st (b, parent)) := by
  obtain ⟨hm, hi, hr⟩ := h
  have hk : st.1 + 1 ∉ idsL st.2 := fun hm => Nat.not_succ_le_self _ (hi.2 _ hm)
  refine ⟨by cases parent <;> simp [addBookmark, forestStep, hm], ids_step st (b, parent) hi, ?_⟩
  cases parent with
  | none =>
    simp only [addBookmark, forestStep, hm]
    refine repL_append _ _ _ _ (rep_congr_ids _ _ (fun i hi => ?_) hr) ?_
    · rw [bmGet_put, if_neg (by rintro rfl; exact hk hi)]
    · simp [repL, repN, bmGet_put, hc]
  | some p =>
    have := rep_insert _ s.table s.roots p (st.1 + 1) { b with id := st.1 + 1 } hi.1 hk hc hr
    simp only [attach] at this
    simp only [addBookmark, forestStep, hm]
    cases hg : s.table.get p with
    | some _ => exact this
    | none => rw [bmModify_absent _ _ _ hg] at this; exact this

theorem inv_addAll : ∀ (ops : List (Bm × Option Nat)) (s : BmState) (st : Nat × List BT),
    (∀ op ∈ ops, op.1.children = []) → Inv s st → Inv (addAll s ops) (ops.foldl forestStep st) := by
  intro ops
  induction ops with
  | nil => intro s st _ h; exact h
  | cons op r ih =>
    intro s st hc h
    obtain ⟨b, p⟩ := op
    simp only [addAll, List.foldl_cons]
    exact ih _ _ (fun o ho => hc o (by simp [ho])) (inv_step s st b p h (hc (b, p) (by simp)))

/-- **rep_of_ops.** For EVERY sequence of `add_bookmark(Bookmark::new(..), parent)` calls — children
attached in any order and interleaving, parents that do not exist (yet), parents that are themselves
unreachable — the bookmark table of the document represents, at `Document.bookmarks`, exactly the
forest the calls denote (`forestOfOps`: children in insertion order under their parent).
`children = []` is what `Bookmark::new` constructs. -/
theorem rep_of_ops (ops : List (Bm × Option Nat)) (hc : ∀ op ∈ ops, op.1.children = []) :
    repL (addAll BmState.empty ops).table (addAll BmState.empty ops).roots (forestOfOps ops) = true :=
  (inv_addAll ops BmState.empty (0, []) hc ⟨rfl, ⟨List.nodup_nil, nofun⟩, rfl⟩).2.2

/-- **outline_links for the public API.** Any `add_bookmark` sequence with at least one reachable
bookmark, any old `max_id`, all fuel ≥ the number of reachable bookmarks: `build_outline` succeeds
and the created objects embed the forest of the calls (statement of `outline_links`). -/
theorem outline_links_of_ops (ops : List (Bm × Option Nat)) (hc : ∀ op ∈ ops, op.1.children = [])
    (maxId fuel : Nat) (hne : forestOfOps ops ≠ []) (hfuel : BT.sizeL (forestOfOps ops) ≤ fuel) :
    ∃ b, buildOutline fuel (addAll BmState.empty ops) maxId = some (some b) ∧ b.root = (maxId + 1, 0) ∧
      b.maxId = maxId + 1 + 2 * BT.sizeL (forestOfOps ops) ∧
      b.objs.get (maxId + 1, 0) = some (rootDict (forestOfOps ops) (maxId + 1)) ∧
      EmbL b.objs.get (maxId + 1) (maxId + 1, 0) none (forestOfOps ops) :=
  outline_links _ _ maxId fuel (rep_of_ops ops hc) hne hfuel

end Lopdf.C17
