import LopdfModel.Thm.FileXrefTable
import LopdfModel.Thm.C03
/-
  C01/C03 (file level) — **the cross-reference stream round trip**: `decode_xref_stream` applied
  to the dictionary entries (`W = [1 4 2]`, `Index`, `Size`) and the content that
  `Writer::create_xref_steam` produces yields exactly the recorded entries.
-/
namespace Lopdf.FileRT
open Lopdf Gen

/-- reading `w` big-endian bytes (Horner's rule modulo 2^32) gives a value below `256 ^ w` back -/
theorem foldl_beBytesW (w : Nat) : ∀ n, n < 256 ^ w → 256 ^ w ≤ U32 →
    (beBytesW w n).foldl (fun acc (b : UInt8) => (acc * 256 + b.toNat) % U32) 0 = n := by
  induction w with
  | zero => intro n hn _; simp at hn; subst hn; rfl
  | succ w ih =>
    intro n hn hw
    rw [Nat.pow_succ] at hn hw
    rw [beBytesW, List.foldl_append, ih (n / 256) (Nat.div_lt_of_lt_mul (by omega)) (by omega)]
    have : ((n % 256).toUInt8).toNat = n % 256 := by
      simp [Nat.toUInt8, UInt8.toNat_ofNat']
    simp only [List.foldl_cons, List.foldl_nil, this]
    rw [Nat.mod_eq_of_lt (by omega)]
    omega

theorem readBE_beBytesW (w n : Nat) (rest : Bytes) (hn : n < 256 ^ w) (hw : 256 ^ w ≤ U32) :
    readBE w (beBytesW w n ++ rest) = some (n, rest) := by
  have hl := beBytesW_length w n
  unfold readBE
  rw [if_neg (by simp only [List.length_append, hl]; omega), List.take_left' hl, List.drop_left' hl,
    foldl_beBytesW w n hn hw]

theorem readBE4 (off : Nat) (rest : Bytes) (h : off < 4294967296) :
    readBE 4 (beBytesW 4 off ++ rest) = some (off, rest) :=
  readBE_beBytesW 4 off rest h (by decide)

theorem readBE2 (g : Nat) (rest : Bytes) (h : g < 65536) :
    readBE 2 (beBytesW 2 g ++ rest) = some (g, rest) :=
  readBE_beBytesW 2 g rest h (by decide)

theorem readBE1 (rest : Bytes) : readBE 1 (1 :: rest) = some (1, rest) := rfl

def rowBytes (es : List (Nat × Nat)) : Bytes :=
  (es.map fun (p : Nat × Nat) => [1] ++ beBytesW 4 p.1 ++ beBytesW 2 p.2).flatten

theorem xrefStreamContent_eq (secs : List (Nat × List (Nat × Nat))) :
    xrefStreamContent secs = (secs.map fun s => rowBytes s.2).flatten := by
  simp only [xrefStreamContent, rowBytes]

/-- the assignments of a cross-reference stream (every row is in use) in the form `applyAssigns` takes -/
def allInUse (l : List (Nat × (Nat × Nat))) : List (Nat × Option (Nat × Nat)) := l.map fun p => (p.1, some p.2)

theorem allInUse_append (a b : List (Nat × (Nat × Nat))) : allInUse (a ++ b) = allInUse a ++ allInUse b := List.map_append

def PairOk (p : Nat × Nat) : Prop := p.1 < 4294967296 ∧ p.2 < 65536

theorem xrefRows_rows : ∀ (es : List (Nat × Nat)) (s j : Nat) (rest : Bytes) (t : XTable),
    (∀ p ∈ es, PairOk p) → s + j + es.length ≤ 4294967296 →
    xrefRows 1 4 2 (s : Int) es.length j (rowBytes es ++ rest) t
      = .ok (applyAssigns t (allInUse (assignsFrom (s + j) es)), rest) := by
  intro es
  induction es with
  | nil => intro s j rest t _ _; simp [xrefRows, rowBytes, allInUse, applyAssigns, assignsFrom]
  | cons p es ih =>
    intro s j rest t hok hb
    obtain ⟨off, g⟩ := p
    obtain ⟨h1, h2⟩ := hok (off, g) (by simp)
    simp only at h1 h2
    have e0 : rowBytes ((off, g) :: es) ++ rest = 1 :: (beBytesW 4 off ++ (beBytesW 2 g ++ (rowBytes es ++ rest))) := by
      simp [rowBytes]
    rw [List.length_cons] at hb
    have hb' : s + (j + 1) + es.length ≤ 4294967296 := by omega
    have hle : ¬ ((s : Int) + (j : Int) > (I64_MAX : Int)) := by
      simp only [I64_MAX]; omega
    have hid : (((s : Int) + (j : Int)) % (U32 : Int)).toNat = s + j := by
      rw [← Int.natCast_add, toNat_emod_U32 _ (by omega)]
    have hg : g % 65536 = g := Nat.mod_eq_of_lt h2
    rw [e0]
    simp only [List.length_cons, xrefRows, Nat.succ_ne_zero, if_false, readBE1, if_true, readBE4 off _ h1,
      readBE2 g _ h2, hle, hid, hg]
    rw [ih s (j + 1) rest _ (fun q hq => hok q (by simp [hq])) hb']
    have : s + (j + 1) = s + j + 1 := by omega
    simp only [assignsFrom, allInUse, List.map_cons, applyAssigns, this]

def indexInts (secs : List (Nat × List (Nat × Nat))) : List Int :=
  (secs.map fun s => [(s.1 : Int), (s.2.length : Int)]).flatten

theorem intArray_index (secs : List (Nat × List (Nat × Nat))) :
    intArray (xrefStreamIndex secs) = some (indexInts secs) := by
  simp only [xrefStreamIndex, intArray, indexInts]
  induction secs with
  | nil => rfl
  | cons s rest ih =>
    obtain ⟨st, es⟩ := s
    simp only [List.map_cons, List.flatten_cons, List.cons_append, List.nil_append, List.mapM_cons, Obj.asInt]
    rw [ih]
    rfl

def SSecOk (sec : Nat × List (Nat × Nat)) : Prop :=
  sec.1 + sec.2.length ≤ 4294967296 ∧ ∀ p ∈ sec.2, PairOk p

theorem xrefSections_secs : ∀ (secs : List (Nat × List (Nat × Nat))) (t : XTable),
    (∀ sec ∈ secs, SSecOk sec) →
    xrefSections 1 4 2 (indexInts secs) ((secs.map fun s => rowBytes s.2).flatten) t
      = .ok (applyAssigns t (allInUse (assigns secs))) := by
  intro secs
  induction secs with
  | nil => intro t _; simp [indexInts, xrefSections, assigns, allInUse, applyAssigns]
  | cons sec more ih =>
    intro t hok
    obtain ⟨s, es⟩ := sec
    obtain ⟨hb, he⟩ := hok (s, es) (by simp)
    simp only at hb he
    have hr := xrefRows_rows es s 0 ((more.map fun s => rowBytes s.2).flatten) t he (by omega)
    simp only [indexInts, List.map_cons, List.flatten_cons, List.cons_append, List.nil_append, xrefSections,
      Int.toNat_natCast, Nat.add_zero] at hr ⊢
    rw [hr]
    simp only
    have := ih (applyAssigns t (allInUse (assignsFrom s es))) (fun sec' h' => hok sec' (by simp [h']))
    simp only [indexInts] at this
    rw [this]
    rw [assigns_cons, allInUse_append, applyAssigns_append]

theorem streamSecs_ok (x : XrefMap) (last : Nat) (hx : XrefMapOk x) (hs : last ≤ 4294967295) :
    ∀ sec ∈ streamSecs x last, SSecOk sec := by
  intro sec hsec
  obtain ⟨h1, h2⟩ := loopSecs_bounds x (id : Nat × Nat → Nat × Nat) last 1 0 [] (by intro h; exact absurd rfl h) sec hsec
  refine ⟨by omega, ?_⟩
  intro e he
  rcases h2 e he with h | ⟨i, p, hp, hv⟩
  · simp at h
  · obtain ⟨off, g⟩ := p
    subst hv
    exact hx i off g hp

theorem streamSecs_assigns (x : XrefMap) (last : Nat) :
    assigns (streamSecs x last) = (List.range' 1 last).filterMap (idAssign x id) := by
  unfold streamSecs
  rw [loopSecs_spec x (id : Nat × Nat → Nat × Nat) last 1 0 [] (by intro h; exact absurd rfl h)]
  simp [assignsFrom]

theorem allInUse_filterMap (x : XrefMap) (ids : List Nat) :
    allInUse (ids.filterMap (idAssign x id)) = ids.filterMap (idAssign x some) := by
  rw [allInUse, List.map_filterMap]
  congr 1
  funext i
  simp only [idAssign]
  cases x.get i <;> rfl

/-- **Cross-reference stream round trip (C01/C03).** Let `d` be a stream dictionary without
`Filter` that carries `Size`, `W = [1 4 2]` and the `Index` array the writer computes for the map
`x` over the object numbers `1..last` (`u32` offsets, `u16` generations, at least one entry —
the writer always lists the cross-reference stream itself). Then `decode_xref_stream` of `d` and
the written content succeeds, and the table holds for every `n` the entry `normal off g` iff
`1 ≤ n ≤ last` and the writer recorded `n ↦ (off, g)`. `Length`, `W`, `Index` are removed from
the returned trailer dictionary and `Size` is returned. -/
theorem xref_stream_rt (x : XrefMap) (last : Nat) (d : Dict) (size : Int)
    (hx : XrefMapOk x) (hs : last ≤ 4294967295)
    (hne : ∃ n, 1 ≤ n ∧ n ≤ last ∧ (x.get n).isSome)
    (hF : d.has FILTER = false) (hS : d.get SIZE = some (.int size))
    (hI : d.get INDEX = some (xrefStreamIndex (streamSecs x last)))
    (hW : d.get W_KEY = some (.arr (XREF_W.map fun (w : Nat) => Obj.int (Int.ofNat w)))) :
    ∃ table, decodeXrefStream d (xrefStreamContent (streamSecs x last))
        = .ok (table, (size % (U32 : Int)).toNat, ((d.remove LENGTH).remove W_KEY).remove INDEX) ∧
      (∀ n, table.get n = if 1 ≤ n ∧ n ≤ last then normalOf x n else none) ∧
      (table.map (·.1)).Nodup := by
  refine ⟨applyAssigns [] (allInUse (assigns (streamSecs x last))), ?_, ?_, applyAssigns_nodup _ [] (by simp)⟩
  · -- the content holds at least one row of 7 bytes, so the widths fit
    have hlen : 7 ≤ (xrefStreamContent (streamSecs x last)).length := by
      rw [xrefStreamContent_length, ← assigns_length, streamSecs_assigns]
      obtain ⟨n, hn1, hn2, hn3⟩ := hne
      obtain ⟨e, hg⟩ := Option.isSome_iff_exists.mp hn3
      have : (n, e) ∈ (List.range' 1 last).filterMap (idAssign x id) :=
        List.mem_filterMap.mpr ⟨n, List.mem_range'_1.mpr ⟨hn1, by omega⟩, by simp [idAssign, hg]⟩
      have := List.length_pos_of_mem this
      omega
    have hw : (some (Obj.arr (XREF_W.map fun (w : Nat) => Obj.int (Int.ofNat w)))).bind intArray
        = some [1, 4, 2] := by
      simp [XREF_W, intArray, Obj.asInt]
    unfold decodeXrefStream
    simp only [hF, Bool.false_eq_true, if_false, hS, hI, hW, Option.bind_some, Obj.asInt, intArray_index, hw]
    have c1 : ¬ ((1 : Int) < 0 ∨ (4 : Int) < 0 ∨ (2 : Int) < 0) := by omega
    have c2 : ((1 : Int) > ((xrefStreamContent (streamSecs x last)).length : Int)) = False := by
      simp; omega
    have c3 : ((4 : Int) > ((xrefStreamContent (streamSecs x last)).length : Int)) = False := by
      simp; omega
    have c4 : ((2 : Int) > ((xrefStreamContent (streamSecs x last)).length : Int)) = False := by
      simp; omega
    have hsec := xrefSections_secs (streamSecs x last) [] (streamSecs_ok x last hx hs)
    rw [← xrefStreamContent_eq] at hsec
    simp [c2, c3, c4, hsec]
  · intro n
    rw [streamSecs_assigns, allInUse_filterMap, applyAssigns_get_ids]
    simp only [List.mem_range'_1, XTable.get]
    by_cases h : 1 ≤ n ∧ n ≤ last
    · have : 1 ≤ n ∧ n < 1 + last := by omega
      simp [h, this]
    · have : ¬ (1 ≤ n ∧ n < 1 + last) := by omega
      simp [h, this]

/-- non-vacuity: objects 1 and 3 recorded (a gap at 2), the dictionary the writer would build -/
example : ∃ table tr, decodeXrefStream
      [(SIZE, .int 4), (INDEX, xrefStreamIndex (streamSecs [(1, (15, 0)), (3, (100, 7))] 3)),
       (W_KEY, .arr (XREF_W.map fun (w : Nat) => Obj.int (Int.ofNat w)))]
      (xrefStreamContent (streamSecs [(1, (15, 0)), (3, (100, 7))] 3)) = .ok (table, 4, tr)
    ∧ table.get 3 = some (.normal 100 7) ∧ table.get 2 = none := by
  obtain ⟨table, h1, h2, _⟩ := xref_stream_rt [(1, (15, 0)), (3, (100, 7))] 3
    [(SIZE, .int 4), (INDEX, xrefStreamIndex (streamSecs [(1, (15, 0)), (3, (100, 7))] 3)),
     (W_KEY, .arr (XREF_W.map fun (w : Nat) => Obj.int (Int.ofNat w)))] 4
    (XrefMapOk_insert (XrefMapOk_insert XrefMapOk_nil 1 15 0 (by omega) (by omega)) 3 100 7 (by omega) (by omega))
    (by omega) ⟨1, by omega, by omega, by simp [XrefMap.get]⟩ (by decide) (by simp [Dict.get]) (by simp [Dict.get, SIZE, INDEX]) (by simp [Dict.get, SIZE, INDEX, W_KEY])
  exact ⟨table, _, h1, by rw [h2]; simp [normalOf, XrefMap.get], by rw [h2]; simp [normalOf, XrefMap.get]⟩

end Lopdf.FileRT
