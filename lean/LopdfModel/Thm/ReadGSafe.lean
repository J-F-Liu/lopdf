import LopdfModel.Thm.C04
import LopdfModel.Thm.C13
/-
  C04 for the reader WITH filtered structural streams in the model: `loadDocWithG` never panics
  for any structural-stream decoder that does not panic (`loadDocWithG_never_panics`, Thm/C04), and
  `flateDec` (Stream::decompress over the specification codecs, then the unfiltered decoding) is
  such a decoder — for EVERY behaviour of the codecs (`decompressedContent_no_panic` holds for any
  `Ext`).
  Hence `loadDocF_never_panics`: every byte string, every schedule, Flate / LZW / ASCII85-coded
  cross-reference streams and object streams with any predictor parameters included.
-/
namespace Lopdf
open Gen Q13

theorem decompress_no_panic (ext : Ext) (st : Strm) (s : String) : decompress ext st ≠ .panic s := by
  unfold decompress
  cases h : decompressedContent ext st with
  | ok v => simp [Outcome.map]
  | err e => simp [Outcome.map]
  | panic p => exact absurd h (decompressedContent_no_panic ext st p)

theorem flateDec_safe : flateDec.safe := by
  refine ⟨fun d c s => ?_, fun d c s => ?_, fun d s => ?_⟩ <;> dsimp only [flateDec]
  · split
    · split
      · nofun
      · split
        · exact (decodeXrefStream_noPanic _ _).ne_panic
        · nofun
        · rename_i hp; exact absurd hp (decompress_no_panic _ _ _)
    · exact (decodeXrefStream_noPanic d c).ne_panic
  -- behind `decompress`, and without a `Filter`, the member decoder is `plainDec`'s
  · split
    · split
      · nofun
      · split
        · exact plainDec_safe.2.1 _ _ s
        · nofun
    · exact plainDec_safe.2.1 d c s
  · split
    · split
      · nofun
      · split
        · split <;> nofun
        · nofun
        · rename_i hp; exact absurd hp (decompress_no_panic _ _ _)
    · nofun

/-- **C04, Flate-coded structural streams included**: the reader the driver runs against lopdf —
`loadDocF2`, every schedule — never panics, for every byte string. -/
theorem loadDocF_never_panics (order : Option (List Nat)) (zero : Option Nat) (file : Bytes) :
    (loadDocF2 order zero file).noPanic :=
  loadDocWithG_never_panics flateDec flateDec_safe _ _ file

end Lopdf
