import LopdfModel.Thm.C14Content
import LopdfModel.Thm.C16Content
/-
  C16 — extraction end to end on the model, general form (`c16f_extract_page`): the bytes `Content::encode`
  writes for a page's text program — any interleaving of `BT`, `ET`, font selections `Tf` and the text-showing
  forms `Tj` / `TJ` — are decoded by `Content::decode` (C14 `content_rt`), and `extract_text` returns exactly
  `c16fSpecText`.
-/
namespace Lopdf
open Gen Spec Lopdf.ObjRt Lopdf.ContentRt

/-- an element of a `TJ` array: a string to show (with the format it is written in) or a number -/
inductive C16fItem where
  | str (s : UStr) (f : StrFmt)
  | num (o : Obj)

/-- one step of a page's text program -/
inductive C16fCmd where
  | bt
  | et
  | font (name : Bytes) (size : Obj)
  | tj (s : UStr) (f : StrFmt)
  | tjArr (items : List C16fItem)

/-- a number operand: an `i64` integer or a real in `Display` form -/
def C16fNum (o : Obj) : Prop :=
  (∃ i : Int, o = .int i ∧ -(I64_MAX : Int) - 1 ≤ i ∧ i ≤ I64_MAX) ∨ (∃ t, o = .real t ∧ RealOK t)

/-- the page's fonts: resource name, font dictionary, and the table its `/Encoding` selects -/
abbrev C16fFonts := List (Bytes × Dict × Table)

def c16fLookup (F : C16fFonts) (n : Bytes) : Option Table :=
  match F with
  | [] => none
  | (k, _, t) :: rest => if k = n then some t else c16fLookup rest n

/-- bytes of a shown string under the current font's table (`string_to_bytes`); no font: irrelevant -/
def c16fBytes (cur : Option Table) (s : UStr) : Bytes :=
  match cur with
  | some t => stringToBytes t s
  | none => stdUtf8 s

def C16fItem.obj (cur : Option Table) : C16fItem → Obj
  | .str s f => .str (c16fBytes cur s) f
  | .num o => o

/-- the operations handed to `Content::encode` -/
def c16fOps (F : C16fFonts) : Option Table → List C16fCmd → List Operation
  | _, [] => []
  | cur, .bt :: r => { operator := [66, 84], operands := [] } :: c16fOps F cur r
  | cur, .et :: r => { operator := OP_ET, operands := [] } :: c16fOps F cur r
  | _, .font n size :: r => { operator := OP_TF, operands := [.name n, size] } :: c16fOps F (c16fLookup F n) r
  | cur, .tj s f :: r => { operator := OP_TJ, operands := [.str (c16fBytes cur s) f] } :: c16fOps F cur r
  | cur, .tjArr items :: r =>
    { operator := OP_TJ_ARR, operands := [.arr (items.map (C16fItem.obj cur))] } :: c16fOps F cur r

/-- a kerning number as the extraction sees it after decoding: an integer below −100 is a space -/
def c16fKern : Obj → UStr
  | .int i => if i < -100 then [32] else []
  | _ => []

def c16fItemsText : List C16fItem → UStr
  | [] => []
  | .str s _ :: r => s ++ c16fItemsText r
  | .num o :: r => c16fKern (norm o) ++ c16fItemsText r

def c16fNl (chunk : UStr) : UStr := if chunk.getLast? = some 10 then chunk else chunk ++ [10]

/-- the text `extract_text` is to return; `chunk` = text shown since the last font selection -/
def c16fSpecText (F : C16fFonts) : Option Table → UStr → List C16fCmd → UStr
  | _, chunk, [] => chunk
  | cur, chunk, .bt :: r => c16fSpecText F cur chunk r
  | cur, chunk, .et :: r => c16fSpecText F cur (c16fNl chunk) r
  | _, chunk, .font n _ :: r => chunk ++ c16fSpecText F (c16fLookup F n) [] r
  | cur, chunk, .tj s _ :: r => c16fSpecText F cur (if cur.isSome then chunk ++ s else chunk) r
  | cur, chunk, .tjArr items :: r =>
    c16fSpecText F cur (if cur.isSome then chunk ++ c16fItemsText items ++ [32] else chunk) r

/-- a string over the current table's repertoire (any Unicode string while no font is selected) -/
def C16fStrOk (cur : Option Table) (s : UStr) : Prop :=
  (∀ c ∈ s, Scalar c) ∧ ∀ t, cur = some t → ∀ u ∈ stdEncodeUtf16 s, some u ∈ t

def C16fItemOk (cur : Option Table) : C16fItem → Prop
  | .str s _ => C16fStrOk cur s
  | .num o => C16fNum o

def C16fOk (F : C16fFonts) : Option Table → List C16fCmd → Prop
  | _, [] => True
  | cur, .bt :: r => C16fOk F cur r
  | cur, .et :: r => C16fOk F cur r
  | _, .font n size :: r => C16fNum size ∧ C16fOk F (c16fLookup F n) r
  | cur, .tj s _ :: r => C16fStrOk cur s ∧ C16fOk F cur r
  | cur, .tjArr items :: r => (∀ it ∈ items, C16fItemOk cur it) ∧ C16fOk F cur r

theorem c16f_num_wf (o : Obj) (h : C16fNum o) : WFOperand o := by
  rcases h with ⟨i, rfl, h⟩ | ⟨t, rfl, ht⟩
  · exact wfOperand_int i h
  · exact wfOperand_flat (by simpa [WFObj, WF] using ht) (by simp) (by simp [height])

theorem c16f_item_wf (cur : Option Table) (it : C16fItem) (h : C16fItemOk cur it) :
    WFObj (it.obj cur) ∧ height (it.obj cur) = 0 := by
  cases it with
  | str s f => cases f <;> simp [C16fItem.obj, WFObj, WF, height]
  | num o =>
    have := c16f_num_wf o h
    rcases h with ⟨i, rfl, _, _⟩ | ⟨t, rfl, _⟩ <;> exact ⟨this.1, by simp [C16fItem.obj, height]⟩

theorem c16f_operator_wf (opr : Bytes) (h : opr ∈ c16eTextOps) : WFOperator opr := by
  simp only [c16eTextOps, List.mem_cons, List.not_mem_nil, or_false] at h
  rcases h with rfl | rfl | rfl | rfl | rfl <;>
    exact ⟨by simp, by decide, by decide, by decide, by decide⟩

theorem c16f_op_wf {opr : Bytes} (ho : opr ∈ c16eTextOps) {os : List Obj} (h : ∀ o ∈ os, WFOperand o) :
    WFOp { operator := opr, operands := os } :=
  ⟨c16f_operator_wf opr ho, fun _ => by simpa using (c16e_textop_facts opr ho [] (by simp)).2.2.1, h⟩

theorem c16f_ops_wf (F : C16fFonts) : ∀ (cmds : List C16fCmd) (cur : Option Table), C16fOk F cur cmds →
    ∀ op ∈ c16fOps F cur cmds, WFOp op
  | [], _, _ => by simp [c16fOps]
  | c :: r, cur, h => by
    have m := c16eTextOps_mem
    cases c with
    | bt => exact List.forall_mem_cons.mpr ⟨c16f_op_wf m.1 (by simp), c16f_ops_wf F r cur h⟩
    | et => exact List.forall_mem_cons.mpr ⟨c16f_op_wf m.2.1 (by simp), c16f_ops_wf F r cur h⟩
    | font n size =>
      exact List.forall_mem_cons.mpr ⟨c16f_op_wf m.2.2.1
        (List.forall_mem_cons.mpr ⟨wfOperand_name n, List.forall_mem_singleton.mpr (c16f_num_wf _ h.1)⟩), c16f_ops_wf F r _ h.2⟩
    | tj s f =>
      exact List.forall_mem_cons.mpr ⟨c16f_op_wf m.2.2.2.1 (List.forall_mem_singleton.mpr (wfOperand_str _ f)),
        c16f_ops_wf F r cur h.2⟩
    | tjArr items =>
      exact List.forall_mem_cons.mpr ⟨c16f_op_wf m.2.2.2.2 (List.forall_mem_singleton.mpr
          (wfOperand_arr _ (List.forall_mem_map.mpr fun it hit => c16f_item_wf cur it (h.1 it hit)))),
        c16f_ops_wf F r cur h.2⟩

def c16fEncs (F : C16fFonts) : List (Bytes × Enc) := F.map fun x => (x.1, Enc.oneByte x.2.2)

theorem c16f_lookupEnc (n : Bytes) : ∀ (F : C16fFonts), lookupEnc n (c16fEncs F) = (c16fLookup F n).map Enc.oneByte
  | [] => rfl
  | (k, d, t) :: rest => by
    simp only [c16fEncs, List.map_cons, lookupEnc, c16fLookup]
    by_cases h : k = n
    · simp [h]
    · simp only [h, if_false]; exact c16f_lookupEnc n rest

theorem c16f_lookup_mem (n : Bytes) (t : Table) (F : C16fFonts) (h : c16fLookup F n = some t) :
    ∃ x ∈ F, x.2.2 = t := by
  fun_induction c16fLookup F n with
  | case1 => cases h
  | case2 d t' rest => cases h; exact ⟨_, List.mem_cons_self, rfl⟩
  | case3 k d t' rest hk ih => obtain ⟨x, hx, e⟩ := ih h; exact ⟨x, List.mem_cons_of_mem _ hx, e⟩

theorem c16f_fontEncodings : ∀ (F : C16fFonts), (∀ x ∈ F, getFontEncoding x.2.1 = some (.oneByte x.2.2)) →
    fontEncodings (F.map fun x => (x.1, x.2.1)) = some (c16fEncs F)
  | [], _ => rfl
  | (k, d, t) :: rest, h => by
    have h1 := h (k, d, t) (by simp)
    have ih := c16f_fontEncodings rest (fun x hx => h x (by simp [hx]))
    simp only at h1
    simp only [List.map_cons, fontEncodings, h1, ih, c16fEncs]

theorem c16f_collect_num (e : Enc) (text : UStr) (o : Obj) (h : C16fNum o) :
    collectObj e text (norm o) = .ok (text ++ c16fKern (norm o)) := by
  rcases h with ⟨i, rfl, _, _⟩ | ⟨t, rfl, _⟩
  · simp only [norm, collectObj, c16fKern]; split <;> simp
  · simp only [norm, normReal]
    split
    · simp [collectObj, c16fKern]
    · split
      · simp [collectObj, c16fKern]
      · simp only [collectObj, c16fKern]; split <;> simp

theorem c16f_collect_items (t : Table) (hl : t.length ≤ 256) : ∀ (items : List C16fItem) (text : UStr),
    (∀ it ∈ items, C16fItemOk (some t) it) →
    collectList (.oneByte t) text (normL (items.map (C16fItem.obj (some t)))) = .ok (text ++ c16fItemsText items)
  | [], text, _ => by simp [normL, collectList, c16fItemsText]
  | it :: r, text, h => by
    have h1 := h it (by simp)
    cases it with
    | str s f =>
      rw [List.map_cons, C16fItem.obj, c16fBytes, normL, norm, collectList_cons_str t hl s h1.1 (h1.2 t rfl),
        c16f_collect_items t hl r (text ++ s) (fun x hx => h x (by simp [hx])), c16fItemsText, List.append_assoc]
    | num o =>
      have hn := c16f_collect_num (.oneByte t) text o h1
      have ih := c16f_collect_items t hl r (text ++ c16fKern (norm o)) (fun x hx => h x (by simp [hx]))
      simp only [List.map_cons, C16fItem.obj, normL, collectList, hn, ih, c16fItemsText, List.append_assoc]

theorem c16f_normOps_cons (op : Operation) (ops : List Operation) :
    opsView (normOps (op :: ops)) = (op.operator, normL op.operands) :: opsView (normOps ops) := by
  simp [opsView, normOps, normOp]

theorem c16f_show (encs : List (Bytes × Enc)) {op : Bytes} (hop : op = OP_TJ ∨ op = OP_TJ_ARR) (operands : List Obj)
    (rest : List (Bytes × List Obj)) (st : XState) (cur : Option Table) (hc : st.cur = cur.map Enc.oneByte) (shown : UStr)
    (h : ∀ t, cur = some t → collectList (.oneByte t) st.text operands = .ok shown) :
    extractLoop encs ((op, operands) :: rest) st
      = extractLoop encs rest { st with text := if cur.isSome then shown else st.text } := by
  cases cur with
  | none => exact extractLoop_show_none encs hop operands rest st hc
  | some t => exact extractLoop_show encs hop operands rest st hc (h t rfl)

theorem c16f_loop (F : C16fFonts) (hl : ∀ x ∈ F, x.2.2.length ≤ 256) :
    ∀ (cmds : List C16fCmd) (cur : Option Table) (st : XState),
      st.cur = cur.map Enc.oneByte → (∀ t, cur = some t → t.length ≤ 256) → C16fOk F cur cmds →
      extractLoop (c16fEncs F) (opsView (normOps (c16fOps F cur cmds))) st
        = .ok (st.done ++ c16fSpecText F cur st.text cmds)
  | [], cur, st, _, _, _ => by simp [c16fOps, normOps, opsView, extractLoop, c16fSpecText]
  | c :: r, cur, st, hc, hcl, hok => by
    cases c with
    | bt =>
      rw [c16fOps, c16f_normOps_cons, extractLoop_other _ (by decide), c16fSpecText]
      exact c16f_loop F hl r cur st hc hcl hok
    | et =>
      rw [c16fOps, c16f_normOps_cons, extractLoop_ET, c16fSpecText]
      exact c16f_loop F hl r cur { st with text := c16fNl st.text } hc hcl hok
    | font n size =>
      rw [c16fOps, c16f_normOps_cons, normL, norm, extractLoop_Tf, c16fSpecText,
        c16f_loop F hl r (c16fLookup F n) _ (c16f_lookupEnc n F)
          (fun t ht => by obtain ⟨x, hx, e⟩ := c16f_lookup_mem n t F ht; rw [← e]; exact hl x hx) hok.2]
      simp only [List.append_assoc]
    | tj s f =>
      rw [c16fOps, c16f_normOps_cons, c16fSpecText, c16f_show _ (.inl rfl) _ _ st cur hc (st.text ++ s) fun t ht => by
        subst ht; exact collectList_cons_str t (hcl t rfl) s hok.1.1 (hok.1.2 t rfl) f st.text []]
      exact c16f_loop F hl r cur _ hc hcl hok.2
    | tjArr items =>
      rw [c16fOps, c16f_normOps_cons, c16fSpecText,
        c16f_show _ (.inr rfl) _ _ st cur hc (st.text ++ c16fItemsText items ++ [32]) fun t ht => by
          subst ht; exact collectList_arr _ _ _ (c16f_collect_items t (hcl t rfl) items st.text hok.1)]
      exact c16f_loop F hl r cur _ hc hcl hok.2

/-- **Extraction, end to end on the model — all text-showing forms, any interleaving, several fonts.**
For every set of page fonts whose `/Encoding` selects a predefined one-byte table, and every
admissible text program (`C16fOk`: strings over the repertoire of the font current at that point,
numbers in `i64` / `Display` form), the bytes `Content::encode` writes for the program decode
(`Content::decode`) to the same operations up to C01's normal form of numbers, and `extract_text`
on those BYTES returns exactly `c16fSpecText`. Literal strings may contain any bytes. -/
theorem c16f_extract_page (F : C16fFonts) (hF : ∀ x ∈ F, getFontEncoding x.2.1 = some (.oneByte x.2.2))
    (cmds : List C16fCmd) (hok : C16fOk F none cmds) :
    decodeContent (encodeContent (c16fOps F none cmds)) = .ok (normOps (c16fOps F none cmds)) ∧
    extractTextOfContent (F.map fun x => (x.1, x.2.1)) (encodeContent (c16fOps F none cmds))
      = .ok (c16fSpecText F none [] cmds) := by
  have hdec := content_rt (c16fOps F none cmds) (c16f_ops_wf F cmds none hok)
  have hl : ∀ x ∈ F, x.2.2.length ≤ 256 := fun x hx => font_table_length (hF x hx)
  refine ⟨hdec, ?_⟩
  have := c16f_loop F hl cmds none { cur := none, done := [], text := [] } rfl (fun t h => by cases h) hok
  simp only [extractTextOfContent, hdec, extractText, c16f_fontEncodings F hF]
  simpa using this

/-- non-vacuity: two fonts on one page, a literal string with parentheses and a backslash, a TJ
array mixing strings with an integer and a real kerning number, text before any font -/
def c16fSampleFonts : C16fFonts :=
  [([70, 49], [(TYPE, .name FONT), (ENCODING, .name [87, 105, 110, 65, 110, 115, 105, 69, 110, 99, 111, 100, 105, 110, 103])], WIN_ANSI_ENCODING),
   ([70, 50], [(TYPE, .name FONT), (ENCODING, .name [77, 97, 99, 82, 111, 109, 97, 110, 69, 110, 99, 111, 100, 105, 110, 103])], MAC_ROMAN_ENCODING)]

def c16fSampleCmds : List C16fCmd :=
  [.bt, .tj [0x78] .lit, .font [70, 49] (.int 12), .tj [0x28, 0x5C, 0x29, 0x20AC] .lit,
   .tjArr [.str [0x41] .hex, .num (.int (-250)), .str [0x28] .lit, .num (.real [45, 51, 48, 48, 46, 53])],
   .font [70, 50] (.real [57, 46, 53]), .tj [0xC4] .hex, .et]

theorem c16f_sample_spec : c16fSpecText c16fSampleFonts none [] c16fSampleCmds
    = [0x28, 0x5C, 0x29, 0x20AC, 0x41, 0x20, 0x28, 0x20, 0xC4, 10] := by decide +kernel

theorem c16f_sample_ok : C16fOk c16fSampleFonts none c16fSampleCmds := by
  have hw : c16fLookup c16fSampleFonts [70, 49] = some WIN_ANSI_ENCODING := rfl
  have hm : c16fLookup c16fSampleFonts [70, 50] = some MAC_ROMAN_ENCODING := rfl
  have hreal1 : RealOK [45, 51, 48, 48, 46, 53] :=
    Or.inl ⟨⟨true, [51, 48, 48], [53], rfl, by simp, by decide, by decide⟩⟩
  have hreal2 : RealOK [57, 46, 53] := Or.inl ⟨⟨false, [57], [53], rfl, by simp, by decide, by decide⟩⟩
  have str : ∀ (t : Table) (s : UStr), (∀ c ∈ s, Scalar c) → (∀ u ∈ stdEncodeUtf16 s, some u ∈ t) →
      C16fStrOk (some t) s := fun t s h1 h2 => ⟨h1, fun t' e => by cases e; exact h2⟩
  simp only [c16fSampleCmds, C16fOk, hw, hm]
  refine ⟨⟨by decide, fun t e => by cases e⟩, ⟨Or.inl ⟨12, rfl, by decide, by decide⟩, ?_⟩⟩
  refine ⟨str _ _ (by decide) (by decide +kernel), ?_, ⟨Or.inr ⟨_, rfl, hreal2⟩, ?_⟩⟩
  · intro it hit
    simp only [List.mem_cons, List.not_mem_nil, or_false] at hit
    rcases hit with rfl | rfl | rfl | rfl
    · exact str _ _ (by decide) (by decide +kernel)
    · exact Or.inl ⟨-250, rfl, by decide, by decide⟩
    · exact str _ _ (by decide) (by decide +kernel)
    · exact Or.inr ⟨_, rfl, hreal1⟩
  · exact ⟨str _ _ (by decide) (by decide +kernel), trivial⟩

example : extractTextOfContent (c16fSampleFonts.map fun x => (x.1, x.2.1))
    (encodeContent (c16fOps c16fSampleFonts none c16fSampleCmds))
    = .ok [0x28, 0x5C, 0x29, 0x20AC, 0x41, 0x20, 0x28, 0x20, 0xC4, 10] := by
  rw [← c16f_sample_spec]
  exact (c16f_extract_page c16fSampleFonts (by
    intro x hx
    simp only [c16fSampleFonts, List.mem_cons, List.not_mem_nil, or_false] at hx
    rcases hx with rfl | rfl <;> rfl) c16fSampleCmds c16f_sample_ok).2

end Lopdf
