import LopdfModel.Model.Outlines
import LopdfModel.Thm.C12
import LopdfModel.Model.ExtractText
import LopdfModel.Thm.C04
import LopdfModel.Lemmas.C09Ops
import LopdfModel.Thm.C16
import LopdfModel.Thm.C04CMap
import LopdfModel.Gen.Tables
/-
  C13 — read-only queries are total on arbitrary object graphs (lopdf with the seen sets of bca5e67
  and ba860eb): for every document each query returns a value or an error, never a panic (the
  `_total` theorems; the Option-valued models `deref`, `getObject`, `getDictionary`, `catalog`, … contain no
  panicking operation). Termination is part of the definitions: no model function takes fuel, each
  walker recurses on the guard the code has. Cyclic `First` / `Kids` links are errors, and `get_pages`
  allocates at most max(4, 2·|objects|) elements.
-/
namespace Lopdf.Q13
open Gen

theorem isRef_eq_false {o : Obj} (h : ∀ a b, o ≠ .ref a b) : o.isRef = false := by
  cases o <;> first | rfl | exact absurd rfl (h _ _)

/-- `get_object` never returns a reference (the recursion of `build_outline_result` stops after one step) -/
theorem getObject_not_ref (os : Objects) (id : ObjId) (o : Obj) (h : getObject os id = some o) : o.isRef = false := by
  obtain ⟨o0, -, h⟩ := Option.bind_eq_some_iff.mp h
  exact isRef_eq_false (derefAux_not_ref os _ _ _ h)

theorem derefIdAux_snd (os : Objects) (n : Nat) (id : Option ObjId) (o : Obj) :
    (derefIdAux os n id o).map (·.2) = derefAux os n o := by
  fun_induction derefIdAux os n id o with
  | case1 _ _ a b hg => simp [derefAux, hg]
  | case2 _ a b o' hg => simp [derefAux, hg]
  | case3 _ a b o' hg n ih => simpa [derefAux, hg] using ih
  | case4 n id o hn => exact (derefAux_of_not_ref os n hn).symm

/-- invariant of the reference walk: the id carried along (the start id `id` as long as no reference
was followed) names the object at hand -/
theorem derefIdAux_get (os : Objects) (id : ObjId) (n : Nat) (cur : Option ObjId) (o : Obj)
    (rid : Option ObjId) (o' : Obj)
    (hinv : os.get (cur.getD id) = some o) (h : derefIdAux os n cur o = some (rid, o')) :
    os.get (rid.getD id) = some o' := by
  fun_induction derefIdAux os n cur o with
  | case1 | case2 => cases h
  | case3 _ a b o1 hg n ih => exact ih hg h
  | case4 => cases h; exact hinv

theorem ofOpt_ne_panic {α} (o : Option α) (s : String) : Outcome.ofOpt o ≠ .panic s := by
  cases o <;> nofun

theorem getObjectMut_eq_getObject (os : Objects) (id : ObjId) :
    getObjectMut os id = Outcome.ofOpt (getObject os id) := by
  unfold getObjectMut getObject
  cases hg : os.get id with
  | none => rfl
  | some o =>
    have hsnd : (derefId os o).map (·.2) = deref os o := derefIdAux_snd os DEREF_LIMIT none o
    simp only [Option.bind_some, ← hsnd]
    cases hd : derefId os o with
    | none => rfl
    | some p =>
      obtain ⟨rid, o'⟩ := p
      simp only [derefIdAux_get os id _ none _ _ _ hg hd]; rfl

/-- **`get_object_mut` is total**: the `unwrap()` on `objects.get_mut(ref_id.unwrap_or(id))` cannot fail. -/
theorem getObjectMut_total (os : Objects) (id : ObjId) (s : String) : getObjectMut os id ≠ .panic s := by
  rw [getObjectMut_eq_getObject]; exact ofOpt_ne_panic _ s

/-- `get_page_resources` is total: the `Parent` walk is guarded by `already_seen`
(its termination is `collectResources`' own fuel-free definition) and nothing in it can panic -/
theorem getPageResources_total (os : Objects) (pid : ObjId) (s : String) :
    getPageResources os pid ≠ .panic s := by
  fun_cases getPageResources os pid <;> nofun

theorem getPageFonts_total (os : Objects) (pid : ObjId) (s : String) : getPageFonts os pid ≠ .panic s := by
  fun_cases getPageFonts os pid
  all_goals first | exact absurd ‹_› (getPageResources_total _ _ _) | nofun

theorem getPageAnnotations_total (os : Objects) (pid : ObjId) (s : String) :
    getPageAnnotations os pid ≠ .panic s := by
  fun_cases getPageAnnotations os pid <;> nofun

theorem getFontEncoding_total (os : Objects) (font : Dict) (s : String) : getFontEncoding os font ≠ .panic s := by
  fun_cases getFontEncoding os font <;> nofun

theorem imageColorSpace_total (d : Dict) (s : String) : imageColorSpace d ≠ .panic s := by
  fun_cases imageColorSpace d <;> nofun

theorem imageFilters_total (d : Dict) (s : String) : imageFilters d ≠ .panic s := by
  fun_cases imageFilters d <;> nofun

theorem imageBpc_total (d : Dict) (s : String) : imageBpc d ≠ .panic s := by
  fun_cases imageBpc d <;> nofun

theorem imageOf_total (os : Objects) (xv : Obj) (s : String) : imageOf os xv ≠ .panic s := by
  fun_cases imageOf os xv
  all_goals first
    | exact absurd ‹_› (imageColorSpace_total _ _)
    | exact absurd ‹_› (imageBpc_total _ _)
    | exact absurd ‹_› (imageFilters_total _ _)
    | nofun

theorem imagesLoop_total (os : Objects) (s : String) : ∀ (l : List (Bytes × Obj)), imagesLoop os l ≠ .panic s
  | [] => nofun
  | (_, xv) :: rest => by
    unfold imagesLoop
    split
    · rename_i s' hp; exact absurd hp (imageOf_total os xv s')
    · nofun
    · exact imagesLoop_total os s rest
    · exact Outcome.map_ne_panic (imagesLoop_total os s rest)

/-- **C13 for `get_page_images`** (after e8b231c): for every document and page id the query
returns a value or an error -/
theorem getPageImages_total (os : Objects) (pid : ObjId) (s : String) : getPageImages os pid ≠ .panic s := by
  fun_cases getPageImages os pid
  all_goals first | exact imagesLoop_total os s _ | nofun

/-- the former witness of F-C13-a (image XObject with `ColorSpace []`) now yields an image without colour space -/
example : getPageImages
    [((3, 0), .dict [(TYPE, .name PAGE), (K_Resources, .dict [(K_XObject, .dict [([73, 109, 49], .ref 30 0)])])]),
     ((30, 0), .stream [(K_Subtype, .name K_Image), (K_Width, .int 1), (K_Height, .int 1), (K_ColorSpace, .arr [])] [])]
    (3, 0) = .ok [⟨(30, 0), 1, 1, false, none, 0⟩] := by decide

theorem buildDirect_total (dest title : Obj) (named : Named) (s : String) : buildDirect dest title named ≠ .panic s := by
  fun_cases buildDirect dest title named <;> nofun

/-- **`build_outline_result` is total** (after cc9b602) -/
theorem buildOutlineResult_total (os : Objects) (dest title : Obj) (named : Named) (s : String) :
    buildOutlineResult os dest title named ≠ .panic s := by
  fun_cases buildOutlineResult os dest title named
  all_goals first | exact buildDirect_total _ _ _ _ | nofun

theorem getOutline_total (os : Objects) (node : Dict) (named : Named) (s : String) :
    getOutline os node named ≠ .panic s := by
  fun_cases getOutline os node named
  all_goals first
    | exact buildOutlineResult_total _ _ _ _ _
    | nofun

theorem wrapSub_no_panic (st : List Outline × Named) (r : WalkOut) (s : String) (h : r.1 ≠ .panic s) :
    (wrapSub st r).1 ≠ .panic s := by
  unfold wrapSub
  split
  · nofun
  · nofun
  · rename_i s' hs; intro h'; cases h'; exact h hs

/-- **`get_outlines` never panics and always terminates** — the guarded walker (`seen` set threaded
through `First` and `Next`, bca5e67) is defined without fuel, so this is a statement about every
document, every start node and every `seen` set; termination is part of the definition. -/
theorem walkG_no_panic (os : Objects) (node : Dict) (acc : List Outline) (named : Named) (seen : List ObjId)
    (s : String) : (walkG os node acc named seen).val.1 ≠ .panic s := by
  -- well-founded induction on the walker's own measure (objects not yet seen, size of an inline node)
  generalize hm : (unseen os seen, sizeOf node) = m
  induction m using (Prod.lex Nat.lt_wfRel Nat.lt_wfRel).wf.induction generalizing node acc named seen with
  | h m IH =>
  subst hm
  replace IH : ∀ node' acc' named' seen',
      Prod.Lex Nat.lt Nat.lt (unseen os seen', sizeOf node') (unseen os seen, sizeOf node) →
      (walkG os node' acc' named' seen').val.1 ≠ .panic s :=
    fun node' acc' named' seen' h => IH _ h node' acc' named' seen' rfl
  rw [walkG_val os node acc named seen (getOutline_total os node named)]
  generalize pushOutline (getOutline os node named) acc named = st
  -- the `First` step does not panic and does not enlarge the set of unseen objects
  have hfr : (firstPart os node st seen).1 ≠ .panic s ∧
      unseen os (firstPart os node st seen).2 ≤ unseen os seen := by
    unfold firstPart
    split
    · exact ⟨nofun, Nat.le_refl _⟩
    · rename_i d hf
      exact ⟨wrapSub_no_panic _ _ _ (IH _ _ _ _ (Prod.Lex.right _ (Dict.sizeOf_get_dict_lt hf))),
        by rw [wrapSub_snd]; exact (walkG os d [] st.2 seen).property⟩
    · rename_i a b hf
      split
      · exact ⟨nofun, Nat.le_refl _⟩
      · rename_i hs
        split
        · exact ⟨nofun, Nat.le_refl _⟩
        · rename_i d hd
          obtain ⟨o, hm⟩ := getDictionary_mem hd
          exact ⟨wrapSub_no_panic _ _ _ (IH _ _ _ _ (Prod.Lex.left _ _ (unseen_lt os seen (a, b) o hm hs))),
            by rw [wrapSub_snd]; exact Nat.le_trans (walkG os d [] st.2 _).property (unseen_le seen (a, b) os)⟩
    · exact ⟨nofun, Nat.le_refl _⟩
  generalize firstPart os node st seen = fr at hfr
  obtain ⟨o, seen1⟩ := fr
  unfold nextPart
  cases o with
  | err e => nofun
  | panic s' => exact fun h => hfr.1 (by cases h; rfl)
  | ok p =>
    dsimp only
    split
    · rename_i a b hn
      split
      · nofun
      · rename_i hs
        split
        · rename_i next hd
          obtain ⟨o, hm⟩ := getDictionary_mem hd
          exact IH _ _ _ _ (Prod.Lex.left _ _ (Nat.lt_of_lt_of_le (unseen_lt os seen1 (a, b) o hm hs) hfr.2))
        · nofun
    · rename_i d hn
      exact IH _ _ _ _ (Prod.Lex.right' _ hfr.2 (Dict.sizeOf_get_dict_lt hn))
    · nofun

/-- a `First` reference that was already entered is an error: the walk stops instead of recursing -/
theorem walkG_first_seen_err (os : Objects) (node : Dict) (acc : List Outline) (named : Named) (seen : List ObjId)
    (a b : Nat) (hgo : ∀ s, getOutline os node named ≠ .panic s)
    (hf : node.get K_First = some (.ref a b)) (hs : (a, b) ∈ seen) :
    (walkG os node acc named seen).val.1 = .err "e" := by
  rw [walkG_val os node acc named seen hgo]
  simp only [firstPart, hf, hs, if_true, nextPart]

def catRef : Dict := [(ROOT, .ref 1 0)]
def firstCycleDoc : Objects :=
  [((1, 0), .dict [(K_Outlines, .ref 10 0)]),
   ((10, 0), .dict [(K_First, .ref 11 0)]),
   ((11, 0), .dict [(K_Title, .str [84] .lit), (K_First, .ref 11 0)])]
def item11f : Dict := [(K_Title, .str [84] .lit), (K_First, .ref 11 0)]

/-- **F-C13-b2 is repaired**: on the former witness of unbounded recursion (outline item whose
`First` is itself) `get_outlines` returns an error -/
theorem getOutlines_first_cycle_errors : getOutlines catRef firstCycleDoc = .err "e" := by
  -- the catalog leads to item 11, which is entered from the outline root; its `First` leads back to it
  show (walkG firstCycleDoc item11f [] [] []).val.1 = .err "e"
  have h3 : Dict.get item11f K_First = some (.ref 11 0) := rfl
  have h5 : getDictionary firstCycleDoc (11, 0) = some item11f := rfl
  have inner : ∀ acc named, (walkG firstCycleDoc item11f acc named [(11, 0)]).val.1 = .err "e" :=
    fun acc named => walkG_first_seen_err _ _ _ _ _ 11 0 (getOutline_total _ _ _) h3 List.mem_cons_self
  rw [walkG_val _ _ _ _ _ (getOutline_total _ _ _)]
  simp only [firstPart, h3, List.not_mem_nil, if_false, h5, wrapSub, inner, nextPart]

theorem insertDestFromDict_total (key : Obj) (d : Dict) (named : Named) (s : String) :
    insertDestFromDict key d named ≠ .panic s := by
  fun_cases insertDestFromDict key d named <;> nofun

theorem destOfPair_total (os : Objects) (key val : Obj) (named : Named) (s : String) :
    destOfPair os key val named ≠ .panic s := by
  fun_cases destOfPair os key val named
  all_goals first
    | exact insertDestFromDict_total _ _ _ _
    | nofun

theorem namesLoop_ne_panic (os : Objects) (l : List Obj) (named : Named) (s : String) :
    namesLoop os l named ≠ .panic s := by
  fun_induction namesLoop os l named with
  | case1 _ _ _ _ _ _ ih => exact ih
  | case2 => nofun
  | case3 _ _ _ _ s' h => exact absurd h (destOfPair_total _ _ _ _ _)
  | case4 => nofun

/-- the `Names` loop is total (after 6000f3a), for arrays of any length -/
theorem namesLoop_total (os : Objects) :
    ∀ (n : Nat) (l : List Obj) (named : Named) (s : String), l.length ≤ n → namesLoop os l named ≠ .panic s :=
  fun _ l named s _ => namesLoop_ne_panic os l named s

theorem namesPart_total (os : Objects) (tree : Dict) (named : Named) (s : String) : namesPart os tree named ≠ .panic s := by
  fun_cases namesPart os tree named
  all_goals first | exact namesLoop_ne_panic os _ _ _ | nofun

/-- **`get_named_destinations` never panics and always terminates**: the guarded recursion over
`Kids` (ba860eb) is defined without fuel (stack machine, measure = objects not yet seen, pending
work); every document, every stack, every `seen` set. -/
theorem ndRun_no_panic (os : Objects) (fs : List NdFrame) (named : Named) (seen : List ObjId) (s : String) :
    ndRun os fs named seen ≠ .panic s := by
  fun_induction ndRun os fs named seen
  -- each branch is a recursive call, hands a panic of `namesPart` on, or ends in `Ok` / `Err`
  all_goals first
    | assumption
    | exact (namesPart_total _ _ _ _ ‹_›).elim
    | nofun

theorem namedDests_total (os : Objects) (tree : Dict) (named : Named) (s : String) :
    namedDests os tree named ≠ .panic s := by
  fun_cases namedDests os tree named
  all_goals first | exact ndRun_no_panic _ _ _ _ _ | nofun

theorem ndRun_kid (os : Objects) (kid : Obj) (kids : List Obj) (tree : Dict) (rest : List NdFrame)
    (named : Named) (seen : List ObjId) (id : ObjId) (kd : Dict)
    (hk : kid.asRef = some id) (hd : getDictionary os id = some kd) :
    ndRun os ((kid :: kids, tree) :: rest) named seen =
      if id ∈ seen then E
      else match ndEnter kd with
        | none => E
        | some fr => ndRun os (fr :: (kids, tree) :: rest) named (id :: seen) := by
  rw [ndRun]
  split
  · rename_i h; rw [hk] at h; cases h
  · rename_i id' h; rw [hk] at h; cases h
    split
    · rename_i h; rw [hd] at h; cases h
    · rename_i kd' h; rw [hd] at h; cases h; rfl

/-- a kid that was already entered is an error: the walk stops instead of recursing -/
theorem ndRun_reenter_err (os : Objects) (kid : Obj) (kids : List Obj) (tree : Dict) (rest : List NdFrame)
    (named : Named) (seen : List ObjId) (id : ObjId) (kd : Dict)
    (hk : kid.asRef = some id) (hd : getDictionary os id = some kd) (hs : id ∈ seen) :
    ndRun os ((kid :: kids, tree) :: rest) named seen = .err "e" := by
  rw [ndRun_kid os kid kids tree rest named seen id kd hk hd, if_pos hs]

def kidsCycleDoc : Objects := [((15, 0), .dict [(KIDS, .arr [.ref 15 0])])]
def tree15 : Dict := [(KIDS, .arr [.ref 15 0])]

/-- **F-C13-d4 is repaired**: on the former witness of unbounded recursion (name tree whose `Kids`
contains itself) `get_named_destinations` returns an error -/
theorem namedDests_kids_cycle_errors (named : Named) : namedDests kidsCycleDoc tree15 named = .err "e" := by
  have hd : getDictionary kidsCycleDoc (15, 0) = some tree15 := rfl
  -- the tree is entered through its own kid, which then is met a second time
  show ndRun kidsCycleDoc [([.ref 15 0], tree15)] named [] = _
  rw [ndRun_kid _ _ _ _ _ _ _ (15, 0) tree15 rfl hd, if_neg List.not_mem_nil]
  exact ndRun_reenter_err _ _ _ _ _ _ _ (15, 0) tree15 rfl hd List.mem_cons_self

theorem ndRun_leaf (os : Objects) (tree : Dict) (named : Named) (seen : List ObjId) :
    ndRun os [([], tree)] named seen = namesPart os tree named := by
  rw [ndRun]
  cases namesPart os tree named with
  | ok named' => exact ndRun.eq_1 os named' seen
  | err e => rfl
  | panic s => rfl

example : namedDests [((31, 0), .dict [(K_D, .arr [.ref 3 0, .name [70]])])]
    [(K_Names, .arr [.str [107] .lit, .ref 31 0])] [] = .ok [([107], .dict (mkDest (.str [107] .lit) (.ref 3 0) (.name [70])))] := by
  unfold namedDests
  show ndRun _ [([], _)] [] [] = _
  rw [ndRun_leaf]
  rfl

/-- **`get_outlines(None, None, ..)` is total**: for every document it returns a value or an error -/
theorem getOutlines_total (trailer : Dict) (os : Objects) (s : String) : getOutlines trailer os ≠ .panic s := by
  unfold getOutlines
  split; · nofun
  split; · nofun
  dsimp only
  split
  · nofun
  · rename_i s' hn
    split at hn
    · cases hn
    · exact absurd hn (namedDests_total _ _ _ _)
  · exact walkG_no_panic _ _ _ _ _ _

def noSurrogate (t : List (Option Nat)) : Bool :=
  t.length == 256 && t.all fun c => match c with
    | some v => !(0xD800 ≤ v && v ≤ 0xDFFF)
    | none => true

theorem noSurrogate_of_tableOk {t : Table} (h : tableOk t = true) : noSurrogate t = true := by
  simp only [tableOk, noSurrogate, Bool.and_eq_true, List.all_eq_true] at h ⊢
  refine ⟨h.1, fun c hc => ?_⟩
  have hc := h.2 c hc
  cases c with
  | none => rfl
  | some v =>
    simp only [cellOk, Bool.and_eq_true, Bool.or_eq_true, decide_eq_true_eq] at hc
    simp only [Bool.not_eq_true', Bool.and_eq_false_iff, decide_eq_false_iff_not]
    omega

/-- `bytes_to_string` does `String::from_utf16(..).expect(..)`: it cannot fail because no cell of
the tables `get_font_encoding` can select is a UTF-16 surrogate (tables regenerated from the source).
The five tables are among the seven that `tables_ok` (C16) checks cell by cell. -/
theorem oneByte_tables_no_surrogate :
    noSurrogate STANDARD_ENCODING = true ∧ noSurrogate MAC_ROMAN_ENCODING = true ∧
    noSurrogate MAC_EXPERT_ENCODING = true ∧ noSurrogate WIN_ANSI_ENCODING = true ∧
    noSurrogate PDF_DOC_ENCODING = true := by
  have ok : ∀ t ∈ ALL_TABLES, noSurrogate t = true := fun t ht =>
    noSurrogate_of_tableOk (List.all_eq_true.mp tables_ok t ht)
  refine ⟨ok _ ?_, ok _ ?_, ok _ ?_, ok _ ?_, ok _ ?_⟩ <;> simp [ALL_TABLES]

theorem allocCheck_ok (esz memMax cap C : Nat) (hc : cap ≤ C) (hmem : C * esz ≤ memMax) (hM : memMax ≤ ISIZE_MAX) :
    allocCheck esz memMax cap = .ok () := by
  have h : cap * esz ≤ memMax := Nat.le_trans (Nat.mul_le_mul_right _ hc) hmem
  unfold allocCheck
  rw [if_neg (Nat.not_lt.mpr (Nat.le_trans h hM)), if_neg (Nat.not_lt.mpr h)]

theorem growCap_first (esz memMax C cap lower : Nat) (hmem : C * esz ≤ memMax) (hM : memMax ≤ ISIZE_MAX)
    (hc : max 4 (satAdd1 lower) ≤ C) :
    growCap esz memMax 0 cap lower = .ok (max 4 (satAdd1 lower)) := by
  unfold growCap
  rw [if_pos rfl]
  simp only [allocCheck_ok esz memMax _ C hc hmem hM]

theorem growCap_full (esz memMax C len cap lower : Nat) (hmem : C * esz ≤ memMax) (hM : memMax ≤ ISIZE_MAX)
    (hlen : len ≠ 0) (hU : C < USIZE) (hc : max (max (2 * cap) (len + satAdd1 lower)) 4 ≤ C) :
    growCap esz memMax len cap lower = .ok (max (max (2 * cap) (len + satAdd1 lower)) 4) := by
  have hreq : ¬ len + satAdd1 lower ≥ USIZE :=
    Nat.not_le.mpr (Nat.lt_of_le_of_lt (Nat.le_trans (Nat.le_trans (Nat.le_max_right _ _) (Nat.le_max_left _ _)) hc) hU)
  unfold growCap
  rw [if_neg hlen]
  simp only [allocCheck_ok esz memMax _ C hc hmem hM, if_neg hreq]

/-! The invariant of the collection is `cap ≤ max 4 (2 * len)`: it survives a push, doubling a full
vector re-establishes it, and it stays below the `2 * L + 4` slots the memory hypothesis pays for. -/

theorem capBound_succ (len cap : Nat) (h : cap ≤ max 4 (2 * len)) : cap ≤ max 4 (2 * (len + 1)) :=
  Nat.le_trans h (Nat.max_le.mpr ⟨Nat.le_max_left _ _,
    Nat.le_trans (Nat.mul_le_mul_left 2 (Nat.le_succ len)) (Nat.le_max_right _ _)⟩)

theorem capBound_double (len : Nat) : max (max (2 * len) (len + 1)) 4 ≤ max 4 (2 * (len + 1)) := by
  have h : 2 * len ≤ 2 * (len + 1) ∧ len + 1 ≤ 2 * (len + 1) := by omega
  exact Nat.max_le.mpr ⟨Nat.max_le.mpr ⟨Nat.le_trans h.1 (Nat.le_max_right _ _),
    Nat.le_trans h.2 (Nat.le_max_right _ _)⟩, Nat.le_max_left _ _⟩

theorem capBound_le (len L : Nat) (h : len ≤ L) : max 4 (2 * len) ≤ 2 * L + 4 :=
  Nat.max_le.mpr ⟨Nat.le_add_left _ _, Nat.le_trans (Nat.mul_le_mul_left 2 h) (Nat.le_add_right _ _)⟩

/-- room for one more element: the new capacity is at most max(4, 2·(len+1)) — it depends on the
number of elements only, not on anything in the file (`SIZE_HINT_LOWER = 0`, regenerated) -/
theorem afterYield_ok (esz memMax L len cap : Nat)
    (hmem : (2 * L + 4) * esz ≤ memMax) (hM : memMax ≤ ISIZE_MAX) (hesz : 1 ≤ esz)
    (hlen : len + 1 ≤ L) (hcap : cap ≤ max 4 (2 * len)) :
    ∃ cap', afterYield esz memMax len cap = .ok cap' ∧ cap' ≤ max 4 (2 * (len + 1)) := by
  have hU : 2 * L + 4 < USIZE :=
    Nat.lt_of_le_of_lt (Nat.le_trans (Nat.le_mul_of_pos_right _ hesz) (Nat.le_trans hmem hM)) (by decide)
  have h1 : satAdd1 SIZE_HINT_LOWER = 1 := rfl
  unfold afterYield
  by_cases h0 : len = 0
  · subst h0
    have hc : max 4 (satAdd1 SIZE_HINT_LOWER) ≤ 2 * L + 4 := by rw [h1]; exact capBound_le 1 L hlen
    rw [if_pos (Or.inl rfl), growCap_first esz memMax _ cap _ hmem hM hc, h1]
    exact ⟨_, rfl, Nat.le_refl _⟩
  · by_cases hf : len = cap
    · subst hf
      have hc : max (max (2 * len) (len + satAdd1 SIZE_HINT_LOWER)) 4 ≤ 2 * L + 4 := by
        rw [h1]; exact Nat.le_trans (capBound_double len) (capBound_le _ L hlen)
      rw [if_pos (Or.inr rfl), growCap_full esz memMax _ len len _ hmem hM h0 hU hc, h1]
      exact ⟨_, rfl, capBound_double len⟩
    · rw [if_neg (fun h => h.elim h0 hf)]
      exact ⟨cap, rfl, capBound_succ len cap hcap⟩

/-- **specification of `page_iter().collect()`** (after fc8a978), all documents: with memory for
max(4, 2·|objects|) elements the collection returns exactly C12's enumeration `run`, and the
vector's capacity is at most max(4, 2·number of pages) -/
theorem runCap_spec (cls : Obj → Cls) (esz memMax L : Nat)
    (hmem : (2 * L + 4) * esz ≤ memMax) (hM : memMax ≤ ISIZE_MAX) (hesz : 1 ≤ esz) :
    ∀ (k : Option (List Obj)) (stk : List (List Obj)) (lim len cap : Nat),
      len + lim ≤ L → cap ≤ max 4 (2 * len) →
      ∃ c, runCap cls esz memMax k stk lim len cap = .ok (run cls k stk lim, c) ∧
        c ≤ max 4 (2 * (len + (run cls k stk lim).length)) := by
  intro k stk lim
  -- along the recursion of `run`; a step without a page keeps `len` and `cap`
  have pred {len limit : Nat} (hl : len + limit ≤ L) : len + (limit - 1) ≤ L :=
    Nat.le_trans (Nat.add_le_add_left (Nat.sub_le _ _) _) hl
  fun_induction run cls k stk lim with
  | case1 | case8 | case9 => intro len cap _ hc; rw [runCap]; exact ⟨cap, rfl, hc⟩
  | case2 _ _ _ _ h hc ih =>
    intro len cap hl hcp; rw [runCap]; simp only [h, hc, if_false]; exact ih len cap (pred hl) hcp
  | case3 kid rest stack limit h id hc ih =>
    intro len cap hl hcp
    have hl' : len + 1 + (limit - 1) ≤ L := by omega
    obtain ⟨c', h1, h2⟩ := afterYield_ok esz memMax L len cap hmem hM hesz
      (Nat.le_trans (Nat.le_add_right _ _) hl') hcp
    obtain ⟨c, h3, h4⟩ := ih (len + 1) c' hl' h2
    refine ⟨c, ?_, ?_⟩
    · rw [runCap]; simp only [h, hc, h1, h3, if_false]
    · rw [List.length_cons, ← Nat.add_assoc, Nat.add_right_comm]; exact h4
  | case4 _ _ _ _ h _ hc hd ih | case5 _ _ _ _ h _ hc hd ih =>
    intro len cap hl hcp; rw [runCap]; simp only [h, hc, hd, if_false, if_true]; exact ih len cap (pred hl) hcp
  | case6 _ _ _ ih | case7 _ _ _ ih => intro len cap hl hcp; rw [runCap]; exact ih len cap hl hcp

theorem pageIter_eq (trailer : Dict) (os : Objects) :
    pageIter trailer os = match pageRoot trailer os with
      | some pid => run (classify os) (kidsOf os pid) [] os.length
      | none => [] := by
  unfold pageIter pageRoot; rfl

/-- **no allocation beyond what the objects justify**: the collected vector's capacity is at most
max(4, 2·pages found) ≤ max(4, 2·|objects|) elements, whatever the file says -/
theorem collectPages_capacity (esz memMax : Nat) (trailer : Dict) (os : Objects)
    (hmem : (2 * os.length + 4) * esz ≤ memMax) (hM : memMax ≤ ISIZE_MAX) (hesz : 1 ≤ esz) :
    ∃ c, collectPages esz memMax trailer os = .ok (pageIter trailer os, c) ∧
      c ≤ max 4 (2 * (pageIter trailer os).length) ∧ (pageIter trailer os).length ≤ os.length := by
  rw [pageIter_eq]
  unfold collectPages
  cases pageRoot trailer os with
  | some pid =>
    obtain ⟨c, h, hc⟩ := runCap_spec (classify os) esz memMax os.length hmem hM hesz
      (kidsOf os pid) [] os.length 0 0 (Nat.le_of_eq (Nat.zero_add _)) (Nat.zero_le _)
    rw [Nat.zero_add] at hc
    exact ⟨c, h, hc, run_length_le _ _ _ _⟩
  | none => exact ⟨0, rfl, Nat.zero_le _, Nat.zero_le _⟩

/-- **`get_pages` is total and equals C12's enumeration** (every document — cyclic,
ill-typed, any `Count`): given memory for max(4, 2·|objects|) twelve-byte elements it returns
`page_iter`'s ids. The page tree's `Count` entries do not enter: since fc8a978 lopdf sizes the
vector from the number of objects. -/
theorem getPages_eq_pageIter (memMax : Nat) (trailer : Dict) (os : Objects)
    (hmem : (2 * os.length + 4) * 12 ≤ memMax) (hM : memMax ≤ ISIZE_MAX) :
    getPages memMax trailer os = .ok (pageIter trailer os) := by
  obtain ⟨c, h, _⟩ := collectPages_capacity 12 memMax trailer os hmem hM (by decide)
  unfold getPages
  rw [h]; rfl

theorem getPages_total (memMax : Nat) (trailer : Dict) (os : Objects)
    (hmem : (2 * os.length + 4) * 12 ≤ memMax) (hM : memMax ≤ ISIZE_MAX) (s : String) :
    getPages memMax trailer os ≠ .panic s := by
  rw [getPages_eq_pageIter memMax trailer os hmem hM]; nofun

theorem getObjectPage_total (memMax : Nat) (trailer : Dict) (os : Objects) (id : ObjId)
    (hmem : (2 * os.length + 4) * 12 ≤ memMax) (hM : memMax ≤ ISIZE_MAX) (s : String) :
    getObjectPage memMax trailer os id ≠ .panic s := by
  have loop : ∀ pages, objectPageLoop os id pages ≠ .panic s := fun pages => by
    fun_induction objectPageLoop os id pages with
    | case1 | case2 | case3 | case4 => nofun
    | case5 _ _ _ _ _ _ _ ih => exact ih
  fun_cases getObjectPage memMax trailer os id
  all_goals first | exact loop _ | exact absurd ‹_› (getPages_total memMax trailer os hmem hM _) | nofun

/-- **`get_toc` is total**: for every document it returns a value or an error -/
theorem getToc_total (memMax : Nat) (trailer : Dict) (os : Objects)
    (hmem : (2 * os.length + 4) * 12 ≤ memMax) (hM : memMax ≤ ISIZE_MAX) (s : String) :
    getToc memMax trailer os ≠ .panic s := by
  fun_cases getToc memMax trailer os
  all_goals first
    | exact absurd ‹_› (getOutlines_total _ _ _)
    | exact absurd ‹_› (getPages_total memMax trailer os hmem hM _)
    | nofun

theorem frameLoop_no_panic (bpp rowLen : Nat) (content prev : Bytes) (s : String) :
    frameLoop bpp rowLen content prev ≠ .panic s := by
  fun_induction frameLoop bpp rowLen content prev with
  | case1 | case2 | case3 => nofun
  | case4 _ _ _ _ _ _ _ ih => exact Outcome.map_ne_panic ih

theorem decompressPredictor_no_panic (data : Bytes) (params : Option Dict) (s : String) :
    decompressPredictor data params ≠ .panic s := by
  unfold decompressPredictor
  cases params with
  | none => nofun
  | some p =>
    refine Outcome.ite_ne_panic (Outcome.ite_ne_panic nofun ?_) nofun
    unfold decodeFrame
    exact Outcome.ite_ne_panic nofun (Outcome.ite_ne_panic nofun (frameLoop_no_panic _ _ _ _ s))

theorem applyFilter_no_panic (ext : Ext) (params : Option Dict) (name input : Bytes) (s : String) :
    applyFilter ext params name input ≠ .panic s := by
  unfold applyFilter
  exact Outcome.ite_ne_panic (decompressPredictor_no_panic _ _ s)
    (Outcome.ite_ne_panic (decompressPredictor_no_panic _ _ s) (Outcome.ite_ne_panic (a85_no_panic' _ s) nofun))

theorem filterLoop_no_panic (ext : Ext) (params : Nat → Option Dict) (s : String) :
    ∀ (fs : List Bytes) (i : Nat) (input : Bytes), filterLoop ext params i fs input ≠ .panic s
  | [], _, _ => nofun
  | f :: fs, i, input =>
    Outcome.bind_ne_panic (applyFilter_no_panic ext (params i) f input s) fun out _ =>
      filterLoop_no_panic ext params s fs (i + 1) out

/-- **`Stream::decompressed_content` never panics**, for every stream dictionary, content and every
behaviour of flate2 / weezl -/
theorem decompressedContent_no_panic (ext : Ext) (st : Strm) (s : String) : decompressedContent ext st ≠ .panic s := by
  fun_cases decompressedContent ext st
  all_goals first | exact filterLoop_no_panic _ _ s _ _ _ | nofun

theorem getPageContent_ok (decomp : Dict → Bytes → Outcome Bytes) (hd : ∀ d c s, decomp d c ≠ .panic s)
    (os : Objects) (pid : ObjId) : ∃ b, getPageContent decomp os pid = .ok b := by
  unfold getPageContent
  refine Outcome.foldl_ok (fun sofar id => ?_) _ _
  dsimp only
  split
  · exact ⟨_, rfl⟩
  · rename_i d c _
    cases hdc : decomp d c with
    | ok data => exact ⟨_, rfl⟩
    | err e => exact ⟨_, rfl⟩
    | panic s => exact absurd hdc (hd d c s)

/-- **`get_page_content` with the real filter chain (C09's model) always returns `Ok`** -/
theorem getPageContent_filters_ok (ext : Ext) (os : Objects) (pid : ObjId) :
    ∃ b, getPageContent (decompOf ext) os pid = .ok b :=
  getPageContent_ok _ (fun _ _ _ => decompressedContent_no_panic _ _ _) os pid

theorem getPlainContent_no_panic (ext : Ext) (st : Strm) (s : String) : getPlainContent ext st ≠ .panic s := by
  unfold getPlainContent
  split
  · exact decompressedContent_no_panic _ _ _
  · nofun

/-- a font encoding is *safe* when its one-byte table is one of the regenerated tables, or its CMap
was built by `from_sections` -/
def SafeFontEnc : FontEnc → Prop
  | .std e => SafeEnc e
  | .cmap m => ∀ c l, (CMap.get m c l).isPanic = false

theorem cmapDecode_no_panic (m : CMap.UMap) (hg : ∀ c l, (CMap.get m c l).isPanic = false) (bs : Bytes) (s : String) :
    cmapDecode m bs ≠ .panic s :=
  Outcome.map_ne_panic (CMap.bytesToUnits_no_panic m hg _ s)

theorem FontEnc.decode_no_panic (e : FontEnc) (he : SafeFontEnc e) (bs : Bytes) (s : String) : e.decode bs ≠ .panic s := by
  cases e with
  | std e => exact decodeText_no_panic e he bs s
  | cmap m => exact cmapDecode_no_panic m he bs s

theorem cmapOfStream_safe (ext : Ext) (d : Dict) (c : Bytes) : (cmapOfStream ext d c).okAll SafeFontEnc := by
  fun_cases cmapOfStream ext d c
  case case3 text _ m hm =>
    obtain ⟨ss, -, hm⟩ := Option.bind_eq_some_iff.mp hm
    exact CMap.cmap_get_never_panics ss m hm
  all_goals first | exact absurd ‹_› (getPlainContent_no_panic _ _ _) | exact True.intro

theorem fontEnc_okAll (ext : Ext) (os : Objects) (font : Dict) : (fontEnc ext os font).okAll SafeFontEnc := by
  have hk := font_tables_known
  simp only [Bool.and_eq_true, List.all_eq_true, List.contains_iff_mem] at hk
  -- a one-byte table is safe when it is one of the regenerated tables
  have one : ∀ t, t ∈ ALL_TABLES → SafeFontEnc (.std (.oneByte t)) := fun t ht t' ht' => by cases ht'; exact ht
  fun_cases fontEnc ext os font
  -- a predefined name, a simple name, the fallback table; every other answer is an `Err` or the CMap of a stream
  case case2 t hl => exact one t (hk.1 (_, t) (lookupName_mem _ _ _ hl))
  case case5 => exact fun t' ht' => by cases ht'
  case case7 => exact one _ hk.2
  all_goals first | exact cmapOfStream_safe _ _ _ | exact True.intro

/-- **`get_font_encoding` never panics and only returns safe encodings** — for every document, font
dictionary, ToUnicode stream content (any bytes) and behaviour of flate2 / weezl -/
theorem fontEnc_safe (ext : Ext) (os : Objects) (font : Dict) :
    (∀ s, fontEnc ext os font ≠ .panic s) ∧ ∀ e, fontEnc ext os font = .ok e → SafeFontEnc e :=
  Outcome.okAll_iff.mp (fontEnc_okAll ext os font)

theorem fontEncs_okAll (ext : Ext) (os : Objects) : ∀ (fonts : List (Bytes × Dict)),
    (fontEncs ext os fonts).okAll fun encs => ∀ p ∈ encs, SafeFontEnc p.2
  | [] => nofun
  | (n, f) :: rest => by
    have h1 := fontEnc_okAll ext os f
    have h2 := fontEncs_okAll ext os rest
    unfold fontEncs
    split
    · rename_i hf; rw [hf] at h1; exact h1
    · rename_i hr _; rw [hr] at h2; exact h2
    · trivial
    · trivial
    · rename_i hf hr
      rw [hf] at h1; rw [hr] at h2
      exact List.forall_mem_cons.mpr ⟨h1, h2⟩

mutual
theorem collectObjF_no_panic (e : FontEnc) (he : SafeFontEnc e) (site : String) :
    ∀ (o : Obj) (text : UStr), collectObjF e text o ≠ .panic site
  | .str bs f, text => by
    unfold collectObjF
    cases h : e.decode bs with
    | ok v => nofun
    | err x => nofun
    | panic x => exact absurd h (FontEnc.decode_no_panic e he bs x)
  | .arr items, text => by
    unfold collectObjF
    cases h : collectListF e text items with
    | ok v => nofun
    | err x => nofun
    | panic x => exact absurd h (collectListF_no_panic e he x items text)
  | .int _, _ | .null, _ | .bool _, _ | .real _, _ | .name _, _ | .dict _, _ | .stream _ _, _ | .ref _ _, _ => by
    unfold collectObjF; nofun
theorem collectListF_no_panic (e : FontEnc) (he : SafeFontEnc e) (site : String) :
    ∀ (os : List Obj) (text : UStr), collectListF e text os ≠ .panic site
  | [], text => by unfold collectListF; nofun
  | o :: os, text => by
    unfold collectListF
    cases h : collectObjF e text o with
    | ok t => exact collectListF_no_panic e he site os t
    | err x => nofun
    | panic x => exact absurd h (collectObjF_no_panic e he x o text)
end

theorem lookupFontEnc_safe {encs : List (Bytes × FontEnc)} (hs : ∀ p ∈ encs, SafeFontEnc p.2) {n : Bytes}
    {e : FontEnc} (h : lookupFontEnc n encs = some e) : SafeFontEnc e := by
  induction encs with
  | nil => cases h
  | cons p rest ih =>
    rw [lookupFontEnc] at h
    split at h
    · cases h; exact hs p List.mem_cons_self
    · exact ih (fun q hq => hs q (List.mem_cons_of_mem _ hq)) h

theorem extractLoopF_no_panic (encs : List (Bytes × FontEnc)) (hs : ∀ p ∈ encs, SafeFontEnc p.2) (site : String) :
    ∀ (ops : List (Bytes × List Obj)) (st : XStateF), (∀ e, st.cur = some e → SafeFontEnc e) →
      extractLoopF encs ops st ≠ .panic site
  | [], st, _ => by unfold extractLoopF; nofun
  | (op, operands) :: rest, st, hc => by
    -- invariant: the current encoding is safe; `Tf` replaces it by one of the page's encodings
    have ih := extractLoopF_no_panic encs hs site rest
    unfold extractLoopF
    refine Outcome.ite_ne_panic ?_ (Outcome.ite_ne_panic ?_ (Outcome.ite_ne_panic (ih _ hc) (ih st hc)))
    · split
      · nofun
      · split
        · nofun
        · exact ih _ fun e he => lookupFontEnc_safe hs he
    · split
      · exact ih st hc
      · rename_i e he
        cases hcl : collectListF e st.text operands with
        | ok t => exact ih _ hc
        | err x => nofun
        | panic x => exact absurd hcl (collectListF_no_panic e (hc e he) x operands st.text)

theorem extractPage_no_panic (ext : Ext) (os : Objects) (pid : ObjId) (s : String) : extractPage ext os pid ≠ .panic s := by
  fun_cases extractPage ext os pid
  -- the encodings of the page's fonts do not panic, and the text loop runs with safe encodings only
  case case3 fonts _ s' h | case10 fonts _ _ _ _ _ s' _ h =>
    exact absurd h ((Outcome.okAll_iff.mp (fontEncs_okAll ext os fonts)).1 s')
  case case8 fonts _ _ _ _ _ encs _ h =>
    exact extractLoopF_no_panic encs ((Outcome.okAll_iff.mp (fontEncs_okAll ext os fonts)).2 encs h) s _ _ nofun
  case case5 _ _ _ h _ => obtain ⟨b, hb⟩ := getPageContent_filters_ok ext os pid; rw [hb] at h; cases h
  -- the other panics would be handed on from the page's fonts or the content parser
  all_goals first
    | exact absurd ‹_› (getPageFonts_total _ _ _)
    | exact absurd ‹_› (decodeContent_never_panics _).ne_panic
    | nofun

theorem joinPages_no_panic (s : String) : ∀ (rs : List (Outcome UStr)), (∀ r ∈ rs, r ≠ .panic s) → joinPages rs ≠ .panic s
  | [], _ => nofun
  | r :: rest, h => by
    have hr := h r List.mem_cons_self
    have hrest := joinPages_no_panic s rest fun r' hr' => h r' (List.mem_cons_of_mem _ hr')
    unfold joinPages
    split
    · exact hr
    · rename_i hj; rw [hj] at hrest; exact hrest
    · nofun
    · nofun
    · nofun

/-- **`extract_text` never panics** (ToUnicode CMaps included): for every document, every list
of page numbers and every behaviour of flate2 / weezl, composing page lookup (C12/C13), fonts (C13),
the filter chain (C09), the content parser (C04/C14) and the text loop with the one-byte tables
(C16). Memory bound as for `get_pages`. -/
theorem extractText_no_panic (memMax : Nat) (ext : Ext) (trailer : Dict) (os : Objects) (nums : List Nat)
    (hmem : (2 * os.length + 4) * 12 ≤ memMax) (hM : memMax ≤ ISIZE_MAX) (s : String) :
    extractTextDoc memMax ext trailer os nums ≠ .panic s := by
  unfold extractTextDoc
  rw [getPages_eq_pageIter memMax trailer os hmem hM]
  refine joinPages_no_panic s _ fun r hr => ?_
  obtain ⟨n, _, rfl⟩ := List.mem_map.mp hr
  split
  · nofun
  · exact extractPage_no_panic _ _ _ _

end Lopdf.Q13
