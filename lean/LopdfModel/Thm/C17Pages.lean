import LopdfModel.Thm.C12
import LopdfModel.Thm.C17Rep
import LopdfModel.Thm.C17Toc
/-
  C17 (4) — installing the outline leaves the page enumeration alone, and the end-to-end statement:
  add_bookmark* ; build_outline ; install under the catalog ; get_toc  =  preorder of the forest.
-/
namespace Lopdf.C17
open Lopdf Gen

section frame
variable (os os' : Objects) (cat : ObjId) (catd catd' : Dict)

/-- `os'` is `os` with the catalog dictionary replaced and (possibly) objects added at ids `os` does not have -/
structure CatFrame : Prop where
  hcat : os.get cat = some (.dict catd)
  hcat' : os'.get cat = some (.dict catd')
  hother : ∀ q x, q ≠ cat → os.get q = some x → os'.get q = some x

def relCat (x x' : Obj) : Prop := x' = x ∨ (x = .dict catd ∧ x' = .dict catd')

end frame

section
variable {os os' : Objects} {cat : ObjId} {catd catd' : Dict}

theorem frame_get (F : CatFrame os os' cat catd catd') {q : ObjId} {x : Obj} (h : os.get q = some x) :
    ∃ x', os'.get q = some x' ∧ relCat catd catd' x x' := by
  by_cases hq : q = cat
  · subst hq
    exact ⟨_, F.hcat', Or.inr ⟨Option.some.inj (h.symm.trans F.hcat), rfl⟩⟩
  · exact ⟨x, F.hother q x hq h, Or.inl rfl⟩

theorem derefAux_frame (F : CatFrame os os' cat catd catd') : ∀ (n : Nat) (o o' r : Obj), relCat catd catd' o o' →
    derefAux os n o = some r → ∃ r', derefAux os' n o' = some r' ∧ relCat catd catd' r r' := by
  intro n o
  fun_induction derefAux os n o with
  | case1 | case2 => intro _ _ _ h; cases h
  | case3 a b x hg n ih =>
    intro o' r hR h
    obtain ⟨x', hx', hR'⟩ := frame_get F hg
    rcases hR with rfl | ⟨e, -⟩
    · rw [derefAux, hx']; exact ih x' r hR' h
    · cases e
  | case4 n o ho =>
    -- an object that is no reference is its own value, on both sides
    intro o' r hR h
    cases h
    refine ⟨o', derefAux_of_not_ref os' n ?_, hR⟩
    rcases hR with rfl | ⟨-, rfl⟩
    · exact ho
    · exact fun _ _ => nofun

theorem getObject_frame (F : CatFrame os os' cat catd catd') {id : ObjId} {r : Obj} (h : getObject os id = some r) :
    ∃ r', getObject os' id = some r' ∧ relCat catd catd' r r' := by
  obtain ⟨x, hg, hx⟩ := Option.bind_eq_some_iff.mp h
  obtain ⟨x', hx', hR⟩ := frame_get F hg
  rw [getObject, hx']
  exact derefAux_frame F _ x x' r hR hx

theorem getDictionary_frame (F : CatFrame os os' cat catd catd') (id : ObjId) (d : Dict)
    (h : getDictionary os id = some d) :
    ∃ d', getDictionary os' id = some d' ∧ (d' = d ∨ (d = catd ∧ d' = catd')) := by
  obtain ⟨r, hg, hr⟩ := Option.bind_eq_some_iff.mp h
  obtain ⟨r', hr', hR⟩ := getObject_frame F hg
  rw [getDictionary, hr']
  cases r <;> cases hr
  rcases hR with rfl | ⟨e, rfl⟩
  · exact ⟨d, rfl, Or.inl rfl⟩
  · cases e; exact ⟨catd', rfl, Or.inr ⟨rfl, rfl⟩⟩

theorem kidsOf_frame (F : CatFrame os os' cat catd catd') (hk : catd'.get KIDS = catd.get KIDS)
    (id : ObjId) (ks : List Obj) (h : kidsOf os id = some ks) : kidsOf os' id = some ks := by
  obtain ⟨d, hd, h⟩ := Option.bind_eq_some_iff.mp h
  obtain ⟨k, hg, h⟩ := Option.bind_eq_some_iff.mp h
  obtain ⟨r, hr, h⟩ := Option.bind_eq_some_iff.mp h
  obtain ⟨d', h1, h2⟩ := getDictionary_frame F id d hd
  have hkk : d'.get KIDS = some k := by
    rcases h2 with rfl | ⟨rfl, rfl⟩
    · exact hg
    · exact hk.trans hg
  obtain ⟨r', h3, h4⟩ := derefAux_frame F _ k k r (Or.inl rfl) hr
  rw [kidsOf, h1, Option.bind_some, hkk, Option.bind_some, deref, h3]
  rcases h4 with rfl | ⟨rfl, -⟩
  · exact h
  · cases h

/-- a kid that is a page, or a `Pages` node whose kids can be read, is the same after the change -/
theorem classify_frame (F : CatFrame os os' cat catd catd') (hk : catd'.get KIDS = catd.get KIDS)
    (ht : catd'.getType = catd.getType) (kid : Obj) (c : Cls) (h : classify os kid = c)
    (h1 : c ≠ .skip) (h2 : c ≠ .pages none) : classify os' kid = c := by
  subst h
  have htype : ∀ id t, (getDictionary os id).bind Dict.getType = some t →
      (getDictionary os' id).bind Dict.getType = some t := by
    intro id t h
    obtain ⟨d, hd, hdt⟩ := Option.bind_eq_some_iff.mp h
    obtain ⟨d', e1, e2⟩ := getDictionary_frame F id d hd
    rw [e1]
    rcases e2 with rfl | ⟨rfl, rfl⟩
    · exact hdt
    · exact ht.trans hdt
  revert h1 h2
  fun_cases classify os kid <;> intro h1 h2
  · exact absurd rfl h1
  · exact absurd rfl h1
  · rename_i id hr hty
    rw [classify, hr]; simp only [htype id _ hty, if_true]
  · rename_i id hr hty hp
    cases hks : kidsOf os id with
    | none => exact absurd (congrArg Cls.pages hks) h2
    | some ks => rw [classify, hr]; simp only [htype id _ hty, if_neg hp, if_true, kidsOf_frame F hk id ks hks]
  · exact absurd rfl h1
end

section frame
variable (os os' : Objects) (cat : ObjId) (catd catd' : Dict)

mutual
theorem Embeds_frame (F : CatFrame os os' cat catd catd') (hk : catd'.get KIDS = catd.get KIDS)
    (ht : catd'.getType = catd.getType) : ∀ t : PT, Embeds (classify os) t → Embeds (classify os') t
  | .page pid, h => by
    simp only [Embeds] at h ⊢
    exact classify_frame F hk ht _ _ h nofun nofun
  | .pages pid ks, h => by
    simp only [Embeds] at h ⊢
    exact ⟨classify_frame F hk ht _ _ h.1 nofun nofun, EmbedsL_frame F hk ht ks h.2⟩
theorem EmbedsL_frame (F : CatFrame os os' cat catd catd') (hk : catd'.get KIDS = catd.get KIDS)
    (ht : catd'.getType = catd.getType) : ∀ ts : List PT, EmbedsL (classify os) ts → EmbedsL (classify os') ts
  | [], _ => by simp [EmbedsL]
  | t :: ts, h => by
    simp only [EmbedsL] at h ⊢
    exact ⟨Embeds_frame F hk ht t h.1, EmbedsL_frame F hk ht ts h.2⟩
end

/-- **page enumeration frame.** For a document whose page tree is well formed in the sense of C12
(`pageIter_dfs`), replacing the catalog dictionary by one with the same `Type`, `Kids` and `Pages`
entries and adding objects at unused ids does not change `page_iter`. -/
theorem pageIter_frame (F : CatFrame os os' cat catd catd') (hk : catd'.get KIDS = catd.get KIDS)
    (ht : catd'.getType = catd.getType) (hpg : catd'.get PAGES = catd.get PAGES)
    (trailer : Dict) (pid : ObjId) (ks : List PT)
    (hroot : (trailer.get ROOT).bind Obj.asRef = some cat)
    (hpages : (catd.get PAGES).bind Obj.asRef = some pid)
    (hkids : kidsOf os pid = some (PT.idsL ks))
    (hemb : EmbedsL (classify os) ks)
    (hnodup : (PT.allIdsL ks).Nodup)
    (hdepth : PT.heightL ks ≤ PAGE_TREE_DEPTH_LIMIT) :
    pageIter trailer os' = PT.leavesL ks ∧ pageIter trailer os = PT.leavesL ks :=
  ⟨pageIter_dfs trailer os' cat pid catd' ks hroot (getDictionary_of_get F.hcat') (hpg ▸ hpages)
      (kidsOf_frame F hk pid _ hkids) (EmbedsL_frame os os' cat catd catd' F hk ht ks hemb) hnodup hdepth,
    pageIter_dfs trailer os cat pid catd ks hroot (getDictionary_of_get F.hcat) hpages hkids hemb hnodup hdepth⟩

end frame

mutual
theorem leaves_sublist : ∀ t : PT, (PT.leaves t).Sublist (PT.allIds t)
  | .page _ => by simp [PT.leaves, PT.allIds]
  | .pages _ ks => by
    simp only [PT.leaves, PT.allIds]
    exact List.Sublist.cons _ (leavesL_sublist ks)
theorem leavesL_sublist : ∀ ts : List PT, (PT.leavesL ts).Sublist (PT.allIdsL ts)
  | [] => by simp [PT.leavesL, PT.allIdsL]
  | t :: ts => by
    simp only [PT.leavesL, PT.allIdsL]
    exact List.Sublist.append (leaves_sublist t) (leavesL_sublist ts)
end

/-- General form of the end-to-end statement `toc_readback_api` for any bookmark state whose table represents a
forest `ts` (used for plain `add_bookmark` sequences and for sequences followed by `adjust_zero_pages`). -/
theorem toc_readback_rep (trailer : Dict) (os : Objects) (cat pid : ObjId) (catd : Dict) (ks : List PT)
    (maxId : Nat) (s : BmState) (ts : List BT) (hrep : repL s.table s.roots ts = true)
    (hroot : (trailer.get ROOT).bind Obj.asRef = some cat)
    (hcatd : os.get cat = some (.dict catd))
    (hpages : (catd.get PAGES).bind Obj.asRef = some pid)
    (hkids : kidsOf os pid = some (PT.idsL ks))
    (hemb : EmbedsL (classify os) ks)
    (hnodup : (PT.allIdsL ks).Nodup)
    (hdepth : PT.heightL ks ≤ PAGE_TREE_DEPTH_LIMIT)
    (hold : ∀ q x, os.get q = some x → q.1 ≤ maxId)
    (hnd : catd.get RD_DESTS = none) (hnn : catd.get RD_NAMES = none)
    (hne : ts ≠ [])
    (htarget : ∀ e ∈ BT.preL 1 (ts), e.2.2 ∈ PT.leavesL ks)
    (hscalar : ∀ e ∈ BT.preL 1 (ts), ∀ c ∈ e.2.1, IsScalar c)
    (hdistinct : ((BT.preL 1 (ts)).map (fun e => e.2.1)).Nodup)
    (fuelB : Nat) (hfB : BT.sizeL (ts) ≤ fuelB) :
    ∃ b, buildOutline fuelB (s) maxId = some (some b) ∧
      getToc trailer (setOutlines (installObjs os b.objs) cat b.root) =
        .ok ((BT.preL 1 (ts)).map
          (fun e => { level := e.1, title := e.2.1, page := pageIndex (PT.leavesL ks) e.2.2 + 1 })) 0 := by
  obtain ⟨b, hb, hbroot, -, hbrootd, hbemb⟩ := outline_links s ts maxId fuelB hrep hne hfB
  refine ⟨b, hb, ?_⟩
  obtain ⟨-, -, hfresh⟩ := outline_ids_fresh _ _ _ _ hb
  -- the new objects have numbers above `max_id`, the old ones not: installing keeps every old object
  have hnew_gt : ∀ q d, b.objs.get q = some d → maxId < q.1 := fun q d h => (hfresh q (Proc.get_mem_keys h)).2.1
  have hos1 : ∀ q x, os.get q = some x → (installObjs os b.objs).get q = some x := by
    intro q x hq
    rw [installObjs_get]
    cases hg : b.objs.get q with
    | none => exact hq
    | some d => exact absurd (hold q x hq) (Nat.not_le_of_lt (hnew_gt q d hg))
  let catd' := catd.set CAT_OUTLINES (oref (maxId + 1, 0))
  have hset : setOutlines (installObjs os b.objs) cat b.root = (cat, .dict catd') :: installObjs os b.objs := by
    rw [setOutlines, getDictionary_of_get (hos1 cat _ hcatd), hbroot]
  rw [hset]
  have hcat' : Objects.get ((cat, .dict catd') :: installObjs os b.objs) cat = some (.dict catd') := if_pos rfl
  have F : CatFrame os ((cat, .dict catd') :: installObjs os b.objs) cat catd catd' :=
    ⟨hcatd, hcat', fun q x hq hx => (if_neg (Ne.symm hq)).trans (hos1 q x hx)⟩
  have hpi := (pageIter_frame os _ cat catd _ F (Dict.get_set_ne _ _ _ _ (by decide))
    (by unfold Dict.getType Dict.has
        rw [Dict.get_set_ne _ CAT_OUTLINES TYPE _ (by decide), Dict.get_set_ne _ CAT_OUTLINES LINEARIZED _ (by decide)])
    (Dict.get_set_ne _ _ _ _ (by decide)) trailer pid ks hroot hpages hkids hemb hnodup hdepth).1
  have hdict : ∀ q d, b.objs.get q = some d → dictAt ((cat, .dict catd') :: installObjs os b.objs) q = some d := by
    intro q d hq
    have hne : ¬ cat = q := fun e => Nat.not_le_of_lt (hnew_gt q d hq) (e ▸ hold cat _ hcatd)
    simp [dictAt, Objects.get, hne, installObjs_get, hq]
  refine toc_readback trailer _ catd' ts (maxId + 1) (PT.leavesL ks) ?_ ?_ ?_ ?_ (hdict _ _ hbrootd) ?_ hne hpi
    (List.Nodup.sublist (leavesL_sublist ks) hnodup) htarget hscalar hdistinct
  · simp only [Q13.catalog, hroot, Option.bind_some, getDictionary_of_get hcat']
  · rw [show RD_OUTLINES = CAT_OUTLINES from rfl, Dict.get_set_same]; rfl
  · rw [Dict.get_set_ne _ _ _ _ (by decide)]; exact hnd
  · rw [Dict.get_set_ne _ _ _ _ (by decide)]; exact hnn
  · exact EmbL_imp ts _ _ _ _ (Nat.le_refl _) (fun k d _ _ h => hdict _ _ h) hbemb

/-- **C17, end to end, for the public API.**  Any document with a well-formed page tree (C12), a
directly stored catalog without `Dests`/`Names`, all object numbers ≤ `max_id`; ANY sequence of
`add_bookmark(Bookmark::new(title, …, page), parent)` calls (children attached in any order, possibly
to missing parents) with at least one reachable bookmark, reachable titles pairwise distinct, target
pages in the page tree.  Then for all sufficient fuel (`outline_child` has no guard) `build_outline` succeeds and, after
`catalog.set("Outlines", root)`, `get_toc` returns exactly the preorder of the bookmark forest:
level, title, page number. -/
theorem toc_readback_api (trailer : Dict) (os : Objects) (cat pid : ObjId) (catd : Dict) (ks : List PT)
    (maxId : Nat) (ops : List (Bm × Option Nat))
    (hroot : (trailer.get ROOT).bind Obj.asRef = some cat)
    (hcatd : os.get cat = some (.dict catd))
    (hpages : (catd.get PAGES).bind Obj.asRef = some pid)
    (hkids : kidsOf os pid = some (PT.idsL ks))
    (hemb : EmbedsL (classify os) ks)
    (hnodup : (PT.allIdsL ks).Nodup)
    (hdepth : PT.heightL ks ≤ PAGE_TREE_DEPTH_LIMIT)
    (hold : ∀ q x, os.get q = some x → q.1 ≤ maxId)
    (hnd : catd.get RD_DESTS = none) (hnn : catd.get RD_NAMES = none)
    (hc : ∀ op ∈ ops, op.1.children = [])
    (hne : forestOfOps ops ≠ [])
    (htarget : ∀ e ∈ BT.preL 1 (forestOfOps ops), e.2.2 ∈ PT.leavesL ks)
    (hscalar : ∀ e ∈ BT.preL 1 (forestOfOps ops), ∀ c ∈ e.2.1, IsScalar c)
    (hdistinct : ((BT.preL 1 (forestOfOps ops)).map (fun e => e.2.1)).Nodup)
    (fuelB : Nat) (hfB : BT.sizeL (forestOfOps ops) ≤ fuelB) :
    ∃ b, buildOutline fuelB (addAll BmState.empty ops) maxId = some (some b) ∧
      getToc trailer (setOutlines (installObjs os b.objs) cat b.root) =
        .ok ((BT.preL 1 (forestOfOps ops)).map
          (fun e => { level := e.1, title := e.2.1, page := pageIndex (PT.leavesL ks) e.2.2 + 1 })) 0 :=
  toc_readback_rep trailer os cat pid catd ks maxId _ _ (rep_of_ops ops hc) hroot hcatd hpages hkids hemb hnodup hdepth
    hold hnd hnn hne htarget hscalar hdistinct fuelB hfB

/-! ## non-vacuity of `toc_readback_api` -/

instance (c : Nat) : Decidable (IsScalar c) := by unfold IsScalar; exact inferInstance

def exTrailer : Dict := [(ROOT, .ref 1 0)]
def exCat : Dict := [(TYPE, .name [67, 97, 116, 97, 108, 111, 103]), (PAGES, .ref 2 0)]
def exOs : Objects :=
  [((1, 0), .dict exCat),
   ((2, 0), .dict [(TYPE, .name PAGES), (KIDS, .arr [.ref 3 0, .ref 4 0])]),
   ((3, 0), .dict [(TYPE, .name PAGE)]),
   ((4, 0), .dict [(TYPE, .name PAGE)])]
def exKs : List PT := [.page (3, 0), .page (4, 0)]

theorem exOs_old : ∀ q x, exOs.get q = some x → q.1 ≤ 4 :=
  fun q x h => (by decide : ∀ p ∈ exOs, p.1.1 ≤ 4) (q, x) (Objects.get_mem h)

/-- the hypotheses of `toc_readback_api` are met by a two-page document and the interleaved
`add_bookmark` sequence `exOps` (with an orphan): the theorem then gives the four-entry table of
contents A(1) > B(1), C(2) ; é😀(2). -/
example : ∃ b, buildOutline 4 (addAll BmState.empty exOps) 4 = some (some b) ∧
    getToc exTrailer (setOutlines (installObjs exOs b.objs) (1, 0) b.root) =
      .ok [⟨1, [65], 1⟩, ⟨2, [66], 1⟩, ⟨2, [67], 2⟩, ⟨1, [0xE9, 0x1F600], 2⟩] 0 := by
  have h := toc_readback_api exTrailer exOs (1, 0) (2, 0) exCat exKs 4 exOps rfl rfl rfl rfl
    (by simp only [exKs, EmbedsL, Embeds]; exact ⟨rfl, rfl, trivial⟩)
    (by decide) (by decide) exOs_old rfl rfl
    (by decide) (by decide) (by decide)
    (by decide)
    (by decide) 4 (by decide)
  exact h

end Lopdf.C17
