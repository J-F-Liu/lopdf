import LopdfModel.Thm.StrictSave
import LopdfModel.Thm.StrictSaveStream
/-
  C03 — one revision of either cross-reference style under the strict reader, read inside any
  extension of the file it ends (`rev_strict_of`), and from it the `strict_of_save_*` theorems for plain saves: the
  strict reader accepts the file and returns the saved objects in normal form (`nfObj`: an integral
  real text is read as an integer — exactly what lopdf's own reader returns, `file_rt_table_norm`);
  on real-free documents the normal form is the document itself.
-/
namespace Lopdf.Strict
open Lopdf Gen Lopdf.FileRT Lopdf.ObjRt

/-- the cross-reference data the strict reader collects for one revision -/
def revEntries (d : SDoc) (pre : Bytes) : List Entry :=
  match d.xrefKind with
  | .table => tableEntriesOf (xmapOf pre d) (d.maxId + 1)
  | .stream => streamEntriesOf (xmapStream pre d) (d.maxId + 1)

/-- the dictionary a revision's section carries in the file -/
def writtenTrailer (d : SDoc) (pre : Bytes) : Dict :=
  match d.xrefKind with
  | .table => d.trailer.set SIZE (.int (d.maxId + 1))
  | .stream => streamTrailer pre d

def revSelf (d : SDoc) : Option Nat := match d.xrefKind with | .table => none | .stream => some (d.maxId + 1)

/-- the bytes of the cross-reference section: table and trailer, or the `/XRef` stream object -/
def revSection (d : SDoc) (pre : Bytes) : Bytes :=
  match d.xrefKind with
  | .table => writeXrefTable (xmapOf pre d) (d.maxId + 1) ++ TRAILER_KW ++ writeObj (.dict (writtenTrailer d pre))
  | .stream => writeIndirect (d.maxId + 1) 0 (xrefObjP pre d)

theorem saveFrom_eq (pre : Bytes) (d : SDoc) (out : Bytes) (d' : SDoc) (h : saveFrom pre d = some (out, d')) :
    out = bodyOf pre d ++ revSection d pre ++ STARTXREF_KW ++ natDigits (bodyOf pre d).length ++ EOF_KW ∧
      d'.trailer = writtenTrailer d pre := by
  unfold revSection writtenTrailer
  cases hk : d.xrefKind with
  | table => simpa only [List.append_assoc] using saveFrom_table_eq pre d out d' hk h
  | stream => exact saveFrom_stream_eq pre d out d' hk h

theorem mem_revEntries (d : SDoc) (pre : Bytes) (n off g : Nat) :
    (n, off, g) ∈ revEntries d pre ↔ (1 ≤ n ∧ n < revSize d) ∧ (revMap d pre).get n = some (off, g) := by
  unfold revEntries revSize revMap
  cases d.xrefKind with
  | table => exact mem_tableEntriesOf _ _ n off g
  | stream =>
    dsimp only
    rw [mem_streamEntriesOf]
    constructor <;> rintro ⟨h1, h2⟩ <;> exact ⟨by omega, h2⟩

theorem revEntries_nodup (d : SDoc) (pre : Bytes) : ((revEntries d pre).map (·.1)).Nodup := by
  unfold revEntries
  cases d.xrefKind with
  | table => exact tableEntriesOf_nodup _ _
  | stream => exact streamEntriesOf_nodup _ _

theorem revEntries_objs (d : SDoc) (pre : Bytes) (hwf : DocWF d) (hbl : (bodyOf pre d).length < 4294967296)
    (e : Entry) :
    e ∈ (revEntries d pre).filter (fun e => some e.1 != revSelf d) ↔ e ∈ entriesOf d.objects (hdrOf pre d).length := by
  obtain ⟨n, off, g⟩ := e
  rw [List.mem_filter, mem_revEntries, xmap_entries_iff pre d hwf hbl]
  unfold revSize revMap revSelf
  cases d.xrefKind with
  | table => simp
  | stream =>
    simp only [bne_iff_ne, ne_eq, Option.some.injEq, xmapStream]
    constructor
    · rintro ⟨⟨hr, hx⟩, hn⟩
      rw [XrefMap.get_insert_other _ _ _ _ hn] at hx
      exact ⟨by omega, hx⟩
    · rintro ⟨hr, hx⟩
      have hn : n ≠ d.maxId + 1 := by omega
      exact ⟨⟨by omega, by rw [XrefMap.get_insert_other _ _ _ _ hn]; exact hx⟩, hn⟩

theorem writtenTrailer_free (d : SDoc) (pre : Bytes) (hnd : d.trailer.keys.Nodup) (k : Bytes) (hk : FreeKey k) :
    (writtenTrailer d pre).get k = d.trailer.get k := by
  unfold writtenTrailer
  cases d.xrefKind with
  | table => simp only; rw [Dict.get_set]; simp only [hk.2.1, if_false]
  | stream => exact streamTrailer_get_free pre d hnd hk

theorem writtenTrailer_size (d : SDoc) (pre : Bytes) (hnd : d.trailer.keys.Nodup) :
    Dict.get (writtenTrailer d pre) SIZE = some (.int ((revSize d : Nat) : Int)) := by
  cases hk : d.xrefKind with
  | table => simp only [writtenTrailer, revSize, hk]; exact Dict.get_set_same _ _ _
  | stream =>
    obtain ⟨_, fS, _⟩ := streamTrailer_facts pre d hnd
    simp only [writtenTrailer, revSize, hk]; exact fS

theorem writtenTrailer_table_ok (d : SDoc) (pre : Bytes) (hk : d.xrefKind = .table) (hmax : d.maxId + 1 ≤ 4294967295)
    (htr : WFObj (.dict d.trailer) ∧ height (.dict d.trailer) ≤ MAX_NESTING) :
    WFObj (.dict (writtenTrailer d pre)) ∧ height (.dict (writtenTrailer d pre)) ≤ MAX_NESTING := by
  have hi : -(I64_MAX : Int) - 1 ≤ ((d.maxId : Int) + 1) ∧ ((d.maxId : Int) + 1) ≤ I64_MAX := by
    simp only [I64_MAX]; omega
  simp only [writtenTrailer, hk]
  exact dictOK_set_int _ SIZE _ hi htr

/-- **R2 on a written section of either style**, read inside any extension `R` of the file -/
theorem sectionAt_rev (d : SDoc) (pre out : Bytes) (d' : SDoc) (hg : GensOk d)
    (htr : WFObj (.dict d.trailer) ∧ height (.dict d.trailer) ≤ MAX_NESTING) (hmax : revSize d ≤ 4294967295)
    (h : saveFrom pre d = some (out, d')) (R : Bytes) (hlen : out.length < 4294967296)
    (pv : Option Nat) (hpv : prevOf (normD (writtenTrailer d pre)) = .ok pv) :
    sectionAt (out ++ R) (bodyOf pre d).length
      = .ok ⟨revEntries d pre, normD (writtenTrailer d pre), (bodyOf pre d).length + (revSection d pre).length, pv,
          revSize d, revSelf d⟩ := by
  have hnd := dict_nodup htr.1
  have hout := (saveFrom_eq pre d out d' h).1
  cases hk : d.xrefKind with
  | table =>
    simp only [revSize, hk] at hmax
    have hend : (out ++ R).length - (STARTXREF_KW ++ natDigits (bodyOf pre d).length ++ EOF_KW ++ R).length
        = (bodyOf pre d).length + (revSection d pre).length := by
      rw [hout]; simp only [List.length_append]; omega
    simp only [revSection, hk] at hout
    rw [sectionAt_table_nf (out ++ R) (bodyOf pre d) (STARTXREF_KW ++ natDigits (bodyOf pre d).length ++ EOF_KW ++ R)
      (xmapOf pre d) (d.maxId + 1) (writtenTrailer d pre) (revSize d) (by rw [hout]; simp only [List.append_assoc])
      (xmapOf_ok pre d hg) hmax (writtenTrailer_table_ok d pre hk hmax htr) (writtenTrailer_size d pre hnd) pv hpv,
      hend]
    simp only [revEntries, revSelf, hk]
  | stream =>
    simp only [revSize, hk] at hmax
    have hwt : writtenTrailer d pre = streamTrailer pre d := by simp only [writtenTrailer, hk]
    rw [sectionAt_streamP_nf pre d out d' R hk h hlen hmax hg htr pv (by rw [← hwt]; exact hpv)]
    simp only [revEntries, revSelf, revSection, revSize, hk, hwt]

/-- **one revision under the strict reader**, inside any extension of the file it ends: section (R2),
tail (R1/R4), `Size` (R3) and the tiling walk over its objects (R5/R6) from the end of its header -/
theorem rev_strict_of (d : SDoc) (pre out : Bytes) (d' : SDoc) (hwf : DocWF d) (hobjs : ∀ p ∈ d.objects, ObjOKN p.2)
    (htr : WFObj (.dict d.trailer) ∧ height (.dict d.trailer) ≤ MAX_NESTING) (hmax : revSize d ≤ 4294967295)
    (h : saveFrom pre d = some (out, d')) (R : Bytes) (hlen : out.length < 4294967296)
    (pv : Option Nat) (hpv : prevOf (normD (writtenTrailer d pre)) = .ok pv) :
    ∃ rev, sectionAt (out ++ R) (bodyOf pre d).length = .ok rev ∧
      tailAt (out ++ R) rev.secEnd (bodyOf pre d).length = .ok out.length ∧ sizeOk rev = true ∧
      rev.selfId = revSelf d ∧ rev.trailer = normD (writtenTrailer d pre) ∧ rev.prev = pv ∧
      walk (out ++ R) (resolveIn (out ++ R) rev.entries) ((out ++ R).length + 1)
        (rev.entries.filter fun e => some e.1 != rev.selfId) (hdrOf pre d).length (bodyOf pre d).length []
        = .ok (d.objects.map fun p => (p.1, nfObj p.2)) := by
  have hout := (saveFrom_eq pre d out d' h).1
  have hbl : (bodyOf pre d).length < 4294967296 := by have := body_le_out pre d out d' h; omega
  have hbody : bodyOf pre d = hdrOf pre d ++ bytesOf d.objects := writeObjects_kept _ _ _ hwf.kept
  refine ⟨_, sectionAt_rev d pre out d' hwf.gens htr hmax h R hlen pv hpv, ?_, ?_, rfl, rfl, rfl, ?_⟩
  · -- the tail begins where the section ends
    have := tailAt_tail (bodyOf pre d ++ revSection d pre) R (bodyOf pre d).length
    rwa [← hout, List.length_append] at this
  · simp only [sizeOk, List.all_eq_true, decide_eq_true_eq]
    rintro ⟨n, off, g⟩ he
    have := ((mem_revEntries d pre n off g).mp he).1
    simp only; omega
  · have hfile : out ++ R = hdrOf pre d ++ (bytesOf d.objects ++
        (revSection d pre ++ STARTXREF_KW ++ natDigits (bodyOf pre d).length ++ EOF_KW ++ R)) := by
      rw [hout, hbody]; simp only [List.append_assoc]
    have hwalk := walk_written_nf (resolveIn (out ++ R) (revEntries d pre)) d.objects (hdrOf pre d)
      (revSection d pre ++ STARTXREF_KW ++ natDigits (bodyOf pre d).length ++ EOF_KW ++ R) _ []
      ((out ++ R).length + 1) hobjs
      (List.Nodup.sublist (List.Sublist.map _ List.filter_sublist) (revEntries_nodup d pre))
      (revEntries_objs d pre hwf hbl)
      (by have := length_le_bytesOf d.objects; rw [hfile]; simp only [List.length_append]; omega)
    rwa [← hfile, ← List.length_append, ← hbody] at hwalk

theorem revisions_oldest {b r v : Bytes} {fuel x endPos : Nat} {rev : Rev} {objs : List (ObjId × Obj)}
    (hsec : sectionAt b x = .ok rev) (htl : tailAt b rev.secEnd x = .ok endPos) (hsz : sizeOk rev = true)
    (hprev : rev.prev = none) (hhead : headerAt b = .ok (v, r))
    (hwalk : walk b (resolveIn b rev.entries) (b.length + 1) (rev.entries.filter fun e => some e.1 != rev.selfId)
      (b.length - r.length) x [] = .ok objs) :
    revisions b (fuel + 1) x = .ok ([⟨rev, objs⟩], v, endPos) := by
  simp only [revisions, hsec, htl, hsz, Bool.not_true, Bool.false_eq_true, if_false, hprev, hhead, hwalk]

theorem revisions_newer {b r v v' : Bytes} {fuel x p endPos prevEnd : Nat} {rev : Rev} {objs : List (ObjId × Obj)}
    {older : List RevData}
    (hsec : sectionAt b x = .ok rev) (htl : tailAt b rev.secEnd x = .ok endPos) (hsz : sizeOk rev = true)
    (hprev : rev.prev = some p) (hp : p < x) (hrec : revisions b fuel p = .ok (older, v, prevEnd))
    (hhead : headerAt (skipEols (b.drop prevEnd)) = .ok (v', r))
    (hwalk : walk b (resolveIn b rev.entries) (b.length + 1) (rev.entries.filter fun e => some e.1 != rev.selfId)
      (b.length - r.length) x [] = .ok objs) :
    revisions b (fuel + 1) x = .ok (⟨rev, objs⟩ :: older, v, endPos) := by
  simp only [revisions, hsec, htl, hsz, Bool.not_true, Bool.false_eq_true, if_false, hprev, Nat.not_le.mpr hp, hrec,
    hhead, hwalk]

theorem strictLoad_of_revisions {b v : Bytes} {x : Nat} {newest : RevData} {older : List RevData} {sz : Int}
    (hx : lastXref b = .ok x) (hr : revisions b (b.length + 1) x = .ok (newest :: older, v, b.length))
    (hsz : Dict.get newest.rev.trailer kSize = some (.int sz))
    (hall : ∀ p ∈ mergeRevs (newest :: older) [] [], (p.1.1 : Int) < sz) :
    strictLoad b = .ok { version := v, objects := mergeRevs (newest :: older) [] [], trailer := newest.rev.trailer,
                          revisions := (newest :: older).length,
                          xrefStreamIds := (newest :: older).filterMap (·.rev.selfId) } := by
  have hall' : ((mergeRevs (newest :: older) [] []).all fun p => decide ((p.1.1 : Int) < sz)) = true :=
    List.all_eq_true.mpr fun p hp => decide_eq_true (hall p hp)
  simp only [strictLoad, hx, hr, bne_self_eq_false, Bool.false_eq_true, if_false, hsz, hall', Bool.not_true]

theorem mergeRevs_single (r : RevData) (h : ∀ p ∈ r.objs, some p.1.1 ≠ r.rev.selfId) :
    mergeRevs [r] [] [] = r.objs := by
  have hkeep : ∀ seen : List Nat, (∀ p ∈ r.objs, p.1.1 ∉ seen) →
      r.objs.filter (fun p => !seen.contains p.1.1) = r.objs :=
    fun seen hs => List.filter_eq_self.mpr fun p hp => by simpa using hs p hp
  simp only [mergeRevs, List.nil_append]
  apply hkeep
  intro p hp
  have := h p hp
  cases hs : r.rev.selfId with
  | none => simp
  | some n => rw [hs] at this; simpa using fun e : p.1.1 = n => this (by rw [e])

/-- the two header lines of a revision (R7), and where its objects start -/
theorem hdr_split (pre : Bytes) (d : SDoc) (out : Bytes) (d' : SDoc) (R : Bytes)
    (h : saveFrom pre d = some (out, d')) :
    ∃ rest, out ++ R = pre ++ (PDF_KW ++ (d.version ++ 10 :: 37 :: (d.binaryMark ++ 10 :: rest))) ∧
      (out ++ R).length - rest.length = (hdrOf pre d).length := by
  have h2 : bodyOf pre d <+: out := by
    rw [(saveFrom_eq pre d out d' h).1]; simp only [List.append_assoc]; exact List.prefix_append _ _
  obtain ⟨R0, hR0⟩ := (writeObjects_prefix d.objects (hdrOf pre d) []).trans h2
  exact ⟨R0 ++ R, by rw [← hR0]; simp [hdrOf], by rw [← hR0]; simp only [List.length_append]; omega⟩

theorem revisions_save (d : SDoc) (out : Bytes) (d' : SDoc) (hwf : DocWF d) (hobjs : ∀ p ∈ d.objects, ObjOKN p.2)
    (htr : WFObj (.dict d.trailer) ∧ height (.dict d.trailer) ≤ MAX_NESTING) (hmax : revSize d ≤ 4294967295)
    (h : saveFrom [] d = some (out, d')) (hlen : out.length < 4294967296)
    (hv1 : ∀ b ∈ d.version, notEol b = true) (hprev : d.trailer.get PREV = none) (R : Bytes) (fuel : Nat) :
    ∃ rev, revisions (out ++ R) (fuel + 1) (bodyOf [] d).length
        = .ok ([⟨rev, d.objects.map fun p => (p.1, nfObj p.2)⟩], d.version, out.length) ∧
      rev.selfId = revSelf d ∧ rev.trailer = normD (writtenTrailer d []) := by
  have hnd := dict_nodup htr.1
  obtain ⟨rev, hsec, htl, hsz, hself, htrl, hpr, hwalk⟩ := rev_strict_of d [] out d' hwf hobjs htr hmax h R hlen none
    (prevOf_none _ (by rw [writtenTrailer_free d [] hnd PREV freeKey_PREV]; exact hprev))
  obtain ⟨rest, hsplit, hstart⟩ := hdr_split [] d out d' R h
  refine ⟨rev, revisions_oldest hsec htl hsz hpr ?_ (by rw [hstart]; exact hwalk), hself, htrl⟩
  rw [hsplit]
  exact headerAt_saved d.version d.binaryMark rest hv1 (saveFrom_mark [] d out d' h)

/-- **C03 for a plain save of either style, real numbers included.** The strict reader
accepts the saved bytes and returns the objects in normal form (the very list, in file order), the
version, the written trailer in normal form, one revision, and the number of the cross-reference
stream if there is one. -/
theorem strict_of_save_norm (d : SDoc) (out : Bytes) (d' : SDoc) (h : saveFrom [] d = some (out, d'))
    (hlen : out.length < 4294967296) (hmax : revSize d ≤ 4294967295) (hwf : DocWF d)
    (hobjs : ∀ p ∈ d.objects, ObjOKN p.2)
    (htr : WFObj (.dict d.trailer) ∧ height (.dict d.trailer) ≤ MAX_NESTING)
    (hv1 : ∀ b ∈ d.version, notEol b = true) (hprev : d.trailer.get PREV = none) :
    strictLoad out = .ok { version := d.version, objects := d.objects.map (fun p => (p.1, nfObj p.2)),
                            trailer := normD d'.trailer, revisions := 1, xrefStreamIds := (revSelf d).toList } := by
  have hnd := dict_nodup htr.1
  obtain ⟨hout, htr'⟩ := saveFrom_eq [] d out d' h
  obtain ⟨rev, hrev, hself, htrl⟩ := revisions_save d out d' hwf hobjs htr hmax h hlen hv1 hprev [] out.length
  rw [List.append_nil] at hrev
  -- no object carries the number of the cross-reference stream, and `Size` exceeds every number
  have hnum : ∀ p ∈ d.objects.map (fun p => (p.1, nfObj p.2)), some p.1.1 ≠ revSelf d ∧ p.1.1 < revSize d := by
    intro q hq
    obtain ⟨p, hp, rfl⟩ := List.mem_map.mp hq
    have := (hwf.range p hp).2
    unfold revSelf revSize
    cases d.xrefKind with
    | table => exact ⟨by simp, by simp only; omega⟩
    | stream => exact ⟨by simp only [ne_eq, Option.some.injEq]; omega, by simp only; omega⟩
  have hmerge := mergeRevs_single ⟨rev, d.objects.map fun p => (p.1, nfObj p.2)⟩ (fun p hp => hself ▸ (hnum p hp).1)
  have := strictLoad_of_revisions (sz := (revSize d : Nat))
    (by rw [hout]; exact lastXref_tail _ _ (by have := body_le_out [] d out d' h; omega)) hrev
    (by rw [htrl, show kSize = SIZE from rfl, normD_get, writtenTrailer_size d [] hnd]; rfl)
    (by rw [hmerge]; intro p hp; exact_mod_cast (hnum p hp).2)
  rw [this, hmerge, htrl, htr']
  simp only [List.length_singleton, List.filterMap_cons, List.filterMap_nil, hself]
  cases revSelf d <;> rfl

/-- **C03, classic table, real numbers included.** For every well-formed document
(as in `file_rt_table_norm`: one object per number in `1..max_id`, `u16` generations, no dropped
kinds, objects and trailer within the nesting limit, streams with their direct `Length`, trailer
without `Prev`, version text without line breaks) saved plainly with a classic cross-reference table,
file < 4 GiB: the independent strict structural reader ACCEPTS the saved bytes — every rule R1–R7,
every byte accounted for — and returns the saved objects in normal form (the list in file order),
the version, the trailer `save` wrote in normal form, one revision, no cross-reference stream. -/
theorem strict_of_save_table_norm (d : SDoc) (out : Bytes) (d' : SDoc)
    (hk : d.xrefKind = .table) (h : saveFrom [] d = some (out, d')) (hlen : out.length < 4294967296)
    (hmax : d.maxId + 1 ≤ 4294967295) (hwf : DocWF d)
    (hobjs : ∀ p ∈ d.objects, ObjOKN p.2)
    (htr : WFObj (.dict d.trailer) ∧ height (.dict d.trailer) ≤ MAX_NESTING)
    (hv1 : ∀ b ∈ d.version, notEol b = true) (hprev : d.trailer.get PREV = none) :
    strictLoad out = .ok { version := d.version, objects := d.objects.map (fun p => (p.1, nfObj p.2)),
                            trailer := normD d'.trailer, revisions := 1,
                            xrefStreamIds := [] } := by
  have := strict_of_save_norm d out d' h hlen (by simpa only [revSize, hk] using hmax) hwf hobjs htr hv1 hprev
  rw [show revSelf d = none by simp only [revSelf, hk]] at this
  exact this

/-- **C03, cross-reference stream, real numbers included.** As
`strict_of_save_table_norm` for documents saved with a cross-reference stream
(`Size = max_id + 2 ≤ u32::MAX`): the `/XRef` stream object lists itself at its own offset,
`Length = rows × 7`, every byte is accounted for; the result carries the stream dictionary in normal
form as trailer and the number of the cross-reference stream. -/
theorem strict_of_save_stream_norm (d : SDoc) (out : Bytes) (d' : SDoc)
    (hk : d.xrefKind = .stream) (h : saveFrom [] d = some (out, d')) (hlen : out.length < 4294967296)
    (hmax : d.maxId + 2 ≤ 4294967295) (hwf : DocWF d)
    (hobjs : ∀ p ∈ d.objects, ObjOKN p.2)
    (htr : WFObj (.dict d.trailer) ∧ height (.dict d.trailer) ≤ MAX_NESTING)
    (hv1 : ∀ b ∈ d.version, notEol b = true) (hprev : d.trailer.get PREV = none) :
    strictLoad out = .ok { version := d.version, objects := d.objects.map (fun p => (p.1, nfObj p.2)),
                            trailer := normD d'.trailer, revisions := 1,
                            xrefStreamIds := [d.maxId + 1] } := by
  have := strict_of_save_norm d out d' h hlen (by simpa only [revSize, hk] using hmax) hwf hobjs htr hv1 hprev
  rw [show revSelf d = some (d.maxId + 1) by simp only [revSelf, hk]] at this
  exact this

/-- **C03, classic table.** For every well-formed document (as in `file_rt_table`:
one object per number in `1..max_id`, `u16` generations, no dropped kinds, objects and trailer
within the nesting limit and real-free, streams with their direct `Length`, trailer without
`Prev`, version text without line breaks) saved plainly with a classic cross-reference table,
file < 4 GiB: the independent strict structural reader ACCEPTS the saved bytes — every rule
R1–R7, every byte accounted for — and returns exactly the saved objects (as the very list, in file
order), the version, the trailer `save` wrote, one revision, no cross-reference stream. -/
theorem strict_of_save_table (d : SDoc) (out : Bytes) (d' : SDoc)
    (hk : d.xrefKind = .table) (h : saveFrom [] d = some (out, d')) (hlen : out.length < 4294967296)
    (hmax : d.maxId + 1 ≤ 4294967295) (hwf : DocWF d)
    (hobjs : ∀ p ∈ d.objects, ObjOK p.2)
    (htr : WFObj (.dict d.trailer) ∧ height (.dict d.trailer) ≤ MAX_NESTING ∧ NoRealD d.trailer)
    (hv1 : ∀ b ∈ d.version, notEol b = true) (hprev : d.trailer.get PREV = none) :
    strictLoad out = .ok { version := d.version, objects := d.objects, trailer := d'.trailer, revisions := 1,
                            xrefStreamIds := [] } := by
  have hreal : NoRealD d'.trailer := by
    rw [(saveFrom_table_eq [] d out d' hk h).2]; exact NoRealD_set_int _ _ _ htr.2.2
  rw [strict_of_save_table_norm d out d' hk h hlen hmax hwf (fun p hp => objOKN_of_objOK (hobjs p hp))
    ⟨htr.1, htr.2.1⟩ hv1 hprev, map_nfObj_noReal _ hobjs, normD_noReal _ hreal]

/-- user view: the bookkeeping `Size` aside, the trailer the strict reader returns is the document's -/
theorem strict_of_save_table_trailer (d : SDoc) (out : Bytes) (d' : SDoc) (hk : d.xrefKind = .table)
    (h : saveFrom [] d = some (out, d')) (k : Bytes) (hk' : k ≠ SIZE) : d'.trailer.get k = d.trailer.get k := by
  rw [(saveFrom_table_eq [] d out d' hk h).2, Dict.get_set_ne _ _ _ _ hk'.symm]

/-- **C03, cross-reference stream.** As `strict_of_save_table` for documents saved
with a cross-reference stream (`Size = max_id + 2 ≤ u32::MAX`): the strict reader accepts the file
— the `/XRef` stream object lists itself at its own offset, `Length = rows × 7`, every byte is
accounted for — and returns exactly the saved objects, the version, the stream dictionary as
trailer, one revision, and the number of the cross-reference stream. -/
theorem strict_of_save_stream (d : SDoc) (out : Bytes) (d' : SDoc)
    (hk : d.xrefKind = .stream) (h : saveFrom [] d = some (out, d')) (hlen : out.length < 4294967296)
    (hmax : d.maxId + 2 ≤ 4294967295) (hwf : DocWF d)
    (hobjs : ∀ p ∈ d.objects, ObjOK p.2)
    (htr : WFObj (.dict d.trailer) ∧ height (.dict d.trailer) ≤ MAX_NESTING ∧ NoRealD d.trailer)
    (hv1 : ∀ b ∈ d.version, notEol b = true) (hprev : d.trailer.get PREV = none) :
    strictLoad out = .ok { version := d.version, objects := d.objects, trailer := d'.trailer, revisions := 1,
                            xrefStreamIds := [d.maxId + 1] } := by
  have hreal : NoRealD d'.trailer := by
    rw [(saveFrom_stream_eq [] d out d' hk h).2]; exact (xrefObj_ok d out d' hk h hlen hmax hwf.gens htr).2.2.1
  rw [strict_of_save_stream_norm d out d' hk h hlen hmax hwf (fun p hp => objOKN_of_objOK (hobjs p hp))
    ⟨htr.1, htr.2.1⟩ hv1 hprev, map_nfObj_noReal _ hobjs, normD_noReal _ hreal]

/-- non-vacuity: the hypotheses are jointly satisfiable (the empty document of `Thm/FileRt.lean`),
so the strict reader's acceptance is obtained outright -/
example : ∃ out d', saveFrom [] exDoc = some (out, d') ∧ ∃ sd, strictLoad out = .ok sd ∧ sd.revisions = 1 := by
  obtain ⟨out, d', h, hlen⟩ := exDoc_saves
  refine ⟨out, d', h, _, strict_of_save_table exDoc out d' rfl h hlen (by decide)
    ⟨by simp [exDoc], by intro p hp; simp [exDoc] at hp, by intro p hp; simp [exDoc] at hp,
      by intro p hp; simp [exDoc] at hp⟩
    (by intro p hp; simp [exDoc] at hp)
    ⟨by simp [exDoc, WFObj, WF, WFD], by simp [exDoc, height, heightD, MAX_NESTING], by simp [exDoc, NoRealD]⟩
    (by intro b hb; simp [exDoc] at hb; rcases hb with h | h | h <;> subst h <;> decide)
    (by simp [exDoc]), rfl⟩

end Lopdf.Strict
