import LopdfModel.Thm.C17Pages
import LopdfModel.Thm.C17Adjust
/-
  C17 — the property's full pipeline:  add_bookmark* ; adjust_zero_pages ; build_outline ; install ; get_toc.
-/
namespace Lopdf.C17
open Lopdf Gen

/-- **C17, end to end, with `adjust_zero_pages`.**  As `toc_readback_api`, but the zero-page parents
are first fixed up by `adjust_zero_pages`: the table of contents read back is the preorder of the
ADJUSTED forest `adjL (forestOfOps ops)` (bottom-up specification), whose target pages must be in the
page tree. -/
theorem toc_readback_api_adjusted (trailer : Dict) (os : Objects) (cat pid : ObjId) (catd : Dict) (ks : List PT)
    (maxId : Nat) (ops : List (Bm × Option Nat))
    (hroot : (trailer.get ROOT).bind Obj.asRef = some cat)
    (hcatd : os.get cat = some (.dict catd))
    (hpages : (catd.get PAGES).bind Obj.asRef = some pid)
    (hkids : kidsOf os pid = some (PT.idsL ks))
    (hemb : EmbedsL (classify os) ks)
    (hnodup : (PT.allIdsL ks).Nodup)
    (hdepth : PT.heightL ks ≤ PAGE_TREE_DEPTH_LIMIT)
    (hold : ∀ q x, os.get q = some x → q.1 ≤ maxId)
    (hnd : catd.get RD_DESTS = none) (hnn : catd.get RD_NAMES = none)
    (hc : ∀ op ∈ ops, op.1.children = [])
    (hne : forestOfOps ops ≠ [])
    (htarget : ∀ e ∈ BT.preL 1 (adjL (forestOfOps ops)), e.2.2 ∈ PT.leavesL ks)
    (hscalar : ∀ e ∈ BT.preL 1 (adjL (forestOfOps ops)), ∀ c ∈ e.2.1, IsScalar c)
    (hdistinct : ((BT.preL 1 (adjL (forestOfOps ops))).map (fun e => e.2.1)).Nodup)
    (fuelA fuelB : Nat) (hfA : BT.sizeL (forestOfOps ops) ≤ fuelA)
    (hfB : BT.sizeL (adjL (forestOfOps ops)) ≤ fuelB) :
    ∃ s' b, adjustZeroPages fuelA (addAll BmState.empty ops) = some s' ∧
      buildOutline fuelB s' maxId = some (some b) ∧
      getToc trailer (setOutlines (installObjs os b.objs) cat b.root) =
        .ok ((BT.preL 1 (adjL (forestOfOps ops))).map
          (fun e => { level := e.1, title := e.2.1, page := pageIndex (PT.leavesL ks) e.2.2 + 1 })) 0 := by
  obtain ⟨s', hrun, _, _, hrep, _⟩ := adjust_spec ops hc fuelA hfA
  obtain ⟨b, hb, htoc⟩ := toc_readback_rep trailer os cat pid catd ks maxId s' _ hrep hroot hcatd hpages hkids hemb
    hnodup hdepth hold hnd hnn (adjL_ne_nil hne) htarget hscalar hdistinct fuelB hfB
  exact ⟨s', b, hrun, hb, htoc⟩

end Lopdf.C17
