import LopdfModel.Thm.C02Space
import LopdfModel.Thm.C02Num
import LopdfModel.Spec.GrammarXref
import LopdfModel.Lemmas.XTable
/-
  C02 — cross-reference tables: every spelling of a table the grammar allows (`DerivesXrefTable`:
  any of the three end-of-line markers after `xref` and after each subsection header, optional
  blank before the latter, any digit counts / leading zeros, each entry with any of the three
  two-byte line ends, any number of subsections) is read by `xref` to exactly the map the table
  denotes (`tableOf`: the in-use entries, a later line for a number replacing an earlier one).
-/
namespace Lopdf.Grammar
open Lopdf Gen

theorem bindAll_append (x : XTable) (l1 l2 : List (Nat × XEntry)) :
    bindAll x (l1 ++ l2) = bindAll (bindAll x l1) l2 := by
  simp [bindAll, List.foldl_append]

theorem bindAll_get (l : List (Nat × XEntry)) : ∀ (x : XTable) (n : Nat),
    (bindAll x l).get n = (lastBinding l n).orElse (fun _ => x.get n) := by
  induction l with
  | nil => intro x n; simp [bindAll, lastBinding]
  | cons p rest ih =>
    intro x n
    have : bindAll x (p :: rest) = bindAll (x.insert p.1 p.2) rest := rfl
    rw [this, ih, XTable.get_insert]
    simp only [lastBinding, List.reverse_cons, List.find?_append]
    cases h : List.find? (fun p => p.1 == n) rest.reverse with
    | some q => simp
    | none =>
      by_cases hp : p.1 = n <;> simp [hp]

theorem bindAll_nil_get (l : List (Nat × XEntry)) (n : Nat) : (bindAll [] l).get n = lastBinding l n := by
  rw [bindAll_get]; cases lastBinding l n <;> rfl

/-- **Look-up in the denoted map**: the last in-use line for the number, in file order. -/
theorem tableOf_get (secs : List TSub) (n : Nat) :
    (tableOf secs).get n = lastBinding (inUseOf secs) n := bindAll_nil_get _ n

/-- two numerals separated by one blank, then `k`: the common start of an entry and of a
subsection header -/
def twoNumbers {α : Type} (m1 m2 : Nat) (k : Nat → Nat → Bytes → Option α) (inp : Bytes) : Option α :=
  (pUnsigned m1 inp).bind fun (a, r1) =>
    match r1 with
    | 32 :: r2 => (pUnsigned m2 r2).bind fun (b, r3) => k a b r3
    | _ => none

theorem twoNumbers_eq {α : Type} {a b : Nat} {d1 d2 : Bytes} (h1 : DerivesNat a d1) (h2 : DerivesNat b d2)
    (m1 m2 : Nat) (k : Nat → Nat → Bytes → Option α) (r3 : Bytes) (hr3 : NoDigitAhead r3) :
    twoNumbers m1 m2 k (d1 ++ 32 :: (d2 ++ r3)) = if a ≤ m1 ∧ b ≤ m2 then k a b r3 else none := by
  rw [twoNumbers, unsigned_eq h1 m1 _ (ahead_cons (by decide))]
  by_cases ha : a ≤ m1
  · rw [if_pos ha, Option.bind_some]
    show (pUnsigned m2 (d2 ++ r3)).bind _ = _
    rw [unsigned_eq h2 m2 r3 hr3]
    by_cases hb : b ≤ m2
    · rw [if_pos hb, if_pos ⟨ha, hb⟩]; rfl
    · rw [if_neg hb, if_neg (fun h => hb h.2)]; rfl
  · rw [if_neg ha, if_neg (fun h => ha h.1)]; rfl

theorem twoNumbers_none {α : Type} (m1 m2 : Nat) (k : Nat → Nat → Bytes → Option α) (y : Bytes)
    (h : NoDigitAhead y) : twoNumbers m1 m2 k y = none := by
  rw [twoNumbers, ObjRt.pUnsigned_none _ y h]; rfl

/-- an entry after the two numbers: ` n` or ` f` and the two-byte line end -/
def entryTail (off g : Nat) : Bytes → Option ((Nat × Nat × Bool) × Bytes)
  | 32 :: k :: r4 =>
    if k = 110 || k = 102 then (xrefEol r4).map fun r5 => ((off, g, k == 110), r5) else none
  | _ => none

theorem pXrefEntry_eq (inp : Bytes) : pXrefEntry inp = twoNumbers U32_MAX U32_MAX entryTail inp := rfl

/-- `opt(tag(" "))` -/
def skipBlank : Bytes → Bytes
  | 32 :: r => r
  | r => r

/-- a subsection header after the two numbers: an optional blank, the end-of-line marker, the entries -/
def sectionTail (start : Nat) (r3 : Bytes) : Option ((Nat × List (Nat × Nat × Bool)) × Bytes) :=
  (eol (skipBlank r3)).map fun (_, r5) =>
    let (es, r6) := manyXrefEntries (r5.length + 1) r5
    ((start, es), r6)

theorem pXrefSection_eq (inp : Bytes) :
    pXrefSection inp = twoNumbers USIZE_MAX U32_MAX (fun start _ => sectionTail start) inp := rfl

theorem entry_none_of_nodigit (y : Bytes) (h : NoDigitAhead y) : pXrefEntry y = none :=
  (pXrefEntry_eq y).trans (twoNumbers_none _ _ _ y h)

theorem section_none_of_nodigit (y : Bytes) (h : NoDigitAhead y) : pXrefSection y = none :=
  (pXrefSection_eq y).trans (twoNumbers_none _ _ _ y h)

theorem entryEol_complete (e z : Bytes) (h : IsEntryEol e) : xrefEol (e ++ z) = some z := by
  cases h <;> rfl

theorem xrefEntry_complete {t : TEntry} {b : Bytes} (h : DerivesXrefEntry t b) (z : Bytes) :
    pXrefEntry (b ++ z) = some (t, z) := by
  cases h with
  | mk off gen inUse d1 d2 e h1 ho h2 hg he =>
    simp only [List.append_assoc, List.cons_append, List.nil_append]
    rw [pXrefEntry_eq, twoNumbers_eq h1 h2 _ _ _ _ (ahead_cons (by decide)),
      if_pos ⟨ho, Nat.le_trans hg (by decide)⟩]
    cases inUse <;> simp [entryTail, entryEol_complete e z he]

theorem entry_starts {t : TEntry} {b : Bytes} (h : DerivesXrefEntry t b) : Starts (isDigit · = true) b := by
  cases h with
  | mk off gen inUse d1 d2 e h1 ho h2 hg he =>
    exact ((((nat_starts h1).append _).append _).append _).append _

theorem entries_shape {es : List TEntry} {ebs : Bytes} (h : DerivesXrefEntries es ebs) :
    (es = [] ∧ ebs = []) ∨ Starts (isDigit · = true) ebs := by
  cases h with
  | nil => exact Or.inl ⟨rfl, rfl⟩
  | cons e es b bs he _ => exact Or.inr ((entry_starts he).append bs)

theorem entries_length {es : List TEntry} {ebs : Bytes} (h : DerivesXrefEntries es ebs) :
    es.length ≤ ebs.length := by
  induction h with
  | nil => simp
  | cons e es b bs he _ ih =>
    have := (entry_starts he).length_pos
    simp only [List.length_cons, List.length_append]; omega

theorem manyEntries_complete {es : List TEntry} {ebs : Bytes} (h : DerivesXrefEntries es ebs) :
    ∀ (fuel : Nat) (y : Bytes), pXrefEntry y = none → es.length + 1 ≤ fuel →
    manyXrefEntries fuel (ebs ++ y) = (es, y) := by
  induction h with
  | nil =>
    intro fuel y hy hf
    match fuel, hf with
    | f + 1, _ => simp [manyXrefEntries, hy]
  | cons e es b bs he _ ih =>
    intro fuel y hy hf
    match fuel, hf with
    | f + 1, hf =>
      simp only [List.append_assoc, manyXrefEntries, xrefEntry_complete he (bs ++ y),
        ih f y hy (Nat.le_of_succ_le_succ hf)]

theorem digit_not_eol {c : UInt8} (h : isDigit c = true) : c ≠ 10 := ne_of_class h (by decide)

theorem eol_not_digit {c : UInt8} (h : c = 13 ∨ c = 10) : isDigit c = false ∧ c ≠ 32 := by
  rcases h with rfl | rfl <;> decide

theorem afterCount {sp e : Bytes} (hsp : IsOptSp sp) (he : IsEol e) (z : Bytes) :
    NoDigitAhead (sp ++ (e ++ z)) ∧ skipBlank (sp ++ (e ++ z)) = e ++ z ∧
    ∀ off g, entryTail off g (sp ++ (e ++ z)) = none := by
  obtain ⟨c, r, hcr, hc13⟩ := eol_head e he z
  cases hsp with
  | none =>
    rw [List.nil_append, hcr]
    refine ⟨ahead_cons (eol_not_digit hc13).1, ?_, fun off g => ?_⟩ <;> rcases hc13 with rfl | rfl <;> rfl
  | sp =>
    refine ⟨ahead_cons (by decide), rfl, fun off g => ?_⟩
    rw [hcr]; rcases hc13 with rfl | rfl <;> rfl

theorem subHeader_complete (start cnt : Nat) (d1 d2 sp e z : Bytes) (h1 : DerivesNat start d1)
    (h2 : DerivesNat cnt d2) (hc : cnt ≤ 4294967295) (hst : start ≤ 4294967296) (hsp : IsOptSp sp)
    (he : IsEol e) :
    pXrefSection (d1 ++ [32] ++ d2 ++ sp ++ e ++ z) =
      (eol (e ++ z)).map fun (p : Bytes × Bytes) =>
        let (es, r6) := manyXrefEntries (p.2.length + 1) p.2
        ((start, es), r6) := by
  obtain ⟨hnd, hskip, _⟩ := afterCount hsp he z
  simp only [List.append_assoc, List.cons_append, List.nil_append]
  rw [pXrefSection_eq, twoNumbers_eq h1 h2 _ _ _ _ hnd, if_pos ⟨Nat.le_trans hst (by decide), hc⟩]
  unfold sectionTail
  rw [hskip]

theorem sub_starts {s : TSub} {b : Bytes} (h : DerivesXrefSub s b) : Starts (isDigit · = true) b := by
  cases h with
  | mk start es d1 d2 sp e ebs h1 _ _ _ _ _ _ =>
    exact (((((nat_starts h1).append _).append _).append _).append _).append _

/-- **One subsection, every spelling**: header and entries, followed by a text `y` that is not
an entry. When the header ends in a lone CR, the subsection is empty and `y` starts with LF,
that LF is taken as part of the marker (`r6` = `y` without it). -/
theorem xrefSub_complete {s : TSub} {b : Bytes} (h : DerivesXrefSub s b) (y : Bytes)
    (hy : pXrefEntry y = none) (hy' : ∀ r, y = 10 :: r → pXrefEntry r = none) :
    ∃ r6, pXrefSection (b ++ y) = some (s, r6) ∧ (r6 = y ∨ y = 10 :: r6) := by
  cases h with
  | mk start es d1 d2 sp e ebs h1 h2 hc hst hsp he hes =>
    rw [List.append_assoc _ ebs y, subHeader_complete start es.length d1 d2 sp e (ebs ++ y) h1 h2 hc
      (Nat.le_trans (Nat.le_add_right _ _) hst) hsp he]
    obtain ⟨m, r5, h5, hr5⟩ := eol_general e (ebs ++ y) he
    rw [h5]
    rcases hr5 with rfl | ⟨_, hr5⟩
    · refine ⟨y, ?_, Or.inl rfl⟩
      have := manyEntries_complete hes ((ebs ++ y).length + 1) y hy
        (Nat.succ_le_succ (le_length_append (entries_length hes) y))
      simp only [Option.map, this]
    · rcases entries_shape hes with ⟨rfl, rfl⟩ | hd
      · refine ⟨r5, ?_, Or.inr hr5⟩
        have := manyEntries_complete .nil (r5.length + 1) r5 (hy' r5 hr5) (by simp)
        simp only [List.nil_append] at this
        simp [this]
      · exact absurd rfl ((hd.append y).ahead (fun _ => digit_not_eol) 10 r5 hr5)

/-- a subsection header is never mistaken for one more entry of the previous subsection -/
theorem sub_not_entry {s : TSub} {b : Bytes} (h : DerivesXrefSub s b) (z : Bytes) :
    pXrefEntry (b ++ z) = none := by
  cases h with
  | mk start es d1 d2 sp e ebs h1 h2 hc hst hsp he hes =>
    obtain ⟨hnd, _, htail⟩ := afterCount hsp he (ebs ++ z)
    simp only [List.append_assoc, List.cons_append, List.nil_append]
    rw [pXrefEntry_eq, twoNumbers_eq h1 h2 _ _ _ _ hnd, htail]
    exact ite_self _

theorem entries_gen_le {es : List TEntry} {ebs : Bytes} (h : DerivesXrefEntries es ebs) :
    ∀ t ∈ es, t.2.1 ≤ 65535 := by
  induction h with
  | nil => intro t ht; simp at ht
  | cons e es b bs he _ ih =>
    intro t ht
    rcases List.mem_cons.mp ht with rfl | ht
    · cases he; assumption
    · exact ih t ht

def subBindings (start : Nat) (es : List TEntry) : List (Nat × XEntry) :=
  (numbered start es).filterMap fun (p : Nat × TEntry) =>
    if p.2.2.2 then some (p.1, XEntry.normal p.2.1 p.2.2.1) else none

theorem subBindings_cons (n off g : Nat) (isN : Bool) (es : List TEntry) :
    subBindings n ((off, g, isN) :: es) =
      (if isN then [(n, XEntry.normal off g)] else []) ++ subBindings (n + 1) es := by
  cases isN <;> simp [subBindings, numbered]

theorem addSection_complete (es : List TEntry) : ∀ (x : XTable) (start idx : Nat),
    (∀ t ∈ es, t.2.1 ≤ 65535) → start + idx + es.length ≤ 4294967296 →
    addSection x start es idx = .ok (bindAll x (subBindings (start + idx) es)) := by
  induction es with
  | nil => intro x start idx _ _; rfl
  | cons t es ih =>
    intro x start idx hg hl
    obtain ⟨off, g, isN⟩ := t
    have hg0 : g ≤ U16_MAX := hg (off, g, isN) List.mem_cons_self
    have hlt : start + idx < 4294967296 := Nat.lt_of_lt_of_le (Nat.lt_add_of_pos_right (Nat.succ_pos _)) hl
    have ih' := fun x' => ih x' start (idx + 1) (fun t ht => hg t (List.mem_cons_of_mem _ ht))
      (by rw [List.length_cons] at hl; omega)
    rw [subBindings_cons, bindAll_append, addSection]
    cases isN with
    | false => exact ih' x
    | true =>
      have h1 : ¬ (start + idx ≥ U64) := Nat.not_le.mpr (Nat.lt_trans hlt (by decide))
      simp only [if_true, hg0, h1, if_false, Nat.mod_eq_of_lt (show start + idx < U32 from hlt), ih']
      rfl

theorem nodigit_of_ws (rest : Bytes) (h : NoDigitAhead (whiteSpace rest)) : NoDigitAhead rest := by
  intro b r he
  subst he
  cases hd : isDigit b with
  | false => rfl
  | true => rw [← hd]; exact h b r (by simp [whiteSpace, spanP, digit_not_ws hd])

theorem nodigit_after_lf (r : Bytes) (h : NoDigitAhead (whiteSpace (10 :: r))) : NoDigitAhead r := by
  apply nodigit_of_ws
  have : whiteSpace (10 :: r) = whiteSpace r := by
    simp [whiteSpace, spanP, show isWhitespace 10 = true by decide]
  rwa [this] at h

theorem subs_starts {secs : List TSub} {body : Bytes} (h : DerivesXrefSubs secs body) :
    Starts (isDigit · = true) body := by
  cases h with
  | one s b hs => exact sub_starts hs
  | cons s ss b bs hs _ => exact (sub_starts hs).append bs

theorem subs_length {secs : List TSub} {body : Bytes} (h : DerivesXrefSubs secs body) :
    secs.length ≤ body.length := by
  induction h with
  | one s b hs => exact (sub_starts hs).length_pos
  | cons s ss b bs hs _ ih =>
    have := (sub_starts hs).length_pos
    simp only [List.length_cons, List.length_append]; omega

theorem inUseOf_cons (s : TSub) (ss : List TSub) :
    inUseOf (s :: ss) = subBindings s.1 s.2 ++ inUseOf ss := by
  simp [inUseOf, subBindings]

theorem sub_addSection {s : TSub} {b : Bytes} (h : DerivesXrefSub s b) (x : XTable) :
    addSection x s.1 s.2 0 = .ok (bindAll x (subBindings s.1 s.2)) := by
  cases h with
  | mk start es d1 d2 sp e ebs h1 h2 hc hst hsp he hes =>
    exact addSection_complete es x start 0 (entries_gen_le hes) hst

/-- **The subsections, every spelling**, followed by a text in which — after any white space —
no digit comes first (e.g. the keyword `trailer`). -/
theorem foldSections_complete {secs : List TSub} {body : Bytes} (h : DerivesXrefSubs secs body) :
    ∀ (fuel : Nat) (x : XTable) (any : Bool) (rest : Bytes), secs.length + 1 ≤ fuel →
    NoDigitAhead (whiteSpace rest) →
    ∃ r', foldSections fuel (body ++ rest) x any = .ok (some (bindAll x (inUseOf secs), r')) ∧
      space r' = space rest := by
  induction h with
  | one s b hs =>
    intro fuel x any rest hf hr
    have hnd := nodigit_of_ws rest hr
    obtain ⟨r6, h6, hr6⟩ := xrefSub_complete hs rest (entry_none_of_nodigit rest hnd)
      (fun r he => entry_none_of_nodigit r (nodigit_after_lf r (he ▸ hr)))
    have hnd6 : NoDigitAhead r6 := by
      rcases hr6 with rfl | he
      · exact hnd
      · exact nodigit_after_lf r6 (he ▸ hr)
    have hsp : space r6 = space rest := by
      rcases hr6 with rfl | he
      · rfl
      · rw [he, ObjRt.space_ws 10 r6 (by decide)]
    refine ⟨r6, ?_, hsp⟩
    match fuel, hf with
    | f + 2, _ =>
      simp only [foldSections, h6, sub_addSection hs x, section_none_of_nodigit r6 hnd6, if_true]
      simp [inUseOf, subBindings]
  | cons s ss b bs hs hss ih =>
    intro fuel x any rest hf hr
    have hd := (subs_starts hss).append rest
    have hne : pXrefEntry (bs ++ rest) = none := by
      cases hss with
      | one s' b' hs' => exact sub_not_entry hs' rest
      | cons s' ss' b' bs' hs' _ => simpa using sub_not_entry hs' (bs' ++ rest)
    have hlf : ∀ r, bs ++ rest ≠ 10 :: r := fun r he => hd.ahead (fun _ => digit_not_eol) 10 r he rfl
    obtain ⟨r6, h6, rfl | he⟩ := xrefSub_complete hs (bs ++ rest) hne (fun r he => absurd he (hlf r))
    · match fuel, hf with
      | f + 1, hf =>
        obtain ⟨r', h1, h2⟩ := ih f (bindAll x (subBindings s.1 s.2)) true rest
          (Nat.le_of_succ_le_succ hf) hr
        refine ⟨r', ?_, h2⟩
        simp only [List.append_assoc, foldSections, h6, sub_addSection hs x, h1]
        rw [inUseOf_cons, bindAll_append]
    · exact absurd he (hlf r6)

/-- **Cross-reference tables, every spelling.** Whatever end-of-line markers, optional blanks,
digit counts and number of subsections the producer used, `xref` yields exactly the map the
table denotes — every in-use entry under its object number, a later line replacing an earlier
one for the same number (`tableOf_get`) — and stops in front of the text that follows (after
its white space), provided no digit comes first there (in a file: the keyword `trailer`). -/
theorem xref_complete (secs : List TSub) (bs rest : Bytes) (h : DerivesXrefTable secs bs)
    (hr : NoDigitAhead (whiteSpace rest)) :
    pXref (bs ++ rest) = .ok (some (tableOf secs, space rest)) := by
  cases h with
  | mk e body he hb =>
    obtain ⟨m, hm⟩ := eol_exact e (body ++ rest) he
      (((subs_starts hb).append rest).ahead fun _ => digit_not_eol)
    obtain ⟨r', h1, h2⟩ := foldSections_complete hb ((body ++ rest).length + 1) [] false rest
      (Nat.succ_le_succ (le_length_append (subs_length hb) rest)) hr
    have e1 : [120, 114, 101, 102] ++ e ++ body ++ rest = 120 :: 114 :: 101 :: 102 :: (e ++ (body ++ rest)) := by
      simp
    rw [e1]
    unfold pXref
    simp only [pXref.XREF_WORD, tag, if_true, Option.bind, hm, Option.map, h1, h2]
    rfl

/-! ### non-vacuity: a two-subsection table with mixed line ends, one-digit and padded fields -/

/-- `0000000000 65535 f` SP LF -/
example : DerivesXrefEntry (0, 65535, false)
    [48, 48, 48, 48, 48, 48, 48, 48, 48, 48, 32, 54, 53, 53, 51, 53, 32, 102, 32, 10] :=
  .mk 0 65535 false [48, 48, 48, 48, 48, 48, 48, 48, 48, 48] [54, 53, 53, 51, 53] [32, 10]
    (derivesNat_lit 0 [48, 48, 48, 48, 48, 48, 48, 48, 48, 48] 9 rfl (by unfold AllDigits; decide) rfl) (by decide)
    (derivesNat_lit 65535 [54, 53, 53, 51, 53] 4 rfl (by unfold AllDigits; decide) rfl) (by decide) .spLf

/-- `xref` CR, `0 1` LF, one free entry; `3 1 ` CR LF, `17 0 n` CR LF -/
theorem exampleTable : DerivesXrefTable [(0, [(0, 65535, false)]), (3, [(17, 0, true)])]
    ([120, 114, 101, 102] ++ [13] ++
      (([48] ++ [32] ++ [49] ++ [] ++ [10] ++
        (([48, 48, 48, 48, 48, 48, 48, 48, 48, 48] ++ [32] ++ [54, 53, 53, 51, 53] ++ [32, 102] ++ [32, 10]) ++ [])) ++
       ([51] ++ [32] ++ [49] ++ [32] ++ [13, 10] ++
        (([49, 55] ++ [32] ++ [48] ++ [32, 110] ++ [13, 10]) ++ [])))) :=
  .mk _ _ _ .cr
    (.cons _ _ _ _
      (.mk 0 [(0, 65535, false)] _ _ _ _ _ (.one 48 (by decide)) (.one 49 (by decide)) (by decide) (by decide) .none .lf
        (.cons _ _ _ _
          (.mk 0 65535 false _ _ _ (derivesNat_lit 0 [48, 48, 48, 48, 48, 48, 48, 48, 48, 48] 9 rfl (by unfold AllDigits; decide) rfl) (by decide)
            (derivesNat_lit 65535 [54, 53, 53, 51, 53] 4 rfl (by unfold AllDigits; decide) rfl) (by decide) .spLf) .nil))
      (.one _ _
        (.mk 3 [(17, 0, true)] _ _ _ _ _ (.one 51 (by decide)) (.one 49 (by decide)) (by decide) (by decide) .sp .crlf
          (.cons _ _ _ _
            (.mk 17 0 true _ _ _ (derivesNat_lit 17 [49, 55] 1 rfl (by unfold AllDigits; decide) rfl) (by decide)
              (.one 48 (by decide)) (by decide) .crLf) .nil))))

example : NoDigitAhead (whiteSpace [10, 116, 114]) := by
  intro b r h; simp [whiteSpace, spanP, isWhitespace, WHITESPACE] at h; obtain ⟨rfl, _⟩ := h; decide
example : tableOf [(0, [(0, 65535, false)]), (3, [(17, 0, true)])] = [(3, .normal 17 0)] := by decide
/-- a later subsection replaces the entry of an earlier one -/
example : tableOf [(3, [(17, 0, true)]), (2, [(9, 0, true), (40, 1, true)])] = [(3, .normal 40 1), (2, .normal 9 0)] := by decide

end Lopdf.Grammar
