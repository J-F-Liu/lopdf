import LopdfModel.Thm.C15
import LopdfModel.Thm.C04CMap
import LopdfModel.Spec.CMapSeg
/-
  C15 — `decode_text` on ARBITRARY byte strings: the loop of `Encoding::bytes_to_string`
  (UnicodeMapEncoding) computes exactly `segSpec` (Spec/CMapSeg.lean): lengths 1..4 tried in order,
  first mapped length wins, up to four unmatched bytes become ONE U+FFFD. Then where this differs from
  other plausible readings, and two shapes of `cmap_get` spelled out (the carry in an incrementing
  range target, 4-byte codes with a non-zero first byte).
-/
namespace Lopdf.CMap
open Lopdf Lopdf.Gen Lopdf.CMapSpec

set_option linter.unusedSimpArgs false

theorem firstMapped_spec (f : Nat → Nat → Option (List Nat)) (bs : List Nat) (j tries : Nat) :
    match firstMapped f bs j tries with
    | some (k, v) =>
      j ≤ k ∧ k < j + tries ∧ k < bs.length ∧
      (∀ i, j ≤ i → i < k → f (codeOfBytes (bs.take (i + 1))) (i + 1) = none) ∧
      f (codeOfBytes (bs.take (k + 1))) (k + 1) = some v
    | none => ∀ i, j ≤ i → i < j + tries → i < bs.length → f (codeOfBytes (bs.take (i + 1))) (i + 1) = none := by
  fun_induction firstMapped f bs j tries with
  | case1 j => exact fun i h1 h2 => absurd h1 (Nat.not_le.mpr h2)
  | case2 j t hj v hf =>
    exact ⟨Nat.le_refl _, Nat.lt_add_of_pos_right (Nat.succ_pos t), hj,
      fun i h1 h2 => absurd h1 (Nat.not_le.mpr h2), hf⟩
  | case3 j t hj hf ih =>
    -- nothing at `j`: the answer is that of the search from `j + 1`, whose range lacks only `j`
    have at_j : ∀ i, j ≤ i → ¬ j + 1 ≤ i → f (codeOfBytes (bs.take (i + 1))) (i + 1) = none := fun i h1 h2 => by
      rw [← Nat.le_antisymm h1 (Nat.le_of_not_lt h2)]; exact hf
    revert ih
    cases firstMapped f bs (j + 1) t with
    | none =>
      intro ih i h1 h2 h3
      exact Decidable.byCases (fun h : j + 1 ≤ i => ih i h (Nat.lt_of_lt_of_eq h2 (Nat.add_right_comm j t 1)) h3) (at_j i h1)
    | some p =>
      intro ⟨h1, h2, h3, hnone, hsome⟩
      exact ⟨Nat.le_of_succ_le h1, Nat.lt_of_lt_of_eq h2 (Nat.add_right_comm j 1 t), h3,
        fun i hi1 hi2 => Decidable.byCases (fun h : j + 1 ≤ i => hnone i h hi2) (at_j i hi1), hsome⟩
  | case4 j t hj => exact fun i h1 _ h3 => absurd (Nat.lt_of_le_of_lt h1 h3) hj

theorem segSpec_nil (f : Nat → Nat → Option (List Nat)) : segSpec f [] = [] := by
  rw [segSpec]; simp

theorem segSpec_hit (f : Nat → Nat → Option (List Nat)) (bs : List Nat) (hne : bs ≠ []) {k : Nat} {v : List Nat}
    (h : firstMapped f bs 0 4 = some (k, v)) : segSpec f bs = v ++ segSpec f (bs.drop (k + 1)) := by
  rw [segSpec]; simp only [hne, dite_false, h]

theorem segSpec_miss (f : Nat → Nat → Option (List Nat)) (bs : List Nat) (hne : bs ≠ [])
    (h : firstMapped f bs 0 4 = none) : segSpec f bs = 0xFFFD :: segSpec f (bs.drop 4) := by
  rw [segSpec]; simp only [hne, dite_false, h]

theorem codeVal_eq (bs : List Nat) : codeVal bs = codeOfBytes bs := rfl

/-- **cmap_decode_total_spec** — for every stored map whose lookups answer `f` (no panic) and EVERY byte
string — any length, mapped or unmapped codes, prefix-free or not, trailing partial codes — the loop of
`Encoding::bytes_to_string` produces exactly the units `segSpec f` denotes. -/
theorem cmap_decode_total_spec (m : UMap) (f : Nat → Nat → Option (List Nat))
    (hg : ∀ c l, get m c l = .ok (f c l)) (bytes : List Nat) :
    bytesToUnits m bytes = .ok (segSpec f bytes) := by
  -- the two branches of `segSpec` are the two ways the loop gets back to its initial state
  unfold bytesToUnits
  fun_induction segSpec f bytes with
  | case1 => rfl
  | case2 bs hne k v hfm ih =>
    have hspec := firstMapped_spec f bs 0 4
    rw [hfm] at hspec
    obtain ⟨_, hk, hl, hnone, hsome⟩ := hspec
    rw [seg_code m bs (by omega) hl (fun i hi => by rw [hg, codeVal_eq, hnone i (Nat.zero_le _) hi])
      (by rw [hg, codeVal_eq, hsome]), ih]
    rfl
  | case3 bs hne hfm ih =>
    have hnone := firstMapped_spec f bs 0 4
    rw [hfm] at hnone
    rw [seg_unmatched m bs hne fun i h4 hl => by rw [hg, codeVal_eq, hnone i (Nat.zero_le _) (by omega) hl],
      ih]
    rfl

/-- the lookup of a stored map as a plain function (`none` also where `get` would panic — which it
never does on a map `from_sections` returned) -/
def getOpt (m : UMap) (c l : Nat) : Option (List Nat) :=
  match get m c l with
  | .ok v => v
  | _ => none

theorem targetAt_not_err (c : Nat) (t : Target) : ∀ e, targetAt c t ≠ .err e := by
  intro e
  cases t with
  | hex st v =>
    simp only [targetAt]
    cases hv : v.getLast? with
    | none => simp
    | some last => by_cases h : c < st <;> simp [h]
  | cp off => simp [targetAt]
  | arr st vs => simp only [targetAt]; by_cases h : c < st <;> simp [h]

theorem get_not_err (m : UMap) (c l : Nat) : ∀ e, get m c l ≠ .err e := by
  intro e
  unfold get
  by_cases hb : badLen l = true
  · simp [hb]
  · simp only [hb, Bool.false_eq_true, if_false]
    cases rmGetKV (m l) c with
    | none => simp
    | some r => obtain ⟨_, _, t⟩ := r; exact targetAt_not_err c t e

theorem get_eq_getOpt (m : UMap) (hp : ∀ c l, (get m c l).isPanic = false) (c l : Nat) :
    get m c l = .ok (getOpt m c l) := by
  unfold getOpt
  cases h : get m c l with
  | ok v => rfl
  | err e => exact absurd h (get_not_err m c l e)
  | panic s => have := hp c l; rw [h] at this; simp [Outcome.isPanic] at this

/-- **cmap_decode_total** — for EVERY CMap `from_sections` accepts (well-formed or not) and every byte
string, `bytes_to_string`'s loop neither fails nor panics and produces the units `segSpec` denotes
under the map's own lookup. -/
theorem cmap_decode_total (ss : List Section) (m : UMap) (h : fromSections ss = some m) (bytes : List Nat) :
    bytesToUnits m bytes = .ok (segSpec (getOpt m) bytes) :=
  cmap_decode_total_spec m (getOpt m) (get_eq_getOpt m (cmap_get_never_panics ss m h)) bytes

/-- `cmap_get` without the bound on the code: beyond `u32` nothing is mapped and nothing is defined -/
theorem cmap_get_any (ss : List Section) (hwf : ∀ d ∈ defsOf ss, d.wf) (c l : Nat) :
    ∃ m, fromSections ss = some m ∧ get m c l = .ok (defines (defsOf ss) c l) :=
  ⟨_, fromSections_wf hwf, get_defines _ hwf c l⟩

/-- **cmap_decode_total_defines** — the property for ARBITRARY byte strings: for every well-formed CMap
and every byte string, the decoded units are `segSpec` under what the CMap `defines`. (For strings of
mapped prefix-free codes this is the concatenation of the targets: `cmap_decode`.) -/
theorem cmap_decode_total_defines (ss : List Section) (hwf : ∀ d ∈ defsOf ss, d.wf) (bytes : List Nat) :
    ∃ m, fromSections ss = some m ∧ bytesToUnits m bytes = .ok (segSpec (defines (defsOf ss)) bytes) :=
  ⟨_, fromSections_wf hwf, cmap_decode_total_spec _ _ (get_defines _ hwf) bytes⟩

/-- … and the text `decode_text` returns -/
theorem cmap_decode_text_total (ss : List Section) (hwf : ∀ d ∈ defsOf ss, d.wf) (bytes : List Nat) :
    ∃ m, fromSections ss = some m ∧
      (bytesToUnits m bytes).map decodeUnits = .ok (utf16Scalars (segSpec (defines (defsOf ss)) bytes)) := by
  obtain ⟨m, hm, hb⟩ := cmap_decode_total_defines ss hwf bytes
  exact ⟨m, hm, by rw [hb]; rfl⟩

/-! ### what the specification says where readings differ (each also a run of the model) -/

/-- a 1-byte code `<41>` and a 2-byte code `<4142>` -/
def witShort : List Section := [.bfChar [((0x41, 1), [0x41]), ((0x4142, 2), [0x58])]]

theorem witShort_wf : ∀ d ∈ defsOf witShort, d.wf := by decide +kernel

theorem segSpec_eval (ss : List Section) (hwf : ∀ d ∈ defsOf ss, d.wf) (bytes us : List Nat)
    (h : (fromSections ss).map (fun m => bytesToUnits m bytes) = some (.ok us)) :
    segSpec (defines (defsOf ss)) bytes = us := by
  rw [fromSections_wf hwf, Option.map_some,
    cmap_decode_total_spec _ _ (get_defines _ hwf) bytes] at h
  injection h with h; injection h with h

/-- **shortest match first, not longest match**: with `<41>` and `<4142>` both mapped, the bytes `41 42`
are "A" followed by U+FFFD (the lone `42`), although the longest mapped prefix is the whole string. -/
theorem seg_not_longest_match :
    segSpec (defines (defsOf witShort)) [0x41, 0x42] = [0x41, 0xFFFD] ∧
    lastMapped (defines (defsOf witShort)) [0x41, 0x42] 4 = some (1, [0x58]) := by
  refine ⟨segSpec_eval witShort witShort_wf _ _ (by decide +kernel), by decide⟩

/-- **an unmapped byte is not skipped alone**: with only `<41>` mapped, `FF 41` is ONE U+FFFD (the "A" is
swallowed into the unmatched code `FF41`), and `FF 41 41 41 41` is U+FFFD followed by one "A". -/
def witA1 : List Section := [.bfChar [((0x41, 1), [0x41])]]
theorem witA1_wf : ∀ d ∈ defsOf witA1, d.wf := by decide +kernel
theorem seg_unmapped_byte_swallows :
    segSpec (defines (defsOf witA1)) [0xFF, 0x41] = [0xFFFD] ∧
    segSpec (defines (defsOf witA1)) [0xFF, 0x41, 0x41, 0x41, 0x41] = [0xFFFD, 0x41] ∧
    segSpec (defines (defsOf witA1)) [0x41, 0xFF] = [0x41, 0xFFFD] := by
  refine ⟨segSpec_eval witA1 witA1_wf _ _ (by decide +kernel), segSpec_eval witA1 witA1_wf _ _ (by decide +kernel),
    segSpec_eval witA1 witA1_wf _ _ (by decide +kernel)⟩

/-- **one U+FFFD per four unmatched bytes**: four unmapped bytes give one, five give two, eight two, nine three. -/
theorem seg_five_unmapped :
    segSpec (defines (defsOf witA1)) [1, 2, 3, 4] = [0xFFFD] ∧
    segSpec (defines (defsOf witA1)) [1, 2, 3, 4, 5] = [0xFFFD, 0xFFFD] ∧
    segSpec (defines (defsOf witA1)) [1, 2, 3, 4, 5, 6, 7, 8] = [0xFFFD, 0xFFFD] ∧
    segSpec (defines (defsOf witA1)) [1, 2, 3, 4, 5, 6, 7, 8, 9] = [0xFFFD, 0xFFFD, 0xFFFD] := by
  refine ⟨segSpec_eval witA1 witA1_wf _ _ (by decide +kernel), segSpec_eval witA1 witA1_wf _ _ (by decide +kernel),
    segSpec_eval witA1 witA1_wf _ _ (by decide +kernel), segSpec_eval witA1 witA1_wf _ _ (by decide +kernel)⟩

/-- on prefix-free mapped codes the specification is the concatenation of the targets (it agrees with
`cmap_decode`; stated here for the specification itself) -/
theorem segSpec_prefix_free (ss : List Section) (hwf : ∀ d ∈ defsOf ss, d.wf)
    (codes : List (List Nat × List Nat)) (hcodes : ∀ p ∈ codes, DefinedCode (defsOf ss) p.1 p.2) :
    segSpec (defines (defsOf ss)) (codes.flatMap (·.1)) = codes.flatMap (·.2) := by
  have h := segment_exact _ codes fun p hp => segOk_of_defined hwf (hcodes p hp)
  rw [cmap_decode_total_spec _ _ (get_defines _ hwf)] at h
  injection h

theorem carry_arith (x d : Nat) :
    (x + d) / 256 = x / 256 + (x % 256 + d) / 256 ∧ (x + d) % 256 = (x % 256 + d) % 256 := by
  refine ⟨?_, (Nat.mod_add_mod x 256 d).symm⟩
  rw [← Nat.mul_add_div (by decide : 0 < 256), ← Nat.add_assoc, Nat.div_add_mod]

/-- **range_target_carry** — a multi-unit incrementing bfrange target: wherever the definition
`<lo> <hi> <… last>` is the last one covering the code, `get` returns the target with the WHOLE 16-bit last
unit increased by the offset — a low byte that passes FF carries into the high byte of that unit (and
never into the unit before it). -/
theorem range_target_carry (ss : List Section) (hwf : ∀ d ∈ defsOf ss, d.wf)
    (lo hi len : Nat) (t : List Nat) (last c : Nat)
    (hD : lastCovering (defsOf ss) c len = some (.range lo hi len [t])) (hl : t.getLast? = some last) :
    ∃ m, fromSections ss = some m ∧
      get m c len = .ok (some (t.dropLast ++ [last + (c - lo)])) ∧
      (last + (c - lo)) / 256 = last / 256 + (last % 256 + (c - lo)) / 256 ∧
      (last + (c - lo)) % 256 = (last % 256 + (c - lo)) % 256 ∧
      last + (c - lo) < 65536 := by
  obtain ⟨hmem, _, _, hhi⟩ := lastCovering_some hD
  have hfit : last + (hi - lo) < 65536 := (hwf _ hmem).2.2.2.2.2.2 last hl
  have hd : c - lo ≤ hi - lo := Nat.sub_le_sub_right hhi lo
  refine ⟨_, fromSections_wf hwf, ?_, (carry_arith last (c - lo)).1, (carry_arith last (c - lo)).2,
    Nat.lt_of_le_of_lt (Nat.add_le_add_left hd _) hfit⟩
  rw [get_defines _ hwf]
  simp only [defines, hD, Option.bind_some, Def.target, hl]

/-- the same for a single-unit incrementing target (stored as an offset) -/
theorem range_single_carry (ss : List Section) (hwf : ∀ d ∈ defsOf ss, d.wf)
    (lo hi len u c : Nat) (hD : lastCovering (defsOf ss) c len = some (.range lo hi len [[u]])) :
    ∃ m, fromSections ss = some m ∧ get m c len = .ok (some [u + (c - lo)]) ∧
      (u + (c - lo)) / 256 = u / 256 + (u % 256 + (c - lo)) / 256 := by
  refine ⟨_, fromSections_wf hwf, ?_, (carry_arith u (c - lo)).1⟩
  rw [get_defines _ hwf]
  simp [defines, hD, Def.target]

/-- instances: `<10> <13> <004100FE>` at code 12 is `0041 0100`; `<00> <FF> <00F0>` at code 20 is `0110` -/
def witCarry : List Section :=
  [.bfRange [((0x10, 0x13, 1), [[0x41, 0x00FE]])], .bfRange [((0x00, 0xFF, 2), [[0x00F0]])]]
theorem range_target_carry_example :
    getAfter witCarry 0x12 1 = some (.ok (some [0x41, 0x0100])) ∧
    getAfter witCarry 0x13 1 = some (.ok (some [0x41, 0x0101])) ∧
    getAfter witCarry 0x20 2 = some (.ok (some [0x0110])) ∧
    (fromSections witCarry).map (fun m => bytesToUnits m [0x12, 0x00, 0x20]) = some (.ok [0x41, 0x0100, 0x0110]) := by
  decide +kernel

/-- **code4_msb** — 4-byte source codes with a non-zero first byte: the code is the full 32-bit big-endian
number (≥ 2^24); `get` with length 4 returns what the CMap defines for it; and a string consisting of such
a code, mapped and with no mapped proper prefix, decodes to its target. -/
theorem code4_msb (ss : List Section) (hwf : ∀ d ∈ defsOf ss, d.wf) (b0 b1 b2 b3 : Nat)
    (h0 : 0 < b0) (hb0 : b0 < 256) (hb1 : b1 < 256) (hb2 : b2 < 256) (hb3 : b3 < 256) :
    codeOfBytes [b0, b1, b2, b3] = b0 * 16777216 + b1 * 65536 + b2 * 256 + b3 ∧
    16777216 ≤ codeOfBytes [b0, b1, b2, b3] ∧
    ∃ m, fromSections ss = some m ∧
      get m (codeOfBytes [b0, b1, b2, b3]) 4 = .ok (defines (defsOf ss) (codeOfBytes [b0, b1, b2, b3]) 4) ∧
      ∀ v, DefinedCode (defsOf ss) [b0, b1, b2, b3] v → bytesToUnits m [b0, b1, b2, b3] = .ok v := by
  have e : codeOfBytes [b0, b1, b2, b3] = b0 * 16777216 + b1 * 65536 + b2 * 256 + b3 := by
    simp only [codeOfBytes, List.foldl, Nat.add_mul, Nat.zero_mul, Nat.zero_add, Nat.mul_assoc,
      Nat.reduceMul]
  refine ⟨e, ?_, ?_⟩
  · rw [e]
    exact Nat.le_trans (Nat.le_mul_of_pos_left _ h0) (by simp only [Nat.add_assoc, Nat.le_add_right])
  · refine ⟨_, fromSections_wf hwf, get_defines _ hwf _ 4, fun v hv => ?_⟩
    have := segment_exact _ [([b0, b1, b2, b3], v)] fun p hp => by
      rw [List.mem_singleton.mp hp]; exact segOk_of_defined hwf hv
    simpa using this

/-- the parser reads a written 4-byte code with a non-zero first byte back as that 32-bit number -/
theorem code4_msb_parse (c : Nat) (h : 16777216 ≤ c) (hc : c < 4294967296) (rest : Bytes) :
    psourceCode (CMapRender.renderCode c 4 ++ rest) = .ok (c, 4) rest :=
  psourceCode_render c 4 (by omega) (by omega) (by omega) rest

/-- instance: `<80000001> <263A>` next to a 1-byte code -/
def witMsb : List Section := [.bfChar [((0x80000001, 4), [0x263A]), ((0x41, 1), [0x41])]]
theorem code4_msb_example :
    getAfter witMsb 0x80000001 4 = some (.ok (some [0x263A])) ∧ getAfter witMsb 0x00000001 4 = some (.ok none) ∧
    getAfter witMsb 0x000001 3 = some (.ok none) ∧
    (fromSections witMsb).map (fun m => bytesToUnits m [0x80, 0x00, 0x00, 0x01, 0x41]) = some (.ok [0x263A, 0x41]) := by
  decide +kernel

end Lopdf.CMap
