import LopdfModel.Thm.FileLoadStream
/-
  C01 (file level) — **`load ∘ save` for plain saves of both kinds**, composed down to the objects:
  given the object-level round trips (trailer dictionary, each indirect object) as hypotheses,
  `Reader::read` on the bytes `save` wrote returns a document with the same version, binary mark,
  trailer and — for every object id — the same object. The table the reader rebuilds mirrors the
  map the writer recorded, the file holds the recorded objects (`Recorded`), so the table `Indexes`
  them.
-/
namespace Lopdf.FileRT
open Lopdf Gen

/-- object-level hypothesis (C01 `obj_rt` lifted to `indirect_object`): the text
`n g obj … endobj` of `o` is read back as `o`, whatever follows -/
def IndirectReadsBack (n g : Nat) (o : Obj) : Prop :=
  ∀ (len : ObjId → Option Int) (base : Nat) (rest : Bytes),
    pIndirect len none base (writeIndirect n g o ++ rest) = some ((n, g), .plain o)

namespace Indexes

theorem of_recorded {buf : Bytes} {X : XTable} {x : XrefMap} {objs : Objects} {nf : Obj → Obj} {size : Nat}
    (hget : ∀ n, X.get n = if 1 ≤ n ∧ n < size then normalOf x n else none) (hnodup : (X.map (·.1)).Nodup)
    (hsize : size < U32) (hrec : Recorded buf x objs)
    (hread : ∀ n off g o rest, x.get n = some (off, g) → objs.get (n, g) = some o →
      buf.drop off = writeIndirect n g o ++ rest → NotObjStm o →
      NotObjStm (nf o) ∧ ∀ len, pIndirect len none off (writeIndirect n g o ++ rest) = some ((n, g), .plain (nf o)))
    (hcomplete : ∀ id o, objs.get id = some o → 1 ≤ id.1 ∧ id.1 < size ∧ ∃ off, x.get id.1 = some (off, id.2)) :
    Indexes buf X objs nf where
  nodup := hnodup
  entry := fun k v hv => by
    obtain ⟨_, hk, off, g, rfl, hx⟩ := table_get_some hget hv
    obtain ⟨hoff, o, hog, hkept, rest, hrest⟩ := hrec k off g hx
    obtain ⟨hn, hp⟩ := hread k off g o rest hx hog hrest.symm hkept
    exact ⟨by omega, off, g, o, rfl, hoff, hog, hn, fun len => by rw [← hrest]; exact hp len⟩
  complete := fun id o h => by
    obtain ⟨h1, h2, off, hx⟩ := hcomplete id o h
    exact ⟨off, table_get_of hget h1 h2 hx⟩

theorem of_table_save (nf : Obj → Obj) (hnf : ∀ o, NotObjStm o → NotObjStm (nf o)) (pre : Bytes) (d : SDoc)
    (out : Bytes) (d' : SDoc) (h : saveFrom pre d = some (out, d')) (hlen : out.length < 4294967296)
    (hmax : d.maxId + 1 ≤ 4294967295) (hwf : DocWF d) (R : Bytes) (X : XTable)
    (hget : ∀ n, X.get n = if 1 ≤ n ∧ n < d.maxId + 1 then normalOf (xmapOf pre d) n else none)
    (hnodup : (X.map (·.1)).Nodup)
    (hobj : ∀ p ∈ d.objects, ∀ (len : ObjId → Option Int) (base : Nat) (rest : Bytes),
      pIndirect len none base (writeIndirect p.1.1 p.1.2 p.2 ++ rest) = some ((p.1.1, p.1.2), .plain (nf p.2))) :
    Indexes (out ++ R) X d.objects nf :=
  Indexes.of_recorded hget hnodup (by simp only [U32]; omega) (saveFrom_recorded pre d out d' h hwf.nodup hlen R)
    (fun n g _ o rest _ hog _ hk =>
      ⟨hnf o hk, fun len => hobj ((n, _), o) (Objects.get_mem hog) len _ rest⟩)
    (fun id o hd => by
      obtain ⟨h1, h2, hx⟩ := xmapOf_complete pre d hwf id o hd
      exact ⟨h1, by omega, hx⟩)

end Indexes

theorem load_front_of_save (arr : List Block → List Block) (arr2 : List ObjId → List ObjId) (d : SDoc) (out : Bytes)
    (d' : SDoc) (h : saveFrom [] d = some (out, d')) (hlen : out.length < 4294967296)
    (hv1 : ∀ b ∈ d.version, notEol b = true) (hv2 : validUtf8 d.version = true)
    (table : XTable) (sz : Nat) (tr : Dict)
    (hxt : xrefAndTrailer (out.drop (bodyOf [] d).length) = .ok (table, sz, tr))
    (hprev : tr.get PREV = none) (hmax : table.maxId + 1 < U32) (henc : tr.has ENCRYPT = false) :
    loadDocWith arr arr2 out = objectPass arr arr2 out d.version d.binaryMark table tr (bodyOf [] d).length := by
  obtain ⟨R, hR⟩ := saveFrom_header d out d' h
  exact load_front arr arr2 out d.version d.binaryMark R hR hv1 hv2 (saveFrom_mark [] d out d' h) _
    (startxref_found [] d out d' h hlen) (body_le_out [] d out d' h) table sz tr hxt hprev hmax henc

theorem load_of_save_indexes (arr : List Block → List Block) (arr2 : List ObjId → List ObjId) (harr : arr [] = [])
    (harr2 : arr2 [] = []) (d : SDoc) (out : Bytes) (d' : SDoc) (h : saveFrom [] d = some (out, d'))
    (hlen : out.length < 4294967296) (hv1 : ∀ b ∈ d.version, notEol b = true) (hv2 : validUtf8 d.version = true)
    (table : XTable) (sz : Nat) (tr : Dict)
    (hxt : xrefAndTrailer (out.drop (bodyOf [] d).length) = .ok (table, sz, tr))
    (hprev : tr.get PREV = none) (henc : tr.has ENCRYPT = false) (objs : Objects) (nf : Obj → Obj)
    (hl : Indexes out table objs nf) :
    ∃ L : Loaded, loadDocWith arr arr2 out = .ok L ∧ L.version = d.version ∧ L.binaryMark = d.binaryMark ∧
      L.trailer = tr ∧ L.xrefStart = (bodyOf [] d).length ∧ L.maxId = table.maxId ∧
      (∀ id, L.objects.get id = (objs.get id).map nf) ∧ SortedO L.objects := by
  rw [load_front_of_save arr arr2 d out d' h hlen hv1 hv2 table sz tr hxt hprev hl.maxId_lt henc]
  exact objectPass_indexes arr arr2 harr harr2 out d.version d.binaryMark table tr _ objs nf hl

theorem table_trailer_get (pre : Bytes) (d : SDoc) (out : Bytes) (d' : SDoc) (hk : d.xrefKind = .table)
    (h : saveFrom pre d = some (out, d')) (k : Bytes) :
    d'.trailer.get k = if SIZE = k then some (.int (d.maxId + 1)) else d.trailer.get k := by
  rw [(saveFrom_table_eq pre d out d' hk h).2, Dict.get_set]

/-- **`Reader::read` on a table save, up to the object pass (C01).** For every document saved
plainly with a classic table (file < 4 GiB, `max_id + 1 ≤ u32::MAX`, `u16` generations, version
text without line breaks and valid UTF-8, trailer without `Prev`/`Encrypt`, trailer dictionary
reads back): the reader finds `%PDF-` at offset 0, reads header and binary mark back, finds
`startxref`, decodes the table, leaves the `Prev` loop at once and runs its object pass on
exactly the recorded table — every entry of which points at its object's `n g obj` header. -/
theorem load_front_of_save_table (arr : List Block → List Block) (arr2 : List ObjId → List ObjId) (d : SDoc) (out : Bytes) (d' : SDoc)
    (hk : d.xrefKind = .table) (h : saveFrom [] d = some (out, d')) (hlen : out.length < 4294967296)
    (hmax : d.maxId + 1 ≤ 4294967295) (hg : GensOk d)
    (hD : DictReadsBack d'.trailer (STARTXREF_KW ++ natDigits (bodyOf [] d).length ++ EOF_KW))
    (hv1 : ∀ b ∈ d.version, notEol b = true) (hv2 : validUtf8 d.version = true)
    (hprev : d.trailer.get PREV = none) (henc : d.trailer.has ENCRYPT = false) :
    ∃ table,
      (∀ n, table.get n = if 1 ≤ n ∧ n < d.maxId + 1 then normalOf (xmapOf [] d) n else none) ∧
      (∀ n off g, table.get n = some (.normal off g) → HeaderAt out off n g) ∧
      (table.map (·.1)).Nodup ∧
      loadDocWith arr arr2 out
        = objectPass arr arr2 out d.version d.binaryMark table d'.trailer (bodyOf [] d).length := by
  obtain ⟨xs, table, hxs, _, hxt, hget, hhdr, hnodup⟩ := load_xref_of_save_table [] d out d' hk h hlen hmax hg hD
  cases Option.some.inj (hxs.symm.trans (startxref_found [] d out d' h hlen))
  have htr := table_trailer_get [] d out d' hk h
  refine ⟨table, hget, hhdr, hnodup, load_front_of_save arr arr2 d out d' h hlen hv1 hv2 table _ _ hxt ?_ ?_ ?_⟩
  · rw [htr]; exact hprev
  · have := table_maxId_le hget
    simp only [U32]; omega
  · rw [Dict.has_eq, htr]; exact henc

/-- general form (objects read back as `nf o`, the trailer as `tr'`) of: **`load ∘ save` (table kind, C01 modulo the object-level round trips).** For every
well-formed document `d` saved plainly with a classic cross-reference table (file < 4 GiB,
`max_id + 1 ≤ u32::MAX`, version text without line breaks and valid UTF-8, trailer without
`Prev` / `Encrypt`), if the trailer dictionary and every object read back at the object level
(hypotheses `DictReadsBack`, `IndirectReadsBack` — the C01 object theorems), then `Reader::read`
on the saved bytes succeeds and returns the same version, binary mark and trailer (as `save`
left it, `Size` included), `xref_start` = the offset the writer stored, `max_id ≤` the old one,
and for EVERY object id exactly the object the document held (and nothing for other ids). -/
theorem load_of_save_table_withN (arr : List Block → List Block) (arr2 : List ObjId → List ObjId) (harr : arr [] = []) (harr2 : arr2 [] = []) (nf : Obj → Obj)
    (hnf : ∀ o, NotObjStm o → NotObjStm (nf o)) (d : SDoc) (out : Bytes) (d' : SDoc) (tr' : Dict)
    (hk : d.xrefKind = .table) (h : saveFrom [] d = some (out, d')) (hlen : out.length < 4294967296)
    (hmax : d.maxId + 1 ≤ 4294967295) (hwf : DocWF d)
    (hD : DictReadsBackN d'.trailer tr' (STARTXREF_KW ++ natDigits (bodyOf [] d).length ++ EOF_KW))
    (hsz : tr'.get SIZE = some (.int ((d.maxId + 1 : Nat) : Int)))
    (hobj : ∀ p ∈ d.objects, ∀ (len : ObjId → Option Int) (base : Nat) (rest : Bytes),
      pIndirect len none base (writeIndirect p.1.1 p.1.2 p.2 ++ rest) = some ((p.1.1, p.1.2), .plain (nf p.2)))
    (hv1 : ∀ b ∈ d.version, notEol b = true) (hv2 : validUtf8 d.version = true)
    (hprev : tr'.get PREV = none) (henc : tr'.has ENCRYPT = false) :
    ∃ L : Loaded, loadDocWith arr arr2 out = .ok L ∧ L.version = d.version ∧ L.binaryMark = d.binaryMark ∧
      L.trailer = tr' ∧ L.xrefStart = (bodyOf [] d).length ∧ L.maxId ≤ d.maxId ∧
      (∀ id, L.objects.get id = (d.objects.get id).map nf) ∧ SortedO L.objects := by
  obtain ⟨table, hxt, hget, hnodup⟩ := table_section_of_save [] d out d' tr' hk h hmax hwf.gens []
    (by rwa [List.append_nil]) hsz
  rw [List.append_nil] at hxt
  have hl := Indexes.of_table_save nf hnf [] d out d' h hlen hmax hwf [] table hget hnodup hobj
  rw [List.append_nil] at hl
  obtain ⟨L, hL, l1, l2, l3, l4, l5, l6, l7⟩ := load_of_save_indexes arr arr2 harr harr2 d out d' h hlen hv1 hv2
    table _ tr' hxt hprev henc d.objects nf hl
  exact ⟨L, hL, l1, l2, l3, l4, l5 ▸ table_maxId_le hget, l6, l7⟩

/-- `load ∘ save` (table kind) for `Reader::read` under every schedule of hook H1 -/
theorem load_of_save_table (order : Option (List Nat)) (d : SDoc) (out : Bytes) (d' : SDoc)
    (hk : d.xrefKind = .table) (h : saveFrom [] d = some (out, d')) (hlen : out.length < 4294967296)
    (hmax : d.maxId + 1 ≤ 4294967295) (hwf : DocWF d)
    (hD : DictReadsBack d'.trailer (STARTXREF_KW ++ natDigits (bodyOf [] d).length ++ EOF_KW))
    (hobj : ∀ p ∈ d.objects, IndirectReadsBack p.1.1 p.1.2 p.2)
    (hv1 : ∀ b ∈ d.version, notEol b = true) (hv2 : validUtf8 d.version = true)
    (hprev : d.trailer.get PREV = none) (henc : d.trailer.has ENCRYPT = false) :
    ∃ L : Loaded, loadDocOrd order out = .ok L ∧ L.version = d.version ∧ L.binaryMark = d.binaryMark ∧
      L.trailer = d'.trailer ∧ L.xrefStart = (bodyOf [] d).length ∧ L.maxId ≤ d.maxId ∧
      (∀ id, L.objects.get id = d.objects.get id) ∧ SortedO L.objects := by
  have hget := table_trailer_get [] d out d' hk h
  obtain ⟨L, h1, h2, h3, h4, h5, h6, h7, h8⟩ := load_of_save_table_withN _ id (loadDocOrd_arr_nil order) rfl id
    (fun o ho => ho) d out d' d'.trailer hk h hlen hmax hwf hD (by rw [hget]; rfl) (fun p hp => hobj p hp) hv1 hv2
    (by rw [hget]; exact hprev) (by rw [Dict.has_eq, hget]; exact henc)
  exact ⟨L, h1, h2, h3, h4, h5, h6, fun i => by rw [h7 i]; simp, h8⟩

theorem load_front_of_save_stream (arr : List Block → List Block) (arr2 : List ObjId → List ObjId) (d : SDoc) (out : Bytes) (d' : SDoc)
    (hk : d.xrefKind = .stream) (h : saveFrom [] d = some (out, d')) (hlen : out.length < 4294967296)
    (hmax : d.maxId + 2 ≤ 4294967295) (hg : GensOk d) (hnd : d.trailer.keys.Nodup)
    (hD : DictReadsBack d'.trailer (STREAM_KW ++ (xrefStreamContent (streamSecs (xmapStream [] d) (d.maxId + 1))
      ++ (ENDSTREAM_KW ++ 32 :: (ENDOBJ_TAIL ++ (STARTXREF_KW ++ natDigits (bodyOf [] d).length ++ EOF_KW))))))
    (hv1 : ∀ b ∈ d.version, notEol b = true) (hv2 : validUtf8 d.version = true)
    (hprev : d.trailer.get PREV = none) (henc : d.trailer.has ENCRYPT = false) :
    ∃ table,
      (∀ n, table.get n = if 1 ≤ n ∧ n < d.maxId + 2 then normalOf (xmapStream [] d) n else none) ∧
      (table.map (·.1)).Nodup ∧
      loadDocWith arr arr2 out
        = objectPass arr arr2 out d.version d.binaryMark table (streamTrailerRead [] d) (bodyOf [] d).length := by
  obtain ⟨table, hxt, hget, hnodup⟩ := stream_section_of_save [] d out d' hk h hmax hg hnd hD
  refine ⟨table, hget, hnodup, load_front_of_save arr arr2 d out d' h hlen hv1 hv2 table _ _ hxt ?_ ?_ ?_⟩
  · rw [streamTrailerRead_get_free [] d hnd freeKey_PREV]; exact hprev
  · have := table_maxId_le hget
    simp only [U32]; omega
  · rw [Dict.has_eq, streamTrailerRead_get_free [] d hnd freeKey_ENCRYPT]; exact henc

/-- **`load ∘ save`, cross-reference-stream kind (C01 modulo the object-level round
trips).** As `load_of_save_table`; the loaded document additionally holds the
cross-reference stream object under `(max_id + 1, 0)`, and its trailer is the stream dictionary
minus `Length`, `W`, `Index`. -/
theorem load_of_save_stream_with (arr : List Block → List Block) (arr2 : List ObjId → List ObjId) (harr : arr [] = []) (harr2 : arr2 [] = []) (d : SDoc) (out : Bytes)
    (d' : SDoc) (hk : d.xrefKind = .stream) (h : saveFrom [] d = some (out, d'))
    (hlen : out.length < 4294967296) (hmax : d.maxId + 2 ≤ 4294967295) (hwf : DocWF d)
    (hnd : d.trailer.keys.Nodup)
    (hD : DictReadsBack d'.trailer (STREAM_KW ++ (xrefStreamContent (streamSecs (xmapStream [] d) (d.maxId + 1))
      ++ (ENDSTREAM_KW ++ 32 :: (ENDOBJ_TAIL ++ (STARTXREF_KW ++ natDigits (bodyOf [] d).length ++ EOF_KW))))))
    (hobj : ∀ p ∈ d.objects, IndirectReadsBack p.1.1 p.1.2 p.2)
    (hv1 : ∀ b ∈ d.version, notEol b = true) (hv2 : validUtf8 d.version = true)
    (hprev : d.trailer.get PREV = none) (henc : d.trailer.has ENCRYPT = false) :
    ∃ L : Loaded, loadDocWith arr arr2 out = .ok L ∧ L.version = d.version ∧ L.binaryMark = d.binaryMark ∧
      L.trailer = streamTrailerRead [] d ∧ L.xrefStart = (bodyOf [] d).length ∧ L.maxId ≤ d.maxId + 1 ∧
      ∀ id, L.objects.get id = (objectsWithXref d).get id := by
  obtain ⟨table, hget, hnodup, hload⟩ :=
    load_front_of_save_stream arr arr2 d out d' hk h hlen hmax hwf.gens hnd hD hv1 hv2 hprev henc
  obtain ⟨hout, htr⟩ := saveFrom_stream_eq [] d out d' hk h
  have hbl : (bodyOf [] d).length < 4294967296 := by have := body_le_out [] d out d' h; omega
  have e : out = bodyOf [] d ++ (writeIndirect (d.maxId + 1) 0 (xrefObjP [] d) ++
      (STARTXREF_KW ++ natDigits (bodyOf [] d).length ++ EOF_KW)) := by
    rw [hout, xrefObjP]; simp only [List.append_assoc]
  rw [htr] at hD
  -- the table indexes the document's objects and the cross-reference stream object
  have hl : Indexes out table (objectsWithXref d) id := by
    refine Indexes.of_recorded hget hnodup (by simp only [U32]; omega) (e ▸ stream_recorded [] d hwf hnd _ hbl)
      (fun n off g o rest hx hog hrest hk' => ⟨hk', fun len => ?_⟩)
      (fun id o hd => by
        obtain ⟨h1, h2, hx⟩ := stream_complete [] d hwf id o hd
        exact ⟨h1, by omega, hx⟩)
    show pIndirect len none off (writeIndirect n g o ++ rest) = some ((n, g), .plain o)
    rw [objectsWithXref, xrefObj_eq, revObjs_stream_get [] d hwf] at hog
    split at hog
    · -- the cross-reference stream object: it stands at the end of the body, followed by `startxref`
      rename_i hid
      cases hid
      cases hog
      rw [xmapStream, XrefMap.get_insert_same, Nat.mod_eq_of_lt hbl] at hx
      cases hx
      rw [e, List.drop_left] at hrest
      rw [← List.append_cancel_left hrest]
      have := pIndirect_xrefStream len (bodyOf [] d).length (d.maxId + 1) (streamTrailer [] d) _ _
        (by simp only [U32_MAX]; omega) (streamTrailer_get_length [] d hnd) hD
      rwa [Dict.set_of_get (streamTrailer_get_length [] d hnd)] at this
    · exact hobj ((n, g), o) (Objects.get_mem hog) len off rest
  obtain ⟨L, hL, l1, l2, l3, l4, l5, l6, _⟩ := objectPass_indexes arr arr2 harr harr2 out d.version d.binaryMark table
    (streamTrailerRead [] d) (bodyOf [] d).length _ id hl
  exact ⟨L, hload ▸ hL, l1, l2, l3, l4, l5 ▸ table_maxId_le hget, fun i => by rw [l6 i]; simp⟩

end Lopdf.FileRT
