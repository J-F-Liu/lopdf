import LopdfModel.Thm.C11Sound
/-
  C11 — `DistinctKeys` is an invariant of the editing calls.

  `DistinctKeys d` (every dictionary of the trailer and of every object has pairwise distinct keys
  at every depth — what `IndexMap` gives by construction) is a hypothesis of the `delete_object`
  reference theorems (`hasRef_delete`, `noNew_delete`, `dangling_delete_only`, `delClean_of_reach`).
  Every editing call of `Model/Edit.lean` preserves it (`step_keeps`, Lemmas/EditKeeps) — the
  caller-supplied objects of `add` / `set` being distinct-keyed themselves (`OpND`) — hence it holds after
  every program of calls started on a distinct-keyed document (`distinct_run`).
-/
namespace Lopdf.Ed
open Lopdf Lopdf.DictL

/-- **`traverse_objects` keeps a distinct-keyed document distinct-keyed** when its action does -/
theorem traverse_nd (a : Action) (ha : ActND a) (tr : Dict) (os : Objects) (htr : DictND tr) (hos : ObjsND os) :
    DictND (traverse a tr os).1 ∧ ObjsND (traverse a tr os).2.1 :=
  ⟨(traverse_visits_once a tr os).1 ▸ deepDict_nd a ha tr htr, Objects.All.traverse hos a tr (deepObj_nd a ha)⟩

/-- **`DistinctKeys` is preserved by every editing call.** -/
theorem distinct_step (d : Doc) (op : Op) (h : DistinctKeys d) (hop : OpND op) (r : Doc × Out)
    (hr : step d op = .ok r) : DistinctKeys r.1 :=
  (step_keeps d op r hr).nd hop h

/-- **…hence it holds after every program of calls** started on a distinct-keyed document. -/
theorem distinct_run : ∀ (ops : List Op) (d d' : Doc), DistinctKeys d → (∀ op ∈ ops, OpND op) →
    runOps d ops = .ok d' → DistinctKeys d' := fun ops d d' h hops hr =>
  (runOps_induction (M := fun ops d => DistinctKeys d ∧ ∀ op ∈ ops, OpND op)
    (fun op _ d d1 out h hs => ⟨distinct_step d op h.1 (h.2 op List.mem_cons_self) (d1, out) hs,
      fun o ho => h.2 o (List.mem_cons_of_mem _ ho)⟩) ops d d' ⟨h, hops⟩ hr).1

/-- the reference theorems of `delete_object` on every REACHABLE state: the `DistinctKeys` hypothesis
is discharged by `distinct_run` -/
theorem noNew_delete_reachable (d0 : Doc) (ops : List Op) (d : Doc) (p : ObjId) (h0 : DistinctKeys d0)
    (hops : ∀ op ∈ ops, OpND op) (hr : runOps d0 ops = .ok d) (hc : DelClean d p) : NoNew d (deleteObject d p).1 :=
  noNew_delete d p (distinct_run ops d0 d h0 hops hr) hc

/-- non-vacuity: the witness document of `Thm/C11Sound` is distinct-keyed and stays so under a program
that deletes a page, prunes, adds content and a resource -/
example : ∀ d', runOps wsound [.delPages [1], .prune, .addContent (4, 0) [66, 84], .addXObject (4, 0) [88] (9, 0)] = .ok d' →
    DistinctKeys d' :=
  fun d' hr => distinct_run _ wsound d' wsound_distinct (by intro op hop; simp at hop; rcases hop with rfl | rfl | rfl | rfl <;> trivial) hr

end Lopdf.Ed
