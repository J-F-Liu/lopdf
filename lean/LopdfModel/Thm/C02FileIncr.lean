import LopdfModel.Thm.C02FileObjStm
import LopdfModel.Thm.FilePrev
/-
  C02 — WHOLE FILES with an INCREMENTAL UPDATE (table style, two revisions): a base file followed
  by an appended revision whose trailer names the base's cross-reference section by `Prev`.
  Every object number loads to its NEWEST definition: the entry of the appended section if it has
  one, else the entry of the base section.
-/
namespace Lopdf.Grammar
open Lopdf Gen

/-- the newest in-use entry of a number over two sections (appended section first) -/
def newestEntry (x2 x1 : XTable) (k : Nat) : Option XEntry := (x2.get k).orElse fun _ => x1.get k

theorem mergeChain2_get (x2 x1 : XTable) (k : Nat) : (mergeChain [x2, x1]).get k = newestEntry x2 x1 k := by
  rw [chain_latest_wins]
  simp only [List.findSome?_cons, List.findSome?_nil, newestEntry]
  cases x2.get k <;> cases x1.get k <;> rfl

/-- **Whole files, two revisions (table style), every spelling.**
The file: header, ANY body, the base cross-reference table `xb1` and its trailer (integer `Size`,
no `Prev`), ANY bytes `mid` that start with a token (the base's `startxref` section and the new
objects), the appended table `xb2` and its trailer (integer `Size`, `Prev` = the offset of `xb1`,
no `XRefStm`, no `Encrypt`), the final `startxref` section stating the offset of `xb2`.
If every number bound by the MERGED map (`newestEntry`: the appended section's entry, else the
base section's) is defined by the file at the bound offset, `Reader::read` succeeds with the
appended trailer without `Prev`, and EXACTLY the objects of the newest definitions.
(An entry marked FREE in the appended section does not remove the base section's entry: lopdf
ignores free entries — an object that a later revision marks free is therefore still loaded from the older one; entries that free an object are outside C02's claimed domain, the behaviour is recorded as an observation in the C02 evidence.) -/
theorem loadDoc_complete_two_revisions {d1 : Nat} {es1 : List (Bytes × Obj)} {ebs1 : Bytes}
    {d2 : Nat} {es2 : List (Bytes × Obj)} {ebs2 : Bytes}
    (ver e0 body : Bytes) (secs1 : List TSub) (xb1 sp01 spd1 sp11 mid : Bytes) (size1 : Int)
    (secs2 : List TSub) (xb2 sp02 spd2 sp12 e1 s1 ds s2 e2 post : Bytes) (size2 : Int)
    (val : Nat → Nat × Obj) (cont : Nat → List (Nat × Obj))
    (hv : ∀ b ∈ ver, b < 128 ∧ notEol b = true) (he0 : IsEol e0)
    -- the base section
    (hx1 : DerivesXrefTable secs1 xb1) (hsp01 : DerivesSpace sp01) (hspd1 : DerivesSpace spd1)
    (hes1 : DerivesEntries d1 es1 ebs1) (hd1 : 1 + d1 ≤ MAX_NESTING) (hsp11 : DerivesSpace sp11)
    (hsize1 : (setEntries [] es1).get SIZE = some (.int size1)) (hprev1 : (setEntries [] es1).get PREV = none)
    (hmid : SpaceStop mid) (hmidne : mid ≠ [])
    -- the appended section
    (hx2 : DerivesXrefTable secs2 xb2) (hsp02 : DerivesSpace sp02) (hspd2 : DerivesSpace spd2)
    (hes2 : DerivesEntries d2 es2 ebs2) (hd2 : 1 + d2 ≤ MAX_NESTING) (hsp12 : DerivesSpace sp12)
    (hsize2 : (setEntries [] es2).get SIZE = some (.int size2))
    (hprev2 : (setEntries [] es2).get PREV = some (.int (PDF_KW ++ (ver ++ (e0 ++ body))).length))
    (hstm : ((setEntries [] es2).remove PREV).get XREFSTM = none)
    (henc : ((setEntries [] es2).remove PREV).get ENCRYPT = none)
    -- the final startxref section
    (he1 : IsEol e1) (hs1 : AllSp s1) (hs2 : AllSp s2) (he2 : IsEol e2) (hpost : IsFileEnd post)
    (hshort : (STARTXREF ++ (e1 ++ (s1 ++ (ds ++ (s2 ++ e2))))).length ≤ 25)
    (hds : DerivesNat ((PDF_KW ++ (ver ++ (e0 ++ body))) ++ (xb1 ++ (TRAILER_KW ++ (sp01 ++
      ((60 :: 60 :: spd1 ++ ebs1 ++ [62, 62]) ++ (sp11 ++ mid)))))).length ds)
    (hmax : (mergeChain [tableOf secs2, tableOf secs1]).maxId + 1 < 4294967296)
    (file : Bytes)
    (hfile : file = (PDF_KW ++ (ver ++ (e0 ++ body))) ++ (xb1 ++ (TRAILER_KW ++ (sp01 ++
      ((60 :: 60 :: spd1 ++ ebs1 ++ [62, 62]) ++ (sp11 ++ (mid ++ (xb2 ++ (TRAILER_KW ++ (sp02 ++
        ((60 :: 60 :: spd2 ++ ebs2 ++ [62, 62]) ++ (sp12 ++ (STARTXREF ++ (e1 ++ (s1 ++ (ds ++ (s2 ++ (e2 ++
          (EOF_MARK ++ post)))))))))))))))))))
    (hdef : ∀ k e, newestEntry (tableOf secs2) (tableOf secs1) k = some e →
      BindingDefined file (mergeChain [tableOf secs2, tableOf secs1]) val cont k e)
    (hcont : ∀ k, (∀ off g, newestEntry (tableOf secs2) (tableOf secs1) k ≠ some (.normal off g)) → cont k = [])
    (hlisted : ∀ k, ∀ p ∈ cont k, ∃ i, newestEntry (tableOf secs2) (tableOf secs1) p.1 = some (.compressed k i)) :
    ∃ L, loadDoc file = .ok L ∧ L.version = ver ∧ L.trailer = (setEntries [] es2).remove PREV ∧
      (∀ id : ObjId, L.objects.get id =
        match newestEntry (tableOf secs2) (tableOf secs1) id.1 with
        | some (.normal _ _) => if id.2 = (val id.1).1 then some (val id.1).2 else none
        | some (.compressed c _) => if id.2 = 0 then lookupMember (cont c) id.1 else none
        | none => none) := by
  obtain ⟨g0, g1⟩ := header_found ver e0 body _ hv he0 file hfile
  -- the appended section: the file up to it is `head`
  generalize hhead : (PDF_KW ++ (ver ++ (e0 ++ body))) ++ (xb1 ++ (TRAILER_KW ++ (sp01 ++
      ((60 :: 60 :: spd1 ++ ebs1 ++ [62, 62]) ++ (sp11 ++ mid))))) = head at hds
  have hfile2 : file = head ++ (xb2 ++ (TRAILER_KW ++ (sp02 ++
      ((60 :: 60 :: spd2 ++ ebs2 ++ [62, 62]) ++ (sp12 ++ (STARTXREF ++ (e1 ++ (s1 ++ (ds ++ (s2 ++ (e2 ++
        (EOF_MARK ++ post)))))))))))) := by rw [hfile, ← hhead]; simp only [List.append_assoc]
  obtain ⟨g2, g2', g3⟩ := tableFile_parts secs2 head xb2 sp02 spd2 _ sp12 e1 s1 ds s2 e2 post size2
    (by rw [← hhead, List.append_assoc]; exact pdfHead_length _)
    hx2 hsp02 hspd2 hes2 rfl hd2 hsp12 hsize2 he1 hs1 hds hs2 he2 hpost hshort file hfile2
  -- the Prev walk: the base section stands at the offset `Prev` names, followed by `mid`
  have hbase : xrefAndTrailer (file.drop (PDF_KW ++ (ver ++ (e0 ++ body))).length) =
      .ok (tableOf secs1, (size1 % (U32 : Int)).toNat, setEntries [] es1) := by
    rw [hfile, List.drop_left]
    refine xrefAndTrailer_complete secs1 xb1 sp01 spd1 sp11 _ size1 hx1 hsp01 hspd1 hes1 hd1 hsp11 ?_ hsize1
    cases mid with
    | nil => exact absurd rfl hmidne
    | cons c r => intro b r' e; injection e with e _; subst e; exact hmid _ r rfl
  have hplen : (PDF_KW ++ (ver ++ (e0 ++ body))).length ≤ file.length := by
    rw [hfile]; exact (List.prefix_append _ _).length_le
  have hchain : FileRT.ChainOk file ((setEntries [] es2).get PREV) []
      [(((PDF_KW ++ (ver ++ (e0 ++ body))).length : Int), tableOf secs1, setEntries [] es1)] := by
    refine ⟨by rw [hprev2]; rfl, by simp, Int.natCast_nonneg _, by rw [Int.toNat_natCast]; exact hplen,
      ⟨_, by rw [Int.toNat_natCast]; exact hbase⟩, ?_⟩
    rw [hprev1]; simp [FileRT.ChainOk]
  have g4 := (FileRT.prevLoop_chain file ((setEntries [] es2).remove PREV) hstm _ _ [] (tableOf secs2) hchain).1
  simp only [List.map_cons, List.map_nil] at g4
  -- the objects
  obtain ⟨L, h1, h2, h3, _, _, h6⟩ := loadDoc_of_defined_gen file ver _ (tableOf secs2) _ (setEntries [] es2)
    (mergeChain [tableOf secs2, tableOf secs1]) ((setEntries [] es2).remove PREV) val cont g0 g1 g2 g2' g3 g4 henc hmax
    (fun k e hke => entryOk_of_binding file _ _ val cont k e (hdef k e (by rw [← mergeChain2_get]; exact hke)))
    (fun k hk => hcont k (fun off g h => hk off g (by rw [mergeChain2_get]; exact h)))
    (fun k p hp => by obtain ⟨i, hi⟩ := hlisted k p hp; exact ⟨i, by rw [mergeChain2_get]; exact hi⟩)
  refine ⟨L, h1, h2, h3, ?_⟩
  intro id
  rw [h6, definedObject, mergeChain2_get]
  generalize newestEntry (tableOf secs2) (tableOf secs1) id.fst = e
  cases e with
  | none => rfl
  | some e => cases e <;> rfl

end Lopdf.Grammar
