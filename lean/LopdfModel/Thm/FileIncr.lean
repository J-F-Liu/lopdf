import LopdfModel.Thm.FileLoadObjects
import LopdfModel.Thm.FilePrev
/-
  C07 (file level) — a two-revision history written by `save` + `IncrementalDocument::save`
  (classic tables, `Prev` pointing at the first cross-reference section): what the reader computes
  (start table, then the `Prev` walk) is `mergeChain [new, old]`, and `Reader::read` returns, for
  every object id, the object of the NEWEST revision that holds it (new objects override previous
  ones; untouched ones are still there).
-/
namespace Lopdf.FileRT
open Lopdf Gen

/-- the two cross-reference sections of the file as the reader meets them: the new one at
`startxref`, the old one — still in place inside the longer file — at the end of the `Prev` walk,
which returns their merge -/
theorem incr_sections (d1 d2 : SDoc) (out1 out2 : Bytes) (d1' d2' : SDoc)
    (hk1 : d1.xrefKind = .table) (hk2 : d2.xrefKind = .table)
    (h1 : saveFrom [] d1 = some (out1, d1')) (h2 : saveIncr out1 d2 = some (out2, d2'))
    (hlen : out2.length < 4294967296)
    (hmax1 : d1.maxId + 1 ≤ 4294967295) (hmax2 : d2.maxId + 1 ≤ 4294967295)
    (hg1 : GensOk d1) (hg2 : GensOk d2) (hnd : d2.trailer.keys.Nodup)
    (hprev : d2.trailer.get PREV = some (.int ((bodyOf [] d1).length : Int)))
    (hnoprev : d1.trailer.get PREV = none) (hstm : d2.trailer.get XREFSTM = none)
    (hD1 : ∀ rest, DictReadsBack d1'.trailer (10 :: rest))
    (hD2 : ∀ rest, DictReadsBack d2'.trailer (10 :: rest)) :
    ∃ R table2 table1, out2 = out1 ++ R ∧
      getXrefStart out2 = some (bodyOf (incrPre out1) d2).length ∧
      (bodyOf (incrPre out1) d2).length ≤ out2.length ∧
      xrefAndTrailer (out2.drop (bodyOf (incrPre out1) d2).length) = .ok (table2, d2.maxId + 1, d2'.trailer) ∧
      (∀ n, table2.get n = if 1 ≤ n ∧ n < d2.maxId + 1 then normalOf (xmapOf (incrPre out1) d2) n else none) ∧
      (table2.map (·.1)).Nodup ∧
      (∀ n, table1.get n = if 1 ≤ n ∧ n < d1.maxId + 1 then normalOf (xmapOf [] d1) n else none) ∧
      (table1.map (·.1)).Nodup ∧
      prevLoop out2 (out2.length + 2) (d2'.trailer.get PREV) [] table2 (d2'.trailer.remove PREV)
        = .ok (table2.merge table1, d2'.trailer.remove PREV) := by
  have h2' : saveFrom (incrPre out1) d2 = some (out2, d2') := h2
  -- the new revision
  have htr2 := table_trailer_get (incrPre out1) d2 out2 d2' hk2 h2'
  obtain ⟨table2, hxt2, hget2, hnodup2⟩ := table_section_of_save (incrPre out1) d2 out2 d2' d2'.trailer hk2 h2' hmax2
    hg2 [] (hD2 _) (by rw [htr2]; rfl)
  rw [List.append_nil] at hxt2
  -- the old revision inside the new file
  obtain ⟨R, hR⟩ := incr_prefix out1 d2 out2 d2' h2
  obtain ⟨table1, hxt1, hget1, hnodup1⟩ := table_section_of_save [] d1 out1 d1' d1'.trailer hk1 h1 hmax1 hg1 R
    (hD1 _) (by rw [table_trailer_get [] d1 out1 d1' hk1 h1]; rfl)
  rw [hR] at hxt1
  have hb1 : (bodyOf [] d1).length ≤ out2.length := by
    have := body_le_out [] d1 out1 d1' h1
    rw [← hR]; simp only [List.length_append]; omega
  -- the `Prev` walk: one older section, then no `Prev`
  have hstm' : (d2'.trailer.remove PREV).get XREFSTM = none := by
    rw [Dict.get_remove (by rw [(saveFrom_table_eq _ d2 out2 d2' hk2 h2').2]; exact Dict.nodup_set hnd _ _), htr2]
    exact hstm
  have hchain : ChainOk out2 (d2'.trailer.get PREV) []
      [(((bodyOf [] d1).length : Int), table1, d1'.trailer)] := by
    rw [htr2]
    refine ⟨hprev ▸ rfl, by simp, by omega, by simpa using hb1, ⟨d1.maxId + 1, ?_⟩, ?_⟩
    · rw [Int.toNat_natCast]
      exact hxt1
    · rw [table_trailer_get [] d1 out1 d1' hk1 h1, if_neg (by decide), hnoprev]
      exact True.intro
  obtain ⟨hpl, _⟩ := prevLoop_chain out2 (d2'.trailer.remove PREV) hstm' _ _ [] table2 hchain
  exact ⟨R, table2, table1, hR.symm, startxref_found _ d2 out2 d2' h2' hlen, body_le_out _ d2 out2 d2' h2', hxt2, hget2,
    hnodup2, hget1, hnodup1, hpl⟩

/-- **Two revisions, as the reader sees them (C07).** `d1` saved plainly (table), then `d2` saved
incrementally on top (table) with `Prev` = offset of the first cross-reference section (what
`IncrementalDocument` records), file < 4 GiB, `u16` generations, distinct trailer keys, not
hybrid, trailer dictionaries read back (object-level hypothesis): the reader finds the NEW
`startxref`, reads the new section, and its `Prev` walk ends after the old section with the
merged table in which every object number has the entry of the newest revision defining it. -/
theorem load_xref_of_incr_save (d1 d2 : SDoc) (out1 out2 : Bytes) (d1' d2' : SDoc)
    (hk1 : d1.xrefKind = .table) (hk2 : d2.xrefKind = .table)
    (h1 : saveFrom [] d1 = some (out1, d1')) (h2 : saveIncr out1 d2 = some (out2, d2'))
    (hlen : out2.length < 4294967296)
    (hmax1 : d1.maxId + 1 ≤ 4294967295) (hmax2 : d2.maxId + 1 ≤ 4294967295)
    (hg1 : GensOk d1) (hg2 : GensOk d2) (hnd : d2.trailer.keys.Nodup)
    (hprev : d2.trailer.get PREV = some (.int ((bodyOf [] d1).length : Int)))
    (hnoprev : d1.trailer.get PREV = none) (hstm : d2.trailer.get XREFSTM = none)
    (hD1 : ∀ rest, DictReadsBack d1'.trailer (10 :: rest))
    (hD2 : ∀ rest, DictReadsBack d2'.trailer (10 :: rest)) :
    ∃ xs x0 sz x, getXrefStart out2 = some xs ∧
      xrefAndTrailer (out2.drop xs) = .ok (x0, sz, d2'.trailer) ∧
      prevLoop out2 (out2.length + 2) (d2'.trailer.get PREV) [] x0 (d2'.trailer.remove PREV)
        = .ok (x, d2'.trailer.remove PREV) ∧
      ∀ n, x.get n =
        (if 1 ≤ n ∧ n < d2.maxId + 1 then normalOf (xmapOf (incrPre out1) d2) n else none).orElse
          (fun _ => if 1 ≤ n ∧ n < d1.maxId + 1 then normalOf (xmapOf [] d1) n else none) := by
  obtain ⟨R, table2, table1, _, hstart, _, hxt2, hget2, _, hget1, _, hpl⟩ := incr_sections d1 d2 out1 out2 d1' d2'
    hk1 hk2 h1 h2 hlen hmax1 hmax2 hg1 hg2 hnd hprev hnoprev hstm hD1 hD2
  exact ⟨_, table2, _, _, hstart, hxt2, hpl, fun n => by rw [merge_get, hget2 n, hget1 n]⟩

/-- **Loading an incremental save (C07, modulo the object-level round trips).** -/
theorem load_of_incr_save_with (arr : List Block → List Block) (arr2 : List ObjId → List ObjId) (harr : arr [] = []) (harr2 : arr2 [] = [])
    (d1 d2 : SDoc) (out1 out2 : Bytes) (d1' d2' : SDoc)
    (hk1 : d1.xrefKind = .table) (hk2 : d2.xrefKind = .table)
    (h1 : saveFrom [] d1 = some (out1, d1')) (h2 : saveIncr out1 d2 = some (out2, d2'))
    (hlen : out2.length < 4294967296)
    (hmax1 : d1.maxId + 1 ≤ 4294967295) (hmax2 : d2.maxId + 1 ≤ 4294967295)
    (hwf1 : DocWF d1) (hwf2 : DocWF d2) (hnd : d2.trailer.keys.Nodup)
    (hgen : ∀ p2 ∈ d2.objects, ∀ p1 ∈ d1.objects, p2.1.1 = p1.1.1 → p2.1.2 = p1.1.2)
    (hprev : d2.trailer.get PREV = some (.int ((bodyOf [] d1).length : Int)))
    (hnoprev : d1.trailer.get PREV = none) (hstm : d2.trailer.get XREFSTM = none)
    (henc : d2.trailer.has ENCRYPT = false)
    (hD1 : ∀ rest, DictReadsBack d1'.trailer (10 :: rest))
    (hD2 : ∀ rest, DictReadsBack d2'.trailer (10 :: rest))
    (hobj1 : ∀ p ∈ d1.objects, IndirectReadsBack p.1.1 p.1.2 p.2)
    (hobj2 : ∀ p ∈ d2.objects, IndirectReadsBack p.1.1 p.1.2 p.2)
    (hv1 : ∀ b ∈ d1.version, notEol b = true) (hv2 : validUtf8 d1.version = true) :
    ∃ L : Loaded, loadDocWith arr arr2 out2 = .ok L ∧ L.version = d1.version ∧ L.binaryMark = d1.binaryMark ∧
      L.trailer = d2'.trailer.remove PREV ∧
      ∀ id, L.objects.get id = (d2.objects.get id).orElse (fun _ => d1.objects.get id) := by
  have h2' : saveFrom (incrPre out1) d2 = some (out2, d2') := h2
  obtain ⟨R, table2, table1, hR, hstart, hxs, hxt2, hget2, hnodup2, hget1, hnodup1, hpl⟩ := incr_sections d1 d2 out1 out2
    d1' d2' hk1 hk2 h1 h2 hlen hmax1 hmax2 hwf1.gens hwf2.gens hnd hprev hnoprev hstm hD1 hD2
  have hlen1 : out1.length < 4294967296 := by rw [hR] at hlen; simp only [List.length_append] at hlen; omega
  -- each table indexes the objects of its revision, inside the two-revision file
  have hl2 := Indexes.of_table_save id (fun o ho => ho) (incrPre out1) d2 out2 d2' h2' hlen hmax2 hwf2 [] table2
    hget2 hnodup2 (fun p hp => hobj2 p hp)
  have hl1 := Indexes.of_table_save id (fun o ho => ho) [] d1 out1 d1' h1 hlen1 hmax1 hwf1 R table1
    hget1 hnodup1 (fun p hp => hobj1 p hp)
  rw [List.append_nil] at hl2
  rw [← hR] at hl1
  -- header of the two-revision file = header of the first revision
  obtain ⟨R1, hR1⟩ := saveFrom_header d1 out1 d1' h1
  have hhdr : out2 = PDF_KW ++ (d1.version ++ 10 :: 37 :: (d1.binaryMark ++ 10 :: (R1 ++ R))) := by
    rw [hR, hR1]; simp
  have henc' : (d2'.trailer.remove PREV).has ENCRYPT = false := by
    rw [Dict.has_eq, Dict.get_remove (by
      rw [(saveFrom_table_eq _ d2 out2 d2' hk2 h2').2]; exact Dict.nodup_set hnd _ _),
      table_trailer_get (incrPre out1) d2 out2 d2' hk2 h2']
    exact henc
  obtain ⟨L, hL, l1, l2, l3, _, _, l6, _⟩ := load_of_indexes arr arr2 harr harr2 out2 d1.version d1.binaryMark (R1 ++ R)
    hhdr hv1 hv2 (saveFrom_mark [] d1 out1 d1' h1) _ hstart hxs table2 _ _ hxt2 _ _ hpl henc' _ id
    (hl2.merge hl1 hgen)
  exact ⟨L, hL, l1, l2, l3, fun i => by rw [l6 i, Objects_get_append]; simp⟩

end Lopdf.FileRT
