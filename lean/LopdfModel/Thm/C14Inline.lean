import LopdfModel.Thm.C14Content
import LopdfModel.Thm.C01Cycle
/-
  C14 — inline images.  `Content::encode` writes an operation `BI [stream d c]` as
  `BI <entries of d> ID <c> EI`; `inline_image` reads `BI`, the entries (`inner_dictionary`),
  `ID`, skips `content_space`, takes the number of data bytes computed from the geometry
  entries (`image_data_stream`), and expects `EI`.

  `content_rt_img`: `content_rt` extended to operation lists that contain inline images
  (`WFOpI` = a plain well-formed operation, or a well-formed inline image).  The only inline
  images excluded — besides those the decoder itself rejects — are those whose data start with
  a `content_space` byte (blank, TAB, CR, LF): the decoder skips such bytes after `ID`, so the
  data window shifts (witness `img_ws_witness`).  The decoder never produces such an image
  (`imageDataStream_shape`), so decode → encode → decode is not affected.
-/
namespace Lopdf.InlineRt
open Lopdf Gen Lopdf.ObjRt Lopdf.ContentRt

abbrev W_KEY : Bytes := [87, 105, 100, 116, 104]
abbrev H_KEY : Bytes := [72, 101, 105, 103, 104, 116]

def imgLenCore (w h bpc : Option Int) (cs : Option Bytes) (filt : Option Obj) : Option Nat :=
  match w, h with
  | some w, some h =>
    match bpc, cs with
    | some bpc, some cs =>
      let colors : Option Nat :=
        if cs = strBytes "DeviceGray" || cs = strBytes "Gray" then some 1
        else if cs = strBytes "DeviceRGB" || cs = strBytes "RGB" then some 3
        else if cs = strBytes "DeviceRGBA" || cs = strBytes "RGBA" then some 4
        else if cs = strBytes "DeviceCMYK" || cs = strBytes "CMYK" then some 4
        else none
      match colors with
      | none => none
      | some nc =>
        let width := asUsize w; let height := asUsize h; let bits := asUsize bpc
        if nc * bits ≥ USIZE then none else
        if width * (nc * bits) ≥ USIZE then none else
        if width * (nc * bits) + 7 ≥ USIZE then none else
        let stride := (width * (nc * bits) + 7) / 8
        if height * stride ≥ USIZE then none else
        match filt with
        | some _ => none
        | none => some (height * stride)
    | _, _ => none
  | _, _ => none

/-- the number of data bytes of an inline image with dictionary `d`; `none` = the decoder rejects it
(geometry entry missing or not an integer, unknown colour space, a `Filter`, overflow) -/
def imgLen (d : Dict) : Option Nat :=
  imgLenCore ((getAbbr d [87] W_KEY).bind Obj.asInt) ((getAbbr d [72] H_KEY).bind Obj.asInt)
    ((getAbbr d [66, 80, 67] (strBytes "BitsPerComponent")).bind Obj.asInt)
    ((getAbbr d [67, 83] (strBytes "ColorSpace")).bind Obj.asName)
    (getAbbr d [70] imageDataStream.FILTER_KEY)

/-- `image_data_stream` once the number of data bytes is known -/
def takeData (inp : Bytes) (d : Dict) : Option Nat → PR Obj
  | none => .error
  | some length =>
    if inp.length < length then .error
    else .ok (.stream (d.set imageDataStream.LENGTH_KEY (.int (inp.take length).length)) (inp.take length))
      (inp.drop length)

/-- `image_data_stream` computes `imgLen` and takes that many bytes: the two have the same
branches, and `takeData` maps the leaves of one to the leaves of the other -/
theorem imageDataStream_takeData (inp : Bytes) (d : Dict) :
    imageDataStream inp d = takeData inp d (imgLen d) := by
  unfold imageDataStream imgLen imgLenCore
  generalize (getAbbr d [87] W_KEY).bind Obj.asInt = w
  generalize (getAbbr d [72] H_KEY).bind Obj.asInt = h
  generalize (getAbbr d [66, 80, 67] (strBytes "BitsPerComponent")).bind Obj.asInt = bpc
  generalize (getAbbr d [67, 83] (strBytes "ColorSpace")).bind Obj.asName = cs
  generalize getAbbr d [70] imageDataStream.FILTER_KEY = filt
  rcases w with _ | w <;> rcases h with _ | h <;> try rfl
  rcases bpc with _ | bpc <;> rcases cs with _ | cs <;> try rfl
  simp only
  split
  · rename_i heq; rw [heq]; rfl
  · rename_i nc heq
    rw [heq]
    simp only [apply_ite (takeData inp d)]
    cases filt <;> rfl

theorem imageDataStream_eq (inp : Bytes) (d : Dict) :
    imageDataStream inp d =
      match imgLen d with
      | none => .error
      | some length =>
        if inp.length < length then .error
        else .ok (.stream (d.set imageDataStream.LENGTH_KEY (.int (inp.take length).length)) (inp.take length))
          (inp.drop length) := by
  rw [imageDataStream_takeData]
  cases imgLen d <;> rfl

theorem imageDataStream_accepts (d : Dict) (c R : Bytes) (h : imgLen d = some c.length) :
    imageDataStream (c ++ R) d =
      .ok (.stream (d.set imageDataStream.LENGTH_KEY (.int c.length)) c) R := by
  rw [imageDataStream_eq, h]
  simp

/-- **shape of what the decoder produces**: the data are exactly the computed number of bytes
of the input, the dictionary gets `Length`. -/
theorem imageDataStream_shape (inp : Bytes) (d : Dict) (st : Obj) (r : Bytes)
    (h : imageDataStream inp d = .ok st r) :
    ∃ c, inp = c ++ r ∧ imgLen d = some c.length ∧
      st = .stream (d.set imageDataStream.LENGTH_KEY (.int c.length)) c := by
  rw [imageDataStream_eq] at h
  split at h
  · cases h
  · rename_i length hl
    split at h
    · cases h
    · rename_i hlt
      injection h with h1 h2
      refine ⟨inp.take length, ?_, ?_, h1.symm⟩
      · rw [← h2]; simp
      · rw [hl]; simp; omega

theorem getAbbr_normD (d : Dict) (a k : Bytes) : getAbbr (normD d) a k = (getAbbr d a k).map norm := by
  unfold getAbbr
  rw [normD_get, normD_get]
  cases Dict.get d a <;> simp

theorem asInt_norm (x : Option Obj) (i : Int) (h : x.bind Obj.asInt = some i) :
    (x.map norm).bind Obj.asInt = some i := by
  cases x with
  | none => simp at h
  | some o => cases o <;> simp_all [Obj.asInt, norm]

theorem asName_norm (x : Option Obj) (n : Bytes) (h : x.bind Obj.asName = some n) :
    (x.map norm).bind Obj.asName = some n := by
  cases x with
  | none => simp at h
  | some o => cases o <;> simp_all [Obj.asName, norm]

theorem imgLenCore_some (w h bpc : Option Int) (cs : Option Bytes) (filt : Option Obj) (n : Nat)
    (hn : imgLenCore w h bpc cs filt = some n) :
    ∃ w' h' b' c', w = some w' ∧ h = some h' ∧ bpc = some b' ∧ cs = some c' ∧ filt = none := by
  cases w with | none => cases hn | some w' => ?_
  cases h with | none => cases hn | some h' => ?_
  cases bpc with | none => cases hn | some b' => ?_
  cases cs with | none => cases hn | some c' => ?_
  refine ⟨_, _, _, _, rfl, rfl, rfl, rfl, ?_⟩
  cases filt with
  | none => rfl
  | some f =>
    -- with a `Filter` every leaf of `imgLenCore` is `none`
    exfalso
    simp only [imgLenCore, ite_self] at hn
    split at hn <;> cases hn

theorem imgLen_norm (d : Dict) (n : Nat) (h : imgLen d = some n) : imgLen (normD d) = some n := by
  unfold imgLen at h ⊢
  obtain ⟨w, hh, b, c, e1, e2, e3, e4, e5⟩ := imgLenCore_some _ _ _ _ _ n h
  rw [getAbbr_normD, getAbbr_normD, getAbbr_normD, getAbbr_normD, getAbbr_normD,
    asInt_norm _ w e1, asInt_norm _ hh e2, asInt_norm _ b e3, asName_norm _ c e4, e5]
  rw [e1, e2, e3, e4, e5] at h
  exact h

/-- `BI`'s entries as `encode` writes them: every key and every value followed by a blank -/
def encEntries (d : Dict) : Bytes := (d.map fun (k, v) => writeName k ++ [32] ++ writeObj v ++ [32]).flatten

theorem encEntries_cons (k : Bytes) (v : Obj) (r : Dict) (X : Bytes) :
    encEntries ((k, v) :: r) ++ X = writeName k ++ 32 :: (writeObj v ++ 32 :: (encEntries r ++ X)) := by
  simp [encEntries]

/-- what ends the entries (`ID`): not white space, `%`, a digit or `/` -/
def EntStop (X : Bytes) : Prop :=
  ∃ b r, X = b :: r ∧ isWhitespace b = false ∧ b ≠ 37 ∧ isDigit b = false ∧ b ≠ 47

theorem entTail_head (r : Dict) (X : Bytes) (hX : EntStop X) :
    ∃ b t, encEntries r ++ X = b :: t ∧ isWhitespace b = false ∧ b ≠ 37 ∧ isDigit b = false := by
  cases r with
  | nil =>
    obtain ⟨b, t, e, h1, h2, h3, _⟩ := hX
    exact ⟨b, t, by simpa [encEntries] using e, h1, h2, h3⟩
  | cons e r =>
    obtain ⟨k, v⟩ := e
    rw [encEntries_cons]
    exact ⟨47, _, rfl, by decide, by decide, by decide⟩

theorem follow_blank_ref (o : Obj) (R : Bytes)
    (hR : ∃ b t, R = b :: t ∧ isWhitespace b = false ∧ b ≠ 37 ∧ isDigit b = false) :
    Follow true o (32 :: R) := by
  obtain ⟨b, t, rfl, h1, h2, h3⟩ := hR
  exact follow_of (nameStop_cons _ (by decide))
    (fun _ => refTail_nondigit (space_sp_head _ ⟨b, t, rfl, h1, h2⟩) h3) o

/-- `inner_dictionary` at depth 0 reads the entries back -/
theorem entries_rt : ∀ (es : Dict) (fuel n : Nat) (X : Bytes) (acc : Dict), WFD (fun _ => True) es →
    heightD es ≤ MAX_NESTING → sizeD es ≤ fuel → es.length ≤ n → EntStop X →
    dictEntries fuel 0 n (encEntries es ++ X) acc = some (setAll acc (normD es), X) := by
  intro es
  induction es with
  | nil =>
    intro fuel n X acc _ _ _ _ hX
    obtain ⟨b, r, rfl, _, _, _, h47⟩ := hX
    simpa [encEntries, normD, setAll] using
      dictEntries_noname fuel 0 n (b :: r) acc ((delim_alts_fail b r).1 h47)
  | cons e r ih =>
    intro fuel n X acc hwf hh hs hn hX
    obtain ⟨k, v⟩ := e
    obtain ⟨n, rfl, hn'⟩ := fuel_succ (n := r.length) hn
    simp only [WFD] at hwf
    simp only [heightD] at hh
    simp only [sizeD] at hs
    have hR := entTail_head r X hX
    have ho := obj_core _ litOK_all v fuel 0 (32 :: (encEntries r ++ X)) hwf.1
      (by rw [Nat.zero_add]; exact Nat.le_trans (Nat.le_max_left _ _) hh)
      (Nat.le_trans (Nat.le_add_right _ _) hs) (follow_blank_ref v _ hR)
    have hsp : space (32 :: (encEntries r ++ X)) = encEntries r ++ X := by
      obtain ⟨b, t, e, h1, h2, _⟩ := hR
      exact space_sp_head _ ⟨b, t, e, h1, h2⟩
    have hr := ih fuel n X (acc.set k (norm v)) hwf.2 (Nat.le_trans (Nat.le_max_right _ _) hh)
      (Nat.le_trans (Nat.le_add_left _ _) hs) hn' hX
    rw [encEntries_cons, dictEntries_entry fuel 0 n acc k _ _ v (nameStop_cons _ (by decide))
      (space_sp_head _ (headTok_obj v _ hwf.1)) ho, hsp, hr]
    rfl

theorem sizeD_le_encEntries (es : Dict) (h : WFD (fun _ => True) es) : sizeD es ≤ (encEntries es).length := by
  induction es with
  | nil => simp [sizeD]
  | cons e r ih =>
    obtain ⟨k, v⟩ := e
    simp only [WFD] at h
    have h1 := size_le_length _ v h.1
    have h2 := ih h.2
    have := encEntries_cons k v r []
    simp only [List.append_nil] at this
    rw [this]
    simp only [sizeD, List.length_append, List.length_cons]
    omega

/-- inline images in the scope of the theorem -/
structure WFImage (d : Dict) (c : Bytes) : Prop where
  values : WFD (fun _ => True) d
  keys : (d.map (·.1)).Nodup
  nesting : heightD d ≤ MAX_NESTING
  /-- the decoder accepts the dictionary and computes exactly the length of the data -/
  length : imgLen d = some c.length
  /-- the data do not start with a `content_space` byte (the decoder would skip it) -/
  head : ∀ b r, c = b :: r → isContentSpace b = false

def imageOp (d : Dict) (c : Bytes) : Operation := { operator := [66, 73], operands := [.stream d c] }

/-- normal form of an inline image: values through `norm`, `Length` set to the data length -/
def normImage (d : Dict) (c : Bytes) : Operation :=
  imageOp (Dict.set (normD d) imageDataStream.LENGTH_KEY (.int c.length)) c

theorem encodeOperation_image (d : Dict) (c : Bytes) :
    encodeOperation (imageOp d c) = 66 :: 73 :: 32 :: (encEntries d ++ (73 :: 68 :: 32 :: (c ++ [32, 69, 73]))) := by
  simp [encodeOperation, imageOp, encEntries]

theorem contentSpace_data (c : Bytes) (R : Bytes) (h : ∀ b r, c = b :: r → isContentSpace b = false) :
    contentSpace (32 :: (c ++ 32 :: 69 :: 73 :: R)) = c ++ 69 :: 73 :: R ∨
    contentSpace (32 :: (c ++ 32 :: 69 :: 73 :: R)) = c ++ 32 :: 69 :: 73 :: R := by
  rw [contentSpace_cons_space]
  cases c with
  | nil => left; simp [contentSpace_cons_space, contentSpace_head _ ⟨69, _, rfl, by decide⟩]
  | cons b r => right; exact contentSpace_head _ ⟨b, _, rfl, h b r rfl⟩

/-- `operation` on `BI`, written entries and `ID`, whatever text `R` follows `ID`: the entries
are read back; what remains is `image_data_stream` on `R` and `EI` -/
theorem pOperation_BI (d : Dict) (R : Bytes) (hv : WFD (fun _ => True) d) (hk : (d.map (·.1)).Nodup)
    (hn : heightD d ≤ MAX_NESTING) :
    pOperation (66 :: 73 :: 32 :: (encEntries d ++ 73 :: 68 :: R)) =
      match imageDataStream (contentSpace R) (normD d) with
      | .ok st r3 =>
        (match tag [69, 73] (contentSpace r3) with
         | some r4 => .ok { operator := [66, 73], operands := [st] } (contentSpace r4)
         | none => .failure)
      | .panic s => .panic s
      | _ => .failure := by
  have hX : EntStop (73 :: 68 :: R) := ⟨73, _, rfl, by decide, by decide, by decide, by decide⟩
  obtain ⟨b, t, hbt, hb1, _, _⟩ := entTail_head d _ hX
  have hcs : contentSpace (32 :: (encEntries d ++ 73 :: 68 :: R)) = encEntries d ++ 73 :: 68 :: R := by
    rw [contentSpace_cons_space]
    exact contentSpace_head _ ⟨b, t, hbt, ws_cs b hb1⟩
  have hsz : sizeD d ≤ (encEntries d ++ 73 :: 68 :: R).length :=
    Nat.le_trans (sizeD_le_encEntries d hv) (List.length_append ▸ Nat.le_add_right _ _)
  have hent := entries_rt d ((encEntries d ++ 73 :: 68 :: R).length + 1)
    ((encEntries d ++ 73 :: 68 :: R).length + 1) _ [] hv hn
    (Nat.le_succ_of_le hsz) (Nat.le_succ_of_le (Nat.le_trans (length_le_sizeD d) hsz)) hX
  rw [setAll_normD d hk] at hent
  have hcom : ∀ n, manyComments (n + 1) (66 :: 73 :: 32 :: (encEntries d ++ 73 :: 68 :: R)) =
      66 :: 73 :: 32 :: (encEntries d ++ 73 :: 68 :: R) := by
    intro n
    simp only [manyComments]
    rw [comment_non37 66 _ (by decide)]
  unfold pOperation
  rw [hcom]
  simp only [tag, if_true, hcs]
  unfold inlineImageImpl
  simp only [hent, tag, if_true]
  generalize imageDataStream (contentSpace R) (normD d) = res
  cases res with
  | ok st r3 =>
    simp only
    generalize tag [69, 73] (contentSpace r3) = tg
    cases tg <;> rfl
  | error => rfl
  | failure => rfl
  | panic s => rfl

/-- … on an encoded inline image: this holds for EVERY data `c`; `R` is the separating blank,
the data, ` EI` and the tail -/
theorem image_prefix (d : Dict) (c tail : Bytes) (hv : WFD (fun _ => True) d) (hk : (d.map (·.1)).Nodup)
    (hn : heightD d ≤ MAX_NESTING) :
    pOperation (encodeOperation (imageOp d c) ++ tail) =
      match imageDataStream (contentSpace (32 :: (c ++ 32 :: 69 :: 73 :: tail))) (normD d) with
      | .ok st r3 =>
        (match tag [69, 73] (contentSpace r3) with
         | some r4 => .ok { operator := [66, 73], operands := [st] } (contentSpace r4)
         | none => .failure)
      | .panic s => .panic s
      | _ => .failure := by
  rw [encodeOperation_image, ← pOperation_BI d _ hv hk hn]
  simp only [List.cons_append, List.append_assoc, List.nil_append]

/-- **one inline image**, whatever follows `EI` -/
theorem image_rt (d : Dict) (c tail : Bytes) (h : WFImage d c) :
    pOperation (encodeOperation (imageOp d c) ++ tail) = .ok (normImage d c) (contentSpace tail) := by
  rw [image_prefix d c tail h.values h.keys h.nesting]
  have hlen := imgLen_norm d _ h.length
  have himg : ∃ R', imageDataStream (contentSpace (32 :: (c ++ 32 :: 69 :: 73 :: tail))) (normD d) =
      .ok (.stream (Dict.set (normD d) imageDataStream.LENGTH_KEY (.int c.length)) c) R' ∧
      contentSpace R' = 69 :: 73 :: tail := by
    rcases contentSpace_data c tail h.head with e1 | e1
    · exact ⟨_, by rw [e1]; exact imageDataStream_accepts _ c _ hlen, contentSpace_head _ ⟨69, _, rfl, by decide⟩⟩
    · exact ⟨_, by rw [e1]; exact imageDataStream_accepts _ c _ hlen,
        by rw [contentSpace_cons_space]; exact contentSpace_head _ ⟨69, _, rfl, by decide⟩⟩
  obtain ⟨R', himg1, himg2⟩ := himg
  simp only [himg1, himg2, tag, if_true, normImage, imageOp]

/-- operations in the scope of `content_rt_img`: plain well-formed operations and well-formed inline images -/
inductive WFOpI : Operation → Prop
  | plain (op : Operation) : WFOp op → WFOpI op
  | image (d : Dict) (c : Bytes) : WFImage d c → WFOpI (imageOp d c)

/-- normal form of an operation: operands through `norm`; an inline image gets its `Length` -/
def normOpI (op : Operation) : Operation :=
  match op.operands with
  | [.stream d c] => if op.operator = [66, 73] then normImage d c else normOp op
  | _ => normOp op

def normOpsI (ops : List Operation) : List Operation := ops.map normOpI

theorem normOpI_plain (op : Operation) (h : WFOp op) : normOpI op = normOp op := by
  unfold normOpI
  split
  · rename_i d c heq
    have := (h.operands (.stream d c) (by rw [heq]; simp)).1
    simp [WFObj, WF] at this
  · rfl

theorem normOpI_image (d : Dict) (c : Bytes) : normOpI (imageOp d c) = normImage d c := by
  simp [normOpI, imageOp]

theorem readBack_img : ReadBack WFOpI normOpI := by
  intro op tail h ht
  cases h with
  | plain _ hw =>
    exact ⟨by rw [normOpI_plain op hw]; exact operation_rt op tail hw ht, headNonCs_operation op tail hw⟩
  | image d c hw =>
    refine ⟨by rw [normOpI_image]; exact image_rt d c tail hw, ?_⟩
    rw [encodeOperation_image]; exact ⟨66, _, rfl, by decide⟩

/-- **C14 `content_rt_img`.** For every list of operations each of which is a plain well-formed
operation or a well-formed inline image, decoding the encoded content returns the normal forms,
in order. -/
theorem content_rt_img (ops : List Operation) (h : ∀ op ∈ ops, WFOpI op) :
    decodeContent (encodeContent ops) = .ok (normOpsI ops) :=
  decodeContent_rt readBack_img ops h

theorem image_content_rt (d : Dict) (c : Bytes) (h : WFImage d c) :
    decodeContent (encodeContent [imageOp d c]) = .ok [normImage d c] := by
  have := content_rt_img [imageOp d c] (by intro op hop; simp at hop; subst hop; exact WFOpI.image d c h)
  simpa [normOpsI, normOpI_image] using this

/-! ### what the decoder produces is in the scope (decode → encode → decode) -/

theorem getAbbr_set_ne (d : Dict) (K a k : Bytes) (v : Obj) (h1 : K ≠ a) (h2 : K ≠ k) :
    getAbbr (Dict.set d K v) a k = getAbbr d a k := by
  simp only [getAbbr, Dict.get_set_ne d K a v h1, Dict.get_set_ne d K k v h2]

theorem key_facts : imageDataStream.LENGTH_KEY ≠ [87] ∧ imageDataStream.LENGTH_KEY ≠ W_KEY ∧
    imageDataStream.LENGTH_KEY ≠ [72] ∧ imageDataStream.LENGTH_KEY ≠ H_KEY ∧
    imageDataStream.LENGTH_KEY ≠ [66, 80, 67] ∧ imageDataStream.LENGTH_KEY ≠ strBytes "BitsPerComponent" ∧
    imageDataStream.LENGTH_KEY ≠ [67, 83] ∧ imageDataStream.LENGTH_KEY ≠ strBytes "ColorSpace" ∧
    imageDataStream.LENGTH_KEY ≠ [70] ∧ imageDataStream.LENGTH_KEY ≠ imageDataStream.FILTER_KEY := by
  simp only [strBytes_data]; decide +kernel

theorem imgLen_set (d : Dict) (v : Obj) : imgLen (Dict.set d imageDataStream.LENGTH_KEY v) = imgLen d := by
  obtain ⟨k1, k2, k3, k4, k5, k6, k7, k8, k9, k10⟩ := key_facts
  simp only [imgLen, getAbbr_set_ne d _ _ _ v k1 k2, getAbbr_set_ne d _ _ _ v k3 k4,
    getAbbr_set_ne d _ _ _ v k5 k6, getAbbr_set_ne d _ _ _ v k7 k8, getAbbr_set_ne d _ _ _ v k9 k10]

theorem contentSpace_out (x : Bytes) : ∀ b r, contentSpace x = b :: r → isContentSpace b = false := by
  induction x with
  | nil => intro b r h; simp [contentSpace, spanP] at h
  | cons a t ih =>
    intro b r h
    by_cases ha : isContentSpace a = true
    · have : contentSpace (a :: t) = contentSpace t := by simp [contentSpace, spanP, ha]
      rw [this] at h; exact ih b r h
    · have ha' : isContentSpace a = false := by simpa using ha
      have : contentSpace (a :: t) = a :: t := by simp [contentSpace, spanP, ha']
      rw [this] at h; injection h with h _; subst h; exact ha'

theorem inlineImage_ok (inp : Bytes) (op : Operation) (r : Bytes) (h : inlineImageImpl inp = .ok op r) :
    ∃ d0 r1 r2 c r3, dictEntries (inp.length + 1) 0 (inp.length + 1) inp [] = some (d0, r1) ∧
      tag [73, 68] r1 = some r2 ∧ contentSpace r2 = c ++ r3 ∧ imgLen d0 = some c.length ∧
      op = imageOp (Dict.set d0 imageDataStream.LENGTH_KEY (.int c.length)) c := by
  unfold inlineImageImpl at h
  simp only at h
  split at h
  · cases h
  · rename_i d0 r1 hd
    split at h
    · cases h
    · rename_i r2 htag
      split at h
      · rename_i st r3 hst
        split at h
        · injection h with h1 _
          obtain ⟨c, hc, hl, hs⟩ := imageDataStream_shape _ _ _ _ hst
          exact ⟨d0, r1, r2, c, r3, hd, htag, hc, hl, by rw [← h1, hs]; rfl⟩
        · cases h
      · cases h
      · cases h

/-- **every inline image the decoder returns** has the shape `BI [stream d' c]` with distinct
keys, `Length = |c|`, exactly the computed number of data bytes, and data that do not start
with a `content_space` byte — i.e. it meets every clause of `WFImage` that is about inline
images (the remaining clauses, well-formed values and nesting, are about the entry values). -/
theorem inline_decoded_shape (inp : Bytes) (op : Operation) (r : Bytes) (h : inlineImageImpl inp = .ok op r) :
    ∃ d c, op = imageOp d c ∧ (d.map (·.1)).Nodup ∧ imgLen d = some c.length ∧
      Dict.get d imageDataStream.LENGTH_KEY = some (.int c.length) ∧
      (∀ b t, c = b :: t → isContentSpace b = false) := by
  obtain ⟨d0, r1, r2, c, r3, hd, _, hc, hl, rfl⟩ := inlineImage_ok inp op r h
  refine ⟨_, c, rfl, Dict.nodup_set (dictEntries_nodup _ _ _ _ [] d0 r1 (by simp) hd) _ _,
    by rw [imgLen_set]; exact hl, Dict.get_set_same _ _ _, ?_⟩
  rintro b t rfl
  exact contentSpace_out r2 b (t ++ r3) (by rw [hc]; rfl)

/-- for an image that already carries the right `Length` (every decoded image), the normal form
only normalises the values -/
theorem normImage_fixed (d : Dict) (c : Bytes) (h : Dict.get d imageDataStream.LENGTH_KEY = some (.int c.length)) :
    normImage d c = imageOp (normD d) c := by
  unfold normImage
  rw [Dict.set_of_get (by rw [normD_get, h]; rfl)]

/-- **decode → encode → decode.** Whatever inline image the decoder returned: if its entry
values are well-formed direct objects, encoding it and decoding again returns the same image
(values in normal form). -/
theorem image_redecode (inp : Bytes) (op : Operation) (r : Bytes) (h : inlineImageImpl inp = .ok op r) :
    ∃ d c, op = imageOp d c ∧ (WFD (fun _ => True) d → heightD d ≤ MAX_NESTING →
      decodeContent (encodeContent [op]) = .ok [imageOp (normD d) c]) := by
  obtain ⟨d, c, e, hk, hl, hg, hh⟩ := inline_decoded_shape inp op r h
  refine ⟨d, c, e, fun hv hn => ?_⟩
  rw [e, image_content_rt d c ⟨hv, hk, hn, hl, hh⟩, normImage_fixed d c hg]

/-! ### non-vacuity and the exclusions -/

def GRAY : Bytes := [71, 114, 97, 121]
theorem gray_eq : strBytes "Gray" = GRAY := by decide +kernel

/-- `/W 2 /H 1 /BPC 8 /CS /Gray /D [0 1.5]`, two data bytes -/
def sampleDict : Dict :=
  [([87], .int 2), ([72], .int 1), ([66, 80, 67], .int 8), ([67, 83], .name GRAY),
   ([68], .arr [.int 0, .real [49, 46, 53]])]

theorem sampleDict_len : imgLen sampleDict = some 2 := by decide +kernel

theorem sample_image_wf : WFImage sampleDict [255, 32] := by
  refine ⟨?_, by decide, by decide, sampleDict_len, ?_⟩
  · simp only [sampleDict, WFD, WF, WFL, RealOK, and_true, true_and]
    refine ⟨by decide, by decide, by decide, by decide, ?_⟩
    exact Or.inl ⟨⟨false, [49], [53], rfl, by simp, by decide, by decide⟩⟩
  · intro b r e; injection e with e _; subst e; decide

example : decodeContent (encodeContent [imageOp sampleDict [255, 32]]) = .ok [normImage sampleDict [255, 32]] :=
  image_content_rt _ _ sample_image_wf

/-- a mixed list: `q`, the image, `Q` -/
example : decodeContent (encodeContent
      [{ operator := [113], operands := [] }, imageOp sampleDict [255, 32], { operator := [81], operands := [] }]) =
    .ok (normOpsI [{ operator := [113], operands := [] }, imageOp sampleDict [255, 32], { operator := [81], operands := [] }]) := by
  apply content_rt_img
  intro op hop
  simp only [List.mem_cons, List.not_mem_nil, or_false] at hop
  rcases hop with rfl | rfl | rfl
  · exact WFOpI.plain _ ⟨⟨by simp, by decide, by decide, by decide, by decide⟩, fun _ => by decide, by simp⟩
  · exact WFOpI.image _ _ sample_image_wf
  · exact WFOpI.plain _ ⟨⟨by simp, by decide, by decide, by decide, by decide⟩, fun _ => by decide, by simp⟩

/-- one grey pixel -/
def pixelDict : Dict := [([87], .int 1), ([72], .int 1), ([66, 80, 67], .int 8), ([67, 83], .name GRAY)]
theorem pixelDict_len : imgLen pixelDict = some 1 := by decide +kernel

theorem decode_image_failure (d : Dict) (c : Bytes)
    (h : pOperation (encodeOperation (imageOp d c) ++ []) = .failure) :
    decodeContent (encodeContent [imageOp d c]) = .err "failure" := by
  rw [List.append_nil] at h
  have hsp : contentSpace (encodeContent [imageOp d c]) = encodeContent [imageOp d c] := by
    simp only [encodeContent, encodeOperation_image]
    exact contentSpace_head _ ⟨66, _, rfl, by decide⟩
  unfold decodeContent
  simp only [hsp]
  simp only [encodeContent, manyOperations, h]

/-- **exclusion 1 (needed): data that start with a `content_space` byte.** The one-pixel image
whose data byte is a blank meets every clause of `WFImage` except `head`; `encode` writes
`… ID   EI`, the decoder skips all three blanks after `ID`, takes `E` as the data and fails on
`I` — inside `cut`, so the whole content is a parse failure. -/
theorem img_ws_witness : decodeContent (encodeContent [imageOp pixelDict [32]]) = .err "failure" := by
  have hp := image_prefix pixelDict [32] [] (by simp [pixelDict, WFD, WF]; decide) (by decide) (by decide)
  have hcs : contentSpace (32 :: ([32] ++ 32 :: 69 :: 73 :: [])) = [69, 73] := by decide
  have himg : imageDataStream [69, 73] pixelDict =
      .ok (.stream (Dict.set pixelDict imageDataStream.LENGTH_KEY (.int 1)) [69]) [73] := by
    rw [imageDataStream_takeData, pixelDict_len]; rfl
  rw [hcs, show normD pixelDict = pixelDict from rfl, himg] at hp
  exact decode_image_failure _ _ (hp.trans rfl)

/-- **exclusion 2: images the decoder rejects** (here: no geometry entries at all) — `encode`
writes them, `decode` fails; they are outside `WFImage` through `length`. -/
theorem img_rejected_witness : decodeContent (encodeContent [imageOp [] []]) = .err "failure" :=
  decode_image_failure _ _ ((image_prefix [] [] [] (by simp [WFD]) (by simp) (by decide)).trans rfl)

end Lopdf.InlineRt
