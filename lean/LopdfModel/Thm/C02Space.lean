import LopdfModel.Lemmas.FirstByte
import LopdfModel.Lemmas.Space
import LopdfModel.Spec.GrammarTokens
/-
  C02 — white space and comments between tokens: every spelling (`DerivesSpace`) is skipped by
  `space`, whatever follows.  Includes the fuel-independence of `spaceF` (the fuel `space`
  supplies always suffices).
-/
namespace Lopdf.Grammar
open Lopdf Gen

/-- **The fuel of `space` is irrelevant**: any two amounts of fuel above the input length give
the same result (each round consumes at least one byte). -/
theorem spaceF_fuel : ∀ (f f' : Nat) (inp : Bytes), inp.length < f → inp.length < f' →
    spaceF f inp = spaceF f' inp := ObjRt.spaceF_stable

theorem space_eq_spaceF (inp : Bytes) (f : Nat) (h : inp.length < f) : space inp = spaceF f inp :=
  spaceF_fuel _ _ inp (Nat.lt_succ_self _) h

/-- a context in which white space ends: end of input, or a byte that neither is white space
nor starts a comment -/
def SpaceStop (rest : Bytes) : Prop := ∀ b r, rest = b :: r → isWhitespace b = false ∧ b ≠ 37

theorem eol_cr_other (c : UInt8) (t : Bytes) (hc : c ≠ 10) : eol (13 :: c :: t) = some ([13], c :: t) := by
  simp [eol, hc]

/-- `eol` on a marker in front of `y` takes the marker — and, when the marker is a lone CR and `y`
starts with LF, that LF too (CR LF is tried first) -/
theorem eol_general (e y : Bytes) (he : IsEol e) :
    ∃ m r, eol (e ++ y) = some (m, r) ∧ (r = y ∨ (e = [13] ∧ y = 10 :: r)) := by
  cases he with
  | lf => exact ⟨_, y, rfl, Or.inl rfl⟩
  | crlf => exact ⟨_, y, rfl, Or.inl rfl⟩
  | cr =>
    cases y with
    | nil => exact ⟨_, [], rfl, Or.inl rfl⟩
    | cons c t =>
      by_cases hc : c = 10
      · subst hc; exact ⟨_, t, rfl, Or.inr ⟨rfl, rfl⟩⟩
      · exact ⟨_, c :: t, eol_cr_other c t hc, Or.inl rfl⟩

theorem eol_starts {e : Bytes} (he : IsEol e) : Starts (fun c => c = 13 ∨ c = 10) e := by
  cases he
  · exact starts_cons (Or.inl rfl)
  · exact starts_cons (Or.inr rfl)
  · exact starts_cons (Or.inl rfl)

theorem eol_head (e : Bytes) (he : IsEol e) (z : Bytes) :
    ∃ c r, e ++ z = c :: r ∧ (c = 13 ∨ c = 10) := (eol_starts he).append z

theorem eol_exact (e y : Bytes) (he : IsEol e) (hy : Ahead (· ≠ 10) y) :
    ∃ m, eol (e ++ y) = some (m, y) := by
  obtain ⟨m, r, h1, rfl | ⟨_, h2⟩⟩ := eol_general e y he
  · exact ⟨m, h1⟩
  · exact absurd rfl (hy 10 r h2)

theorem comment_skip (body e y : Bytes) (hb : NoEolByte body) (he : IsEol e) :
    ∃ r, comment (37 :: (body ++ (e ++ y))) = some r ∧ space r = space y := by
  have hspan : spanP (fun b => b != 13 && b != 10) (body ++ (e ++ y)) = (body, e ++ y) :=
    spanP_append _ body _ hb (((eol_starts he).append y).ahead (by rintro c (rfl | rfl) <;> rfl))
  obtain ⟨m, r, h1, h2⟩ := eol_general e y he
  refine ⟨r, by simp [comment, hspan, h1], ?_⟩
  rcases h2 with rfl | ⟨_, rfl⟩
  · rfl
  · exact (ObjRt.space_ws 10 r (by decide)).symm

/-- skipping is compositional: a derivable prefix disappears in front of ANY text -/
theorem space_derives_append {bs : Bytes} (h : DerivesSpace bs) (rest : Bytes) :
    space (bs ++ rest) = space rest := by
  induction h with
  | nil => rfl
  | ws b bs hb _ ih => rw [List.cons_append, ObjRt.space_ws b _ hb, ih]
  | comment body e bs hb he _ ih =>
    obtain ⟨r, hc, hr⟩ := comment_skip body e (bs ++ rest) hb he
    have e1 : 37 :: body ++ e ++ bs ++ rest = 37 :: (body ++ (e ++ (bs ++ rest))) := by simp
    rw [e1, ObjRt.space_comment _ r hc, hr, ih]

/-- **White space and comments, every spelling.** Whatever mix of the six white-space bytes
and of `%…EOL` comments (any of the three end-of-line markers) stands between two tokens,
`space` skips exactly that text when the next token starts with neither. -/
theorem space_complete (bs rest : Bytes) (h : DerivesSpace bs) (hs : SpaceStop rest) :
    space (bs ++ rest) = rest := by
  rw [space_derives_append h rest, ObjRt.space_stop rest hs]

theorem space_starts {sp : Bytes} (h : DerivesSpace sp) (hne : sp ≠ []) :
    Starts (fun c => isWhitespace c = true ∨ c = 37) sp := by
  cases h with
  | nil => exact absurd rfl hne
  | ws b bs hb _ => exact starts_cons (Or.inl hb)
  | comment body e bs _ _ _ => exact starts_cons (Or.inr rfl)

example : DerivesSpace [32, 37, 65, 13, 10, 0, 37, 13, 12] :=
  .ws 32 _ (by decide) (.comment [65] [13, 10] _ (by intro b hb; simp at hb; subst hb; decide) .crlf
    (.ws 0 _ (by decide) (.comment [] [13] [12] (by intro b hb; simp at hb) .cr (.ws 12 _ (by decide) .nil))))
example : SpaceStop [47, 65] := by intro b r h; simp at h; obtain ⟨rfl, _⟩ := h; decide

end Lopdf.Grammar
