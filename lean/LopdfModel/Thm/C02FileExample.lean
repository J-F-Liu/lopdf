import LopdfModel.Thm.C02FileRef
/-
  Non-vacuity of `loadDoc_complete`: a concrete 114-byte file meets every hypothesis.
    %PDF-1.4 LF
    1 0 obj LF /A LF endobj LF
    xref LF 0 2 LF 0000000000 65535 f SP LF 0000000009 00000 n SP LF
    trailer LF <</Size 2>> LF
    startxref LF 27 LF %%EOF
  The first part holds the spellings all the concrete files of the C02File*Example modules are made
  of (single blanks and line feeds as separators).  An object is shown to be DEFINED at an offset
  by splitting the file there (`definesAt_split`), never by evaluating the reader.
-/
namespace Lopdf.Grammar
open Lopdf Gen

/-! ### spellings used by the concrete files -/

theorem natLit (n : Nat) (ds : Bytes) (h : (ds.length != 0 && ds.all isDigit && digitsVal ds == n) = true) :
    DerivesNat n ds := by
  simp only [Bool.and_eq_true, bne_iff_ne, List.all_eq_true, beq_iff_eq] at h
  exact derivesNat_lit n ds (ds.length - 1) (by omega) h.1.2 h.2

theorem digitObj (d n : Nat) (c : UInt8) (hc : isDigit c = true) (hn : (c - 48).toNat = n) :
    DerivesObj d (.int (Int.ofNat n)) [c] :=
  .int d _ _ (.unsigned n [c] (hn ▸ .one c hc) (by subst hn; have := digit_val_le9 c hc; simp only [I64MAX]; omega))

theorem rawName : ∀ (n : Bytes), (∀ b ∈ n, (b != 35) = true ∧ isRegular b = true) → DerivesName n n
  | [], _ => .nil
  | b :: r, h => .raw b r r (h b (by simp)).1 (h b (by simp)).2 (rawName r (fun x hx => h x (by simp [hx])))

theorem nameObj (d : Nat) (n : Bytes) (h : ∀ b ∈ n, (b != 35) = true ∧ isRegular b = true) :
    DerivesObj d (.name n) (47 :: n) := .name d n n (rawName n h)

/-- the keys of the concrete dictionaries (letters only, spelled raw) -/
def kSize : Bytes := [83, 105, 122, 101]
def kIndex : Bytes := [73, 110, 100, 101, 120]
def kLength : Bytes := [76, 101, 110, 103, 116, 104]
theorem kSize_name : DerivesName kSize kSize := rawName _ (by decide +kernel)
theorem kIndex_name : DerivesName kIndex kIndex := rawName _ (by decide +kernel)
theorem kLength_name : DerivesName kLength kLength := rawName _ (by decide +kernel)
theorem w_name : DerivesName [87] [87] := rawName _ (by decide +kernel)

theorem lastItem (o : Obj) (b : Bytes) (h : DerivesObj 0 o b) : DerivesItems 0 [o] (b ++ [] ++ []) :=
  .cons 0 o [] b [] [] h .nil (.nil 0) (fun _ b r e => by cases e)

theorem spItem (o : Obj) (os : List Obj) (b bs : Bytes) (h : DerivesObj 0 o b) (hr : DerivesItems 0 os bs) :
    DerivesItems 0 (o :: os) (b ++ [32] ++ bs) :=
  .cons 0 o os b [32] bs h (.ws 32 _ (by decide) .nil) hr (fun _ => stopHead_sp _)

/-- the separators of the concrete files: one blank, one line feed -/
abbrev SP : Bytes := [32]
abbrev LF : Bytes := [10]

theorem spaceSp : DerivesSpace SP := .ws 32 _ (by decide) .nil
theorem spaceLf : DerivesSpace LF := .ws 10 _ (by decide) .nil
theorem gapSp : IsGapG SP := ⟨spaceSp, by simp⟩
theorem allSp_nil : AllSp [] := fun _ h => nomatch h

/-- `/Key value`: one blank after the key, nothing after the value -/
theorem entrySp {d : Nat} {v : Obj} {k vb : Bytes} {es : List (Bytes × Obj)} {bs : Bytes}
    (hk : DerivesName k k) (hv : DerivesObj d v vb) (hr : DerivesEntries d es bs) :
    DerivesEntries d ((k, v) :: es) (47 :: k ++ SP ++ vb ++ [] ++ bs) :=
  .cons d k k v es SP vb [] bs hk spaceSp (stopHead_sp _) hv .nil hr

/-- `/Key` directly followed by a value that starts with a delimiter -/
theorem entryTight {d : Nat} {v : Obj} {k vb : Bytes} {es : List (Bytes × Obj)} {bs : Bytes}
    (hk : DerivesName k k) (hs : StopHead vb) (hv : DerivesObj d v vb) (hr : DerivesEntries d es bs) :
    DerivesEntries d ((k, v) :: es) (47 :: k ++ [] ++ vb ++ [] ++ bs) :=
  .cons d k k v es [] vb [] bs hk .nil hs hv .nil hr

/-- `[` `]` around items, no blank after `[` -/
theorem arrObj (items : List Obj) (bs : Bytes) (h : DerivesItems 0 items bs) :
    DerivesObj 1 (.arr items) (91 :: [] ++ bs ++ [93]) := .arr 0 items [] bs .nil h

theorem stopHead_delim (c : UInt8) (r : Bytes) (hc : isRegular c = false) : StopHead (c :: r) := by
  intro b r' e; injection e with e _; subst e; exact hc

/-- `n 0 obj LF value LF endobj`, single-digit object number -/
theorem indirectLf {d : Nat} {o : Obj} {bs : Bytes} (n : Nat) (c : UInt8) (hc : isDigit c = true)
    (hn : (c - 48).toNat = n) (ho : DerivesObj d o bs) (hd : d ≤ MAX_NESTING) :
    DerivesIndirect (n, 0) o ([c] ++ (SP ++ ([48] ++ (SP ++ (OBJ_KW ++ (LF ++ (bs ++ (LF ++ ENDOBJ_KW)))))))) :=
  .plain d n 0 o [c] SP [48] SP LF bs LF (hn ▸ .one c hc)
    (by subst hn; have := digit_val_le9 c hc; omega) gapSp (.one 48 (by decide)) (by decide) gapSp spaceLf ho hd spaceLf
    (fun _ => by simp)

/-- `n 0 obj LF <<…>> LF stream LF data LF endstream LF endobj`, single-digit object number -/
theorem streamLf {d : Nat} {es : List (Bytes × Obj)} {ebs : Bytes} (n : Nat) (c : UInt8) (hc : isDigit c = true)
    (hn : (c - 48).toNat = n) (data : Bytes) (hes : DerivesEntries d es ebs) (hd : 1 + d ≤ MAX_NESTING)
    (hlen : (setEntries [] es).get LENGTH = some (.int data.length)) :
    DerivesIndirect (n, 0) (.stream (setEntries [] es) data)
      ([c] ++ (SP ++ ([48] ++ (SP ++ (OBJ_KW ++ (LF ++ (streamSpelling [] ebs LF [] LF data LF ++ (LF ++ ENDOBJ_KW)))))))) :=
  .stream d n 0 es [c] SP [48] SP LF [] ebs LF [] LF data LF LF (hn ▸ .one c hc)
    (by subst hn; have := digit_val_le9 c hc; omega) gapSp (.one 48 (by decide)) (by decide) gapSp spaceLf .nil hes hd
    spaceLf (fun _ h => nomatch h) .lf hlen (.some _ .lf) spaceLf

theorem notObjStm_name (n : Bytes) : NotObjStm (.name n) := fun _ _ h => by cases h
theorem notObjStm_int (i : Int) : NotObjStm (.int i) := fun _ _ h => by cases h
theorem notObjStm_stream (d : Dict) (c : Bytes) (h : d.get TYPE = none) : NotObjStm (.stream d c) := by
  intro d' c' e h'
  cases e
  rw [show d.get [84, 121, 112, 101] = none from h] at h'
  cases h'

/-- one line `offset SP generation SP n|f SP LF` of a cross-reference table -/
theorem xrefLine (off gen : Nat) (inUse : Bool) (d1 d2 : Bytes)
    (h1 : (d1.length != 0 && d1.all isDigit && digitsVal d1 == off) = true) (ho : off ≤ 4294967295)
    (h2 : (d2.length != 0 && d2.all isDigit && digitsVal d2 == gen) = true) (hg : gen ≤ 65535) :
    DerivesXrefEntry (off, gen, inUse) (d1 ++ SP ++ d2 ++ [32, if inUse then 110 else 102] ++ [32, 10]) :=
  .mk off gen inUse d1 d2 _ (natLit off d1 h1) ho (natLit gen d2 h2) hg .spLf

theorem split_at {file : Bytes} {off : Nat} (pre ibs rest : Bytes) (hoff : pre.length = off)
    (hfile : file = pre ++ (ibs ++ rest)) : off ≤ file.length ∧ file.drop off = [] ++ (ibs ++ rest) := by
  subst hfile hoff
  exact ⟨by rw [List.length_append]; omega, List.drop_left⟩

theorem definesAt_split {file ibs : Bytes} {off k g : Nat} {o : Obj} (pre rest : Bytes)
    (h : DerivesIndirect (k, g) o ibs) (hno : NotObjStm o) (hoff : pre.length = off)
    (hfile : file = pre ++ (ibs ++ rest)) : DefinesAt file off k g o :=
  ⟨(split_at pre ibs rest hoff hfile).1, [], ibs, rest, (split_at pre ibs rest hoff hfile).2, .nil, h, hno⟩

theorem forall_get_nil {P : Nat → XEntry → Prop} : ∀ k e, XTable.get [] k = some e → P k e :=
  fun _ _ h => nomatch h

theorem forall_get_cons {P : Nat → XEntry → Prop} {k0 : Nat} {e0 : XEntry} {t : XTable} (h0 : P k0 e0)
    (ht : ∀ k e, XTable.get t k = some e → P k e) : ∀ k e, XTable.get ((k0, e0) :: t) k = some e → P k e := by
  intro k e h
  rw [XTable.get] at h
  split at h
  · rename_i hk; cases h; exact hk ▸ h0
  · exact ht k e h

/-! ### the file -/

def exVer : Bytes := [49, 46, 52]
def exBody : Bytes := [49, 32, 48, 32, 111, 98, 106, 10, 47, 65, 10, 101, 110, 100, 111, 98, 106, 10]
def exSecs : List TSub := [(0, [(0, 65535, false), (9, 0, true)])]
def exXref : Bytes :=
  [120, 114, 101, 102] ++ [10] ++
    ([48] ++ [32] ++ [50] ++ [] ++ [10] ++
      (([48, 48, 48, 48, 48, 48, 48, 48, 48, 48] ++ [32] ++ [54, 53, 53, 51, 53] ++ [32, 102] ++ [32, 10]) ++
       (([48, 48, 48, 48, 48, 48, 48, 48, 48, 57] ++ [32] ++ [48, 48, 48, 48, 48] ++ [32, 110] ++ [32, 10]) ++ [])))
def exEntries : List (Bytes × Obj) := [([83, 105, 122, 101], .int 2)]
def exEbs : Bytes := 47 :: [83, 105, 122, 101] ++ [32] ++ [50] ++ [] ++ []

theorem exXref_derives : DerivesXrefTable exSecs exXref :=
  .mk _ _ _ .lf
    (.one _ _
      (.mk 0 [(0, 65535, false), (9, 0, true)] _ _ _ _ _ (.one 48 (by decide)) (.one 50 (by decide)) (by decide)
        (by decide) .none .lf
        (.cons _ _ _ _ (xrefLine 0 65535 false _ _ (by decide) (by decide) (by decide) (by decide))
          (.cons _ _ _ _ (xrefLine 9 0 true _ _ (by decide) (by decide) (by decide) (by decide)) .nil))))

theorem exEntries_derive : DerivesEntries 0 exEntries exEbs :=
  entrySp kSize_name (digitObj 0 2 50 (by decide) (by decide)) (.nil 0)

def exTail : Bytes :=
  exXref ++ (TRAILER_KW ++ ([10] ++ ((60 :: 60 :: [] ++ exEbs ++ [62, 62]) ++ ([10] ++ (STARTXREF ++ ([10] ++ ([] ++
    ([50, 55] ++ ([] ++ ([10] ++ (EOF_MARK ++ [])))))))))))

def exFile : Bytes := (PDF_KW ++ (exVer ++ ([10] ++ exBody))) ++ exTail

/-- the concrete file loads to version `1.4`, trailer `<</Size 2>>`, and exactly object `1 0 = /A` -/
theorem exFile_loads : ∃ L, loadDoc exFile = .ok L ∧ L.version = exVer ∧
    L.trailer = [([83, 105, 122, 101], .int 2)] ∧ L.xrefStart = 27 ∧
    L.objects.get (1, 0) = some (.name [65]) ∧ L.objects.get (2, 0) = none := by
  have htab : tableOf exSecs = [(1, .normal 9 0)] := by decide
  obtain ⟨L, h1, h2, h3, h4, _, h6, h7⟩ := loadDoc_complete exVer [10] exBody exSecs exXref [10] [] [10] [10] [] [50, 55] [] [10] []
    2 (fun _ => (0, .name [65])) (by decide) .lf exXref_derives spaceLf .nil exEntries_derive (by decide) spaceLf
    rfl rfl rfl .lf allSp_nil (natLit _ [50, 55] (by decide)) allSp_nil .lf .none
    (by decide) (by rw [htab]; decide) exFile rfl
    (by
      rw [htab]
      exact forall_get_cons ⟨9, rfl, definesAt_split (PDF_KW ++ (exVer ++ LF)) (LF ++ exTail)
        (indirectLf 1 49 (by decide) (by decide) (nameObj 0 [65] (by decide)) (by decide)) (notObjStm_name _) rfl rfl⟩
        forall_get_nil)
  refine ⟨L, h1, h2, h3, h4, ?_, ?_⟩
  · exact h6 1 (.normal 9 0) (by rw [htab]; rfl)
  · exact h7 (2, 0) (Or.inl (by rw [htab]; rfl))

end Lopdf.Grammar
