import LopdfModel.Model.Read
import LopdfModel.Thm.C03
import LopdfModel.Thm.C08
/-
  C07 — incremental updates: merging a `Prev` chain of cross-reference sections (any length, tables
  or streams, any overlap) lets the newest revision win (`Xref::merge` = or-insert, applied newest
  first); an incremental save keeps the previously loaded bytes as a prefix; an object stored in
  object streams of several revisions is loaded from the container the merged table names (finding
  F-C07-a, repaired by lopdf commit 943080b).
-/
namespace Lopdf
open Gen

namespace XTable

theorem get_append (x l : XTable) (k : Nat) :
    (x ++ l).get k = (x.get k).orElse (fun _ => l.get k) := by
  induction x with
  | nil => simp [XTable.get]
  | cons p rest ih =>
    obtain ⟨k', v⟩ := p
    by_cases h : k' = k <;> simp [XTable.get, h, ih]

end XTable

def mergeStep (acc : XTable) (p : Nat × XEntry) : XTable :=
  match acc.get p.1 with | some _ => acc | none => acc ++ [(p.1, p.2)]

theorem merge_eq_foldl (x y : XTable) : x.merge y = y.foldl mergeStep x := by
  unfold XTable.merge
  rfl

theorem foldl_mergeStep_get (y : XTable) : ∀ (x : XTable) (k : Nat),
    (y.foldl mergeStep x).get k = (x.get k).orElse (fun _ => y.get k) := by
  induction y with
  | nil => intro x k; cases h : x.get k <;> simp [XTable.get, h]
  | cons p ys ih =>
    intro x k
    obtain ⟨k', v⟩ := p
    simp only [List.foldl_cons]
    rw [ih]
    unfold mergeStep
    simp only
    cases hx : x.get k' with
    | some v' =>
      simp only
      by_cases hk : k' = k
      · subst hk; simp [hx]
      · simp [XTable.get, hk]
    | none =>
      simp only
      rw [XTable.get_append]
      by_cases hk : k' = k
      · subst hk; simp [hx, XTable.get]
      · cases hxk : x.get k <;> simp [XTable.get, hk, hxk]

/-- **`Xref::merge` never replaces**: the merged table answers from the newer table when it
defines the number, otherwise from the older one. -/
theorem merge_get (x y : XTable) (k : Nat) :
    (x.merge y).get k = (x.get k).orElse (fun _ => y.get k) := by
  rw [merge_eq_foldl, foldl_mergeStep_get]

/-- the `Prev` chain merged newest first -/
def mergeChain : List XTable → XTable
  | [] => []
  | x :: older => older.foldl XTable.merge x

theorem foldl_merge_get (older : List XTable) : ∀ (x : XTable) (k : Nat),
    (older.foldl XTable.merge x).get k = (x.get k).orElse (fun _ => older.findSome? (·.get k)) := by
  induction older with
  | nil => intro x k; cases h : x.get k <;> simp [h]
  | cons y ys ih =>
    intro x k
    simp only [List.foldl_cons, List.findSome?_cons]
    rw [ih, merge_get]
    cases hx : x.get k <;> cases hy : y.get k <;> simp [hx, hy]

/-- **Latest revision wins**, for every history: the merged table maps each object number to
the entry given by the newest revision that defines it. -/
theorem chain_latest_wins (chain : List XTable) (k : Nat) :
    (mergeChain chain).get k = chain.findSome? (·.get k) := by
  cases chain with
  | nil => simp [mergeChain, XTable.get]
  | cons x older =>
    simp only [mergeChain, List.findSome?_cons]
    rw [foldl_merge_get]
    cases hx : x.get k <;> simp [hx]

example : (mergeChain [[(3, .normal 900 0)], [(3, .normal 100 0), (4, .normal 200 0)], [(4, .normal 50 0), (5, .normal 60 0)]]).get 4
    = some (.normal 200 0) := by decide

/-- **The previous bytes are a prefix** of what an incremental save writes — unchanged, for
every previous file and every new revision. -/
theorem saveFrom_prefix (pre : Bytes) (d : SDoc) (out : Bytes) (d' : SDoc)
    (h : saveFrom pre d = some (out, d')) : pre <+: out := by
  have hbody : pre <+: (writeObjects d.objects (pre ++ PDF_KW ++ d.version ++ [10] ++ [37] ++ d.binaryMark ++ [10]) []).1 := by
    refine List.IsPrefix.trans ?_ (writeObjects_prefix _ _ _)
    simp only [List.append_assoc]
    exact List.prefix_append _ _
  unfold saveFrom at h
  split at h
  · cases h
  · -- both kinds write the body first
    refine hbody.trans ?_
    cases hk : d.xrefKind with
    | table =>
      simp only [hk] at h
      cases h
      simp only [List.append_assoc]
      exact List.prefix_append _ _
    | stream =>
      simp only [hk] at h
      cases h
      simp only [List.append_assoc]
      exact List.prefix_append _ _

theorem incr_prefix (prev : Bytes) (d : SDoc) (out : Bytes) (d' : SDoc)
    (h : saveIncr prev d = some (out, d')) : prev <+: out := by
  unfold saveIncr at h
  exact List.IsPrefix.trans (List.prefix_append _ _) (saveFrom_prefix _ d out d' h)

theorem firstGet_filter (l : List (ObjId × Obj)) (id : ObjId) (f : ObjId × Obj → Bool) (g : Bool)
    (h : ∀ p ∈ l, p.1 = id → f p = g) :
    firstGet (l.filter f) id = if g then firstGet l id else none := by
  induction l with
  | nil => cases g <;> simp [firstGet]
  | cons p rest ih =>
    obtain ⟨i, o⟩ := p
    have ih' := ih (fun q hq => h q (List.mem_cons_of_mem _ hq))
    by_cases hi : i = id
    · have hf := h (i, o) List.mem_cons_self hi
      subst hi
      cases g
      · rw [List.filter_cons_of_neg (by simp [hf])]; simpa using ih'
      · rw [List.filter_cons_of_pos (by simp [hf])]; simp [firstGet]
    · cases hfp : f (i, o)
      · rw [List.filter_cons_of_neg (by simp [hfp]), ih']; simp [firstGet, hi]
      · rw [List.filter_cons_of_pos (by simp [hfp])]; simp only [firstGet, hi, if_false]; exact ih'

/-- the member `id` of the block that the cross-reference table lists under number `c` -/
def memberOf (blocks : List Block) (c : Nat) (id : ObjId) : Option Obj :=
  (blocks.find? (fun b => b.1 == c)).bind (fun b => firstGet b.2 id)

theorem filtered_block (x : XTable) (b : Block) (id : ObjId) (c i : Nat)
    (hx : x.get id.1 = some (.compressed c i)) :
    firstGet (filterBlock x b).2 id = if c == b.1 then firstGet b.2 id else none := by
  unfold filterBlock
  apply firstGet_filter
  intro p _ hp
  simp [xrefAllows, hp, hx]

theorem findSome_filtered (x : XTable) (id : ObjId) (c i : Nat)
    (hx : x.get id.1 = some (.compressed c i)) (L : List Block) (hd : DistinctKeys L) :
    ((L.map (filterBlock x)).map (·.2)).findSome? (fun b => firstGet b id) = memberOf L c id := by
  induction L with
  | nil => simp [memberOf]
  | cons b rest ih =>
    have hd' : DistinctKeys rest := by
      unfold DistinctKeys at hd ⊢; exact (List.nodup_cons.mp hd).2
    simp only [List.map_cons, List.findSome?_cons]
    rw [filtered_block x b id c i hx, ih hd']
    by_cases hc : b.1 = c
    · -- this is the named container; no later block has its number
      have hnone : memberOf rest c id = none := by
        unfold memberOf
        have : rest.find? (fun b => b.1 == c) = none := by
          rw [List.find?_eq_none]
          intro b' hb' hk
          simp only [beq_iff_eq] at hk
          unfold DistinctKeys at hd
          exact (List.nodup_cons.mp hd).1 (List.mem_map.mpr ⟨b', hb', by show b'.1 = b.1; rw [hk, hc]⟩)
        rw [this]; rfl
      rw [hnone]
      subst hc
      have hm : memberOf (b :: rest) b.1 id = firstGet b.2 id := by simp [memberOf, List.find?_cons]
      rw [hm]
      cases firstGet b.2 id <;> simp
    · have hc' : ¬ c = b.1 := fun h => hc h.symm
      have hm : memberOf (b :: rest) c id = memberOf rest c id := by simp [memberOf, List.find?_cons, hc]
      rw [hm]
      simp [hc']

theorem find_key_perm {L₁ L₂ : List Block} (hp : L₁.Perm L₂) (hd : DistinctKeys L₁) (c : Nat) :
    L₁.find? (fun b => b.1 == c) = L₂.find? (fun b => b.1 == c) := by
  cases h1 : L₁.find? (fun b => b.1 == c) with
  | none =>
    rw [List.find?_eq_none] at h1
    symm
    rw [List.find?_eq_none]
    intro b hb
    exact h1 b (hp.symm.subset hb)
  | some a =>
    have ha := List.mem_of_find?_eq_some h1
    have hka := List.find?_some h1
    cases h2 : L₂.find? (fun b => b.1 == c) with
    | none =>
      rw [List.find?_eq_none] at h2
      exact absurd hka (h2 a (hp.subset ha))
    | some b =>
      have hb := hp.symm.subset (List.mem_of_find?_eq_some h2)
      have hkb := List.find?_some h2
      simp only [beq_iff_eq] at hka hkb
      rw [eq_of_key_eq hd ha hb (by rw [hka, hkb])]

/-- **Latest revision wins, object streams.** If the (merged, newest-wins — `chain_latest_wins`)
cross-reference table places object `id` in the container listed under number `c`, then — in
whatever order the containers' blocks arrive — the loaded object is the one read directly (if the
object pass produced one) and otherwise THE MEMBER OF CONTAINER `c`; members of the same number
in containers of older revisions are never used. -/
theorem objstm_xref_container_wins (x : XTable) (os : LObjects) (arrived : List Block) (id : ObjId)
    (c i : Nat) (hx : x.get id.1 = some (.compressed c i)) (hd : DistinctKeys arrived) :
    (mergeBlocksX x os arrived).get id
      = (os.get id).orElse (fun _ => (memberOf arrived c id).map LObj.plain) := by
  unfold mergeBlocksX
  rw [mergeBlocks_get, firstGet_flatten]
  have hds : DistinctKeys (sortBlocks arrived) := by
    unfold DistinctKeys at hd ⊢
    exact ((sortBlocks_perm arrived).map (·.1)).nodup_iff.mpr hd
  rw [findSome_filtered x id c i hx _ hds]
  unfold memberOf
  rw [find_key_perm (sortBlocks_perm arrived) hds c]

/-- the former counter-witness of finding F-C07-a: object 3 is a member of container 9 (old
revision, value 1) and of container 12 (new revision, value 2), and the newest cross-reference
section names container 12: the NEW value is loaded, in both arrival orders. -/
theorem objstm_latest_wins_example :
    let x : XTable := [(3, .compressed 12 0), (9, .normal 100 0), (12, .normal 300 0)]
    let b9 : Block := (9, [((3, 0), Obj.int 1)])
    let b12 : Block := (12, [((3, 0), Obj.int 2)])
    (match (mergeBlocksX x [] [b9, b12]).get (3, 0) with | some (.plain (.int i)) => i | _ => 0) = 2 ∧
    (match (mergeBlocksX x [] [b12, b9]).get (3, 0) with | some (.plain (.int i)) => i | _ => 0) = 2 := by
  decide

end Lopdf
