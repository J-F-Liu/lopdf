import LopdfModel.Thm.C02StartXref
/-
  C02 — the end of the file: `Reader::get_xref_start` (backward search for `%%EOF` in the last
  512 bytes, then for `startxref` in the 25 bytes before it) finds the offset that the
  `startxref` section of the file states, in every spelling of that section.
-/
namespace Lopdf.Grammar
open Lopdf Gen

/-! ### `search_substring` (last occurrence) -/

theorem go_no_occurrence (pat : Bytes) : ∀ (t : Bytes) (fuel i : Nat) (acc : Option Nat), t.length < fuel →
    (∀ j, j < t.length → pat.isPrefixOf (t.drop j) = false) → searchLast.go pat fuel t i acc = acc := by
  intro t
  induction t with
  | nil => intro fuel i acc hf _; cases fuel <;> simp [searchLast.go]
  | cons a as ih =>
    intro fuel i acc hf hno
    cases fuel with
    | zero => simp at hf
    | succ f =>
      have h0 := hno 0 (by simp)
      simp only [List.drop_zero] at h0
      simp only [searchLast.go, h0, Bool.false_eq_true, if_false]
      exact ih f (i + 1) acc (by simp at hf; omega) (fun j hj => by
        have := hno (j + 1) (by simp; omega)
        simpa using this)

theorem go_last (pat v : Bytes) (hp : pat.isPrefixOf v = true) (hne : v ≠ [])
    (hno : ∀ j, 0 < j → j < v.length → pat.isPrefixOf (v.drop j) = false) :
    ∀ (u : Bytes) (fuel i : Nat) (acc : Option Nat), (u ++ v).length < fuel →
    searchLast.go pat fuel (u ++ v) i acc = some (i + u.length) := by
  intro u
  induction u with
  | nil =>
    intro fuel i acc hf
    cases v with
    | nil => exact absurd rfl hne
    | cons x xs =>
      cases fuel with
      | zero => simp at hf
      | succ f =>
        simp only [List.nil_append, searchLast.go, hp, if_true, List.length_nil, Nat.add_zero]
        exact go_no_occurrence pat xs f (i + 1) (some i) (by simp at hf; omega) (fun j hj => by
          have := hno (j + 1) (by omega) (by simp; omega)
          simpa using this)
  | cons a as ih =>
    intro fuel i acc hf
    cases fuel with
    | zero => simp at hf
    | succ f =>
      simp only [List.cons_append, searchLast.go]
      rw [ih f (i + 1) _ (by simp at hf ⊢; omega)]
      simp only [List.length_cons]; congr 1; omega

theorem searchLast_last (pat pre v : Bytes) (start : Nat) (hs : start ≤ pre.length)
    (hp : pat.isPrefixOf v = true) (hne : v ≠ [])
    (hno : ∀ j, 0 < j → j < v.length → pat.isPrefixOf (v.drop j) = false) :
    searchLast pat (pre ++ v) start = some pre.length := by
  unfold searchLast
  have hd : (pre ++ v).drop start = pre.drop start ++ v := by
    rw [List.drop_append_of_le_length hs]
  simp only [hd]
  rw [go_last pat v hp hne hno (pre.drop start) _ start none (by omega)]
  simp only [List.length_drop]; congr 1; omega

theorem no_later_of_first (p0 : UInt8) (ps v : Bytes) (h : p0 ∉ v.drop 1) :
    ∀ j, 0 < j → j < v.length → (p0 :: ps).isPrefixOf (v.drop j) = false := by
  intro j hj hl
  cases hd : v.drop j with
  | nil => simp [List.isPrefixOf]
  | cons x xs =>
    by_cases hx : p0 = x
    · exfalso; apply h
      have : x ∈ v.drop j := by rw [hd]; simp
      have hsub : v.drop j = (v.drop 1).drop (j - 1) := by
        rw [List.drop_drop]; congr 1; omega
      rw [hsub] at this
      exact hx ▸ List.mem_of_mem_drop this
    · simp [List.isPrefixOf, hx]

/-- what may follow `%%EOF`: nothing or one end-of-line marker -/
inductive IsFileEnd : Bytes → Prop where
  | none : IsFileEnd []
  | lf : IsFileEnd [10]
  | cr : IsFileEnd [13]
  | crlf : IsFileEnd [13, 10]

theorem eof_last (post : Bytes) (h : IsFileEnd post) :
    EOF_MARK.isPrefixOf (EOF_MARK ++ post) = true ∧ EOF_MARK ++ post ≠ [] ∧
    (∀ j, 0 < j → j < (EOF_MARK ++ post).length → EOF_MARK.isPrefixOf ((EOF_MARK ++ post).drop j) = false) ∧
    (115 : UInt8) ∉ EOF_MARK ++ post ∧ (EOF_MARK ++ post).length ≤ 7 := by
  have key : ∀ v : Bytes, (∀ j, j < v.length → 0 < j → EOF_MARK.isPrefixOf (v.drop j) = false) →
      ∀ j, 0 < j → j < v.length → EOF_MARK.isPrefixOf (v.drop j) = false := fun v h j hj hl => h j hl hj
  cases h <;> refine ⟨by decide, by decide, key _ (by decide), by decide, by decide⟩

theorem eol_no_s (e : Bytes) (h : IsEol e) : (115 : UInt8) ∉ e := by cases h <;> decide
theorem sp_no_s (s : Bytes) (h : AllSp s) : (115 : UInt8) ∉ s := by
  intro hm; have := h 115 hm; simp at this
theorem digits_no_s {n : Nat} {ds : Bytes} (h : DerivesNat n ds) : (115 : UInt8) ∉ ds := by
  intro hm; have := (derivesNat_facts h).2.1 115 hm; simp [isDigit] at this

/-- `get_xref_start` on a file `pre ++ sec ++ tail`: `tail` (at most 512 bytes) starts with the last
`%%EOF`, `sec` (at most 25 bytes, lopdf searches `startxref` only that far back) with the last
`startxref`, and `xref_start` reads the offset `n` there -/
theorem getXrefStart_of (pre sec tail : Bytes) (n : Nat)
    (he : EOF_MARK.isPrefixOf tail = true) (hne : tail ≠ [])
    (hno : ∀ j, 0 < j → j < tail.length → EOF_MARK.isPrefixOf (tail.drop j) = false)
    (htail : tail.length ≤ 512)
    (hs : STARTXREF.isPrefixOf (sec ++ tail) = true) (hsne : sec ++ tail ≠ [])
    (hnos : ∀ j, 0 < j → j < (sec ++ tail).length → STARTXREF.isPrefixOf ((sec ++ tail).drop j) = false)
    (hshort : sec.length ≤ 25) (hlong : 25 < (pre ++ sec).length)
    (hparse : pXrefStart (sec ++ tail) = some (Int.ofNat n)) :
    getXrefStart (pre ++ (sec ++ tail)) = some n := by
  have h1 : searchLast EOF_MARK (pre ++ (sec ++ tail))
      ((pre ++ (sec ++ tail)).length - min (pre ++ (sec ++ tail)).length 512) = some (pre ++ sec).length := by
    rw [← List.append_assoc, List.length_append]
    exact searchLast_last EOF_MARK _ _ _ (by omega) he hne hno
  have h2 : searchLast STARTXREF (pre ++ (sec ++ tail)) ((pre ++ sec).length - 25) = some pre.length :=
    searchLast_last STARTXREF pre _ _
      (by rw [List.length_append]; exact Nat.sub_le_of_le_add (Nat.add_le_add_left hshort _)) hs hsne hnos
  have h3 : pXrefStart ((pre ++ (sec ++ tail)).drop pre.length) = some (Int.ofNat n) := by
    rw [List.drop_left]; exact hparse
  unfold getXrefStart
  simp only [h1, Option.bind, hlong, if_true, h2, h3, Option.map]
  simp
  intro hneg; omega

/-- **`get_xref_start`, every spelling of the `startxref` section**: whatever precedes it
(`pre`), with the section at most 25 bytes long before `%%EOF` (lopdf searches `startxref` only
that far back) and more than 25 bytes of file in front of `%%EOF`. -/
theorem getXrefStart_complete (n : Nat) (pre e1 s1 ds s2 e2 post : Bytes) (he1 : IsEol e1) (hs1 : AllSp s1)
    (hd : DerivesNat n ds) (hn : n ≤ I64MAX) (hs2 : AllSp s2) (he2 : IsEol e2) (hpost : IsFileEnd post)
    (hshort : (STARTXREF ++ (e1 ++ (s1 ++ (ds ++ (s2 ++ e2))))).length ≤ 25)
    (hlong : 25 < (pre ++ (STARTXREF ++ (e1 ++ (s1 ++ (ds ++ (s2 ++ e2)))))).length) :
    getXrefStart (pre ++ (STARTXREF ++ (e1 ++ (s1 ++ (ds ++ (s2 ++ (e2 ++ (EOF_MARK ++ post)))))))) = some n := by
  obtain ⟨p1, p2, p3, p4, p5⟩ := eof_last post hpost
  -- the section before `%%EOF`, and the file from `startxref` on
  have eS : STARTXREF ++ (e1 ++ (s1 ++ (ds ++ (s2 ++ (e2 ++ (EOF_MARK ++ post)))))) =
      (STARTXREF ++ (e1 ++ (s1 ++ (ds ++ (s2 ++ e2))))) ++ (EOF_MARK ++ post) := by simp
  -- `startxref` does not occur again: no `s` in what follows its first byte
  have hnoS : (115 : UInt8) ∉ (STARTXREF ++ (e1 ++ (s1 ++ (ds ++ (s2 ++ (e2 ++ (EOF_MARK ++ post))))))).drop 1 := by
    have : (STARTXREF ++ (e1 ++ (s1 ++ (ds ++ (s2 ++ (e2 ++ (EOF_MARK ++ post))))))).drop 1 =
        [116, 97, 114, 116, 120, 114, 101, 102] ++ (e1 ++ (s1 ++ (ds ++ (s2 ++ (e2 ++ (EOF_MARK ++ post)))))) := rfl
    rw [this]
    simp only [List.mem_append, not_or]
    exact ⟨by decide, eol_no_s e1 he1, sp_no_s s1 hs1, digits_no_s hd, sp_no_s s2 hs2, eol_no_s e2 he2,
      by simpa [List.mem_append] using p4⟩
  have hparse := xrefStart_complete n e1 s1 ds s2 e2 post he1 hs1 hd hn hs2 he2
  rw [eS] at hnoS hparse ⊢
  exact getXrefStart_of pre _ _ n p1 p2 p3 (Nat.le_trans p5 (by decide)) rfl (by simp [STARTXREF])
    (no_later_of_first 115 _ _ hnoS) hshort hlong hparse

end Lopdf.Grammar
