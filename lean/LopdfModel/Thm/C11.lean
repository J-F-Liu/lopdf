import LopdfModel.Lemmas.EditKeeps
/-
  C11 — property theorems (editing operations keep the document sound).
  FULL STATEMENT (false of the code, kept visible): after `delete_object id` no reference to `id`
  is left anywhere in the document — an object the traversal does not reach, or one that is itself a bare
  reference, keeps its reference (`hasRef_of_delete`, `noNew_delete` in Thm/C11Dangle).
-/
namespace Lopdf

/-- allocation invariant: `max_id` is at least every object number in use -/
def Inv (d : Doc) : Prop := ∀ k, (d.objects.get k).isSome → k.1 ≤ d.maxId

theorem WF.inv {d : Doc} (h : WF d) : Inv d := h.1

/-- **fresh id**: under the invariant, the id `add_object` / `new_object_id` hands out is not in use -/
theorem fresh_id (d : Doc) (h : Inv d) : d.objects.get (d.maxId + 1, 0) = none := by
  cases hg : d.objects.get (d.maxId + 1, 0) with
  | none => rfl
  | some o => have := h (d.maxId + 1, 0) (by simp [hg]); simp at this; omega

theorem step_add_fresh (d : Doc) (o : Obj) (h : Inv d) (d' : Doc) (i : ObjId)
    (hs : step d (.add o) = .ok (d', .id i)) : d.objects.get i = none ∧ (d'.objects.get i).isSome ∧
      ∀ k, k ≠ i → d'.objects.get k = d.objects.get k := by
  simp only [step] at hs
  split at hs
  · cases hs
  · cases hs
    refine ⟨fresh_id d h, by simp [addObject, Objects.get_insert], ?_⟩
    intro k hk; simp [addObject, Objects.get_insert, Ne.symm hk]

/-- **every modelled editing call preserves well-formedness** (allocation invariant + sorted object map) -/
theorem wf_step (d : Doc) (op : Op) (h : WF d) (d' : Doc) (out : Out)
    (hs : step d op = .ok (d', out)) : WF d' :=
  (Ed.step_keeps d op (d', out) hs).wf h

/-- **C11, invariant over arbitrary programs.** For every finite list of modelled editing calls (any
operations, any arguments, any length) that runs to completion, well-formedness — in particular
`max_id ≥` every object number — holds at the end (induction over the operation list). -/
theorem wf_run (ops : List Op) (d : Doc) (h : WF d) (d' : Doc) (hr : runOps d ops = .ok d') : WF d' :=
  runOps_induction (M := fun _ d => WF d) (fun op _ d d1 out h hs => wf_step d op h d1 out hs) ops d d' h hr

/-- corollary in the property's words: after any program, `max_id ≥` every object number, so the next
allocated id is free -/
theorem fresh_after_run (ops : List Op) (d : Doc) (h : WF d) (d' : Doc) (hr : runOps d ops = .ok d') :
    d'.objects.get (d'.maxId + 1, 0) = none :=
  fresh_id d' (wf_run ops d h d' hr).1

example : WF ⟨[], [((3, 0), .null)], 5, [], []⟩ := by
  refine ⟨?_, by simp [Objects.Sorted, Objects.keys]⟩
  intro k hk
  by_cases e : k = (3, 0)
  · subst e; decide
  · simp [Objects.get, Ne.symm e] at hk

theorem deep_id :
    (∀ o, deepObj idAct o = o) ∧ (∀ es, deepDict idAct es = es) ∧ (∀ items, deepList idAct items = items) := by
  apply deepObj.mutual_induct idAct
    (motive1 := fun o => deepObj idAct o = o)
    (motive2 := fun es => deepDict idAct es = es)
    (motive3 := fun items => deepList idAct items = items)
  · intro o items h ih; rw [deepObj_arr h, ih]; exact h.symm
  · intro o es h ih; rw [deepObj_dict h, ih]; exact h.symm
  · intro o es c h ih; rw [deepObj_stream h, ih]; exact h.symm
  · intro o h1 h2 h3
    rw [deepObj_other (fun i hh => h1 i hh) (fun i hh => h2 i hh) (fun i c hh => h3 i c hh)]; rfl
  · rw [deepDict]
  · intro k v es ih1 ih2; rw [deepDict]; simp [ih1, ih2]
  · rw [deepList]
  · intro x xs ih1 ih2; rw [deepList]; simp [ih1, ih2]

theorem traverse_idAct (tr : Dict) (os : Objects) :
    (traverse idAct tr os).1 = tr ∧ (∀ q, (traverse idAct tr os).2.1.get q = os.get q) ∧
    ∀ q, q ∈ (traverse idAct tr os).2.2 ↔ Reach (refsOfD tr) (fun id => os.get id) q := by
  have hv := traverse_visits_once idAct tr os
  have htr : (traverse idAct tr os).1 = tr := by rw [hv.1, deep_id.2.1]
  have hos : ∀ q, (traverse idAct tr os).2.1.get q = os.get q := by
    intro q; rw [hv.2.2 q]; split
    · cases os.get q <;> simp [deep_id.1]
    · rfl
  refine ⟨htr, hos, fun q => ?_⟩
  rw [traverse_eq_reach, htr, funext hos]

/-- **C11, prune_exact.** `prune_objects` keeps the trailer, keeps every object reachable from the
trailer unchanged and removes every other object — "reachable" being the declarative closure `Reach`
of the document's own graph. -/
theorem prune_exact (d : Doc) :
    (pruneObjects d).1.trailer = d.trailer ∧
    ∀ k, (Reach (refsOfD d.trailer) (fun id => d.objects.get id) k →
            (pruneObjects d).1.objects.get k = d.objects.get k) ∧
         (¬ Reach (refsOfD d.trailer) (fun id => d.objects.get id) k →
            (pruneObjects d).1.objects.get k = none) := by
  obtain ⟨htr, hos, hreach⟩ := traverse_idAct d.trailer d.objects
  refine ⟨htr, fun k => ?_⟩
  simp only [pruneObjects, get_foldl_remove, List.mem_filter, hos, Objects.mem_keys_iff]
  constructor
  · intro hr; simp [hr, hreach]
  · intro hr
    cases hg : d.objects.get k <;> simp [hr, hreach]

/-- what `prune_objects` returns is exactly the list of unreachable keys -/
theorem prune_ids (d : Doc) (k : ObjId) :
    k ∈ (pruneObjects d).2 ↔ (d.objects.get k).isSome ∧ ¬ Reach (refsOfD d.trailer) (fun id => d.objects.get id) k := by
  obtain ⟨_, hos, hreach⟩ := traverse_idAct d.trailer d.objects
  simp [pruneObjects, List.mem_filter, Objects.mem_keys_iff, hos, hreach]

/-- frame lemmas: the calls that are not deletions leave every other object as it was -/
theorem frame_newId (d d' : Doc) (out : Out) (h : step d .newId = .ok (d', out)) :
    d'.objects = d.objects ∧ d'.trailer = d.trailer := by
  simp only [step] at h; split at h
  · cases h
  · cases h; exact ⟨rfl, rfl⟩

theorem frame_set (d d' : Doc) (id : ObjId) (o : Obj) (out : Out) (h : step d (.set id o) = .ok (d', out)) :
    d'.trailer = d.trailer ∧ ∀ k, k ≠ id → d'.objects.get k = d.objects.get k := by
  simp only [step] at h; cases h
  refine ⟨rfl, ?_⟩
  intro k hk; simp [Objects.get_insert, Ne.symm hk]

/-- `delete_object` (since the fix of F-C11-a): the object is gone, direct trailer entries pointing at it are
removed, every unvisited object is untouched, every visited one is rewritten once by the action — which
strips EVERY array occurrence and the direct entries of plain and stream dictionaries -/
theorem delete_effect (d : Doc) (id : ObjId) :
    (deleteObject d id).1.objects.get id = none ∧
    (deleteObject d id).1.trailer = deepDict (delAct id) (stripDict id d.trailer) ∧
    ∀ k, k ≠ id → (deleteObject d id).1.objects.get k =
      if k ∈ (traverse (delAct id) (stripDict id d.trailer) d.objects).2.2 then (d.objects.get k).map (deepObj (delAct id))
      else d.objects.get k := by
  have hv := traverse_visits_once (delAct id) (stripDict id d.trailer) d.objects
  refine ⟨by simp [deleteObject, Objects.get_remove], hv.1, ?_⟩
  intro k hk
  simp only [deleteObject, Objects.get_remove, Ne.symm hk, if_false]
  exact hv.2.2 k

/-- (F-C11-a, trailer position, fixed) a reference held directly in the trailer is removed by `delete_object` -/
theorem delete_strips_trailer_example (os : Objects) :
    (deleteObject ⟨[([73], .ref 5 0)], os, 9, [], []⟩ (5, 0)).1.trailer = [] := by
  rw [(delete_effect _ _).2.1]
  have : stripDict (5, 0) [([73], Obj.ref 5 0)] = [] := by decide
  rw [this, deepDict]

theorem readLoc_writeLoc (os : Objects) (loc : ResLoc) (o v : Obj) (h : readLoc os loc = some o) :
    readLoc (writeLoc os loc v) loc = some v := by
  cases loc with
  | obj id =>
    simp only [readLoc, writeLoc, Objects.get_set] at *
    simp [h]
  | entry t =>
    simp only [readLoc] at h
    split at h
    · rename_i pd hg
      simp only [writeLoc, hg, readLoc, Objects.get_set]
      simp [Dict.get_set]
    · cases h

theorem withEntry_monotone (res sub : Dict) (cat name : Bytes) (v : Obj) :
    (∀ c, c ≠ cat → Dict.get (Dict.set res cat (.dict (Dict.set sub name v))) c = Dict.get res c) ∧
    Dict.get (Dict.set res cat (.dict (Dict.set sub name v))) cat = some (.dict (Dict.set sub name v)) ∧
    (∀ n, n ≠ name → Dict.get (Dict.set sub name v) n = Dict.get sub n) ∧
    Dict.get (Dict.set sub name v) name = some v := by
  refine ⟨?_, by simp [Dict.get_set], ?_, by simp [Dict.get_set]⟩
  · intro c hc; simp [Dict.get_set, Ne.symm hc]
  · intro n hn; simp [Dict.get_set, Ne.symm hn]

theorem subEntry_monotone (res : Dict) (cat name : Bytes) (v : Obj) (sd : Dict)
    (hsd : Dict.get (if Dict.has res cat then res else Dict.set res cat (.dict [])) cat = some (.dict sd)) :
    (∀ c, c ≠ cat → Dict.get (Dict.set (if Dict.has res cat then res else Dict.set res cat (.dict [])) cat
        (.dict (Dict.set sd name v))) c = Dict.get res c) ∧
    ∀ sd0, Dict.get res cat = some (.dict sd0) →
      ∃ sd', Dict.get (Dict.set (if Dict.has res cat then res else Dict.set res cat (.dict [])) cat
        (.dict (Dict.set sd name v))) cat = some (.dict sd') ∧ ∀ n, n ≠ name → Dict.get sd' n = Dict.get sd0 n := by
  by_cases hh : Dict.has res cat = true
  · simp only [hh, if_true] at hsd ⊢
    refine ⟨(withEntry_monotone res sd cat name v).1, fun sd0 h0 => ?_⟩
    rw [hsd] at h0; cases h0
    exact ⟨_, (withEntry_monotone res sd cat name v).2.1, (withEntry_monotone res sd cat name v).2.2.1⟩
  · simp only [hh, Bool.false_eq_true, if_false] at hsd ⊢
    have hnone : Dict.get res cat = none := by simpa [Dict.has_eq] using hh
    refine ⟨fun c hc => ?_, fun sd0 h0 => by rw [hnone] at h0; cases h0⟩
    rw [Dict.get_set_ne _ _ _ _ (Ne.symm hc), Dict.get_set_ne _ _ _ _ (Ne.symm hc)]

/-- **C11, resources_monotone (partial: the resource dictionary the call works on).** If
`get_or_create_resources` locates a resource dictionary `res` for the page, then after
`add_graphics_state` the dictionary at that location keeps every category other than `ExtGState`
unchanged, and an existing `ExtGState` sub-dictionary keeps every name other than the new one. -/
theorem addGraphicsState_monotone_partial (d : Doc) (pg : ObjId) (name : Bytes) (gid : ObjId) (d1 : Doc) (loc : ResLoc)
    (res : Dict) (hg : getOrCreateResources d pg = some (d1, loc)) (hr : readLoc d1.objects loc = some (.dict res)) :
    ∃ res', readLoc (addGraphicsState d pg name gid).1.objects loc = some (.dict res') ∧
      (∀ c, c ≠ kExtGState → Dict.get res' c = Dict.get res c) ∧
      (∀ sd, Dict.get res kExtGState = some (.dict sd) →
        ∃ sd', Dict.get res' kExtGState = some (.dict sd') ∧ ∀ n, n ≠ name → Dict.get sd' n = Dict.get sd n) := by
  unfold addGraphicsState
  simp only [hg, hr]
  split
  · rename_i sd hsd
    obtain ⟨m1, m2⟩ := subEntry_monotone res kExtGState name (.ref gid.1 gid.2) sd hsd
    exact ⟨_, readLoc_writeLoc _ _ _ _ hr, m1, m2⟩
  · exact ⟨res, hr, fun _ _ => rfl, fun sd0 h0 => ⟨sd0, h0, fun _ _ => rfl⟩⟩

/-- the same for `add_xobject` when the `XObject` entry is a direct dictionary or absent (when it is a
reference the sub-dictionary lives in another object and `res` itself is not written) -/
theorem addXObject_monotone_partial (d : Doc) (pg : ObjId) (name : Bytes) (xid : ObjId) (d1 : Doc) (loc : ResLoc)
    (res : Dict) (hg : getOrCreateResources d pg = some (d1, loc)) (hr : readLoc d1.objects loc = some (.dict res))
    (hnr : ∀ n g, Dict.get res kXObject ≠ some (.ref n g)) :
    ∃ res', readLoc (addXObject d pg name xid).1.objects loc = some (.dict res') ∧
      (∀ c, c ≠ kXObject → Dict.get res' c = Dict.get res c) ∧
      (∀ sd, Dict.get res kXObject = some (.dict sd) →
        ∃ sd', Dict.get res' kXObject = some (.dict sd') ∧ ∀ n, n ≠ name → Dict.get sd' n = Dict.get sd n) := by
  unfold addXObject
  simp only [hg, hr]
  split
  · -- the entry the call works on is the one of `res`, or the empty dictionary just created: no reference
    rename_i n g hx
    split at hx
    · exact absurd hx (hnr n g)
    · rw [Dict.get_set_same] at hx; cases hx
  · rename_i sd hsd
    obtain ⟨m1, m2⟩ := subEntry_monotone res kXObject name (.ref xid.1 xid.2) sd hsd
    exact ⟨_, readLoc_writeLoc _ _ _ _ hr, m1, m2⟩
  · exact ⟨res, hr, fun _ _ => rfl, fun sd0 h0 => ⟨sd0, h0, fun _ _ => rfl⟩⟩

/-- (F-C11-e fixed) Page 2 has no own `Resources` and inherits `/Font /F1` from its parent 3: `add_xobject`
gives the page an own `Resources` that starts as a copy of the inherited one, so `Font` stays in effect. -/
def wres : Doc :=
  { trailer := [], maxId := 5, bookmarks := [], bmTable := [],
    objects := [((2,0), .dict [(TYPE, .name PAGE), (PARENT, .ref 3 0)]),
                ((3,0), .dict [(TYPE, .name PAGES), (KIDS, .arr [.ref 2 0]),
                               (kResources, .dict [([70,111,110,116], .dict [([70,49], .ref 5 0)])])]),
                ((5,0), .dict [])] }

theorem inherited_kept_example :
    ((wres.objects.get (2,0)).bind Obj.asDict).bind (fun pd => Dict.get pd kResources) = none ∧
    ((((addXObject wres (2,0) [73,109,49] (5,0)).1.objects.get (2,0)).bind Obj.asDict).bind
        (fun pd => (Dict.get pd kResources).bind Obj.asDict)).map Dict.keys = some [[70,111,110,116], kXObject] := by
  constructor <;> decide

/-- decoding of a stream as `get_page_content` needs it here: no filter, or FlateDecode through the codec -/
def decodeStream (inflate : Bytes → Option Bytes) : Obj → Option Bytes
  | .stream dict content =>
    match Dict.get dict kFilter with
    | none => some content
    | some (.name n) => if n = kFlateDecode then inflate content else none
    | some _ => none
  | _ => none

/-- **C11, content edits.** With a codec satisfying `inflate (deflate x) = x`, the stream that
`change_content_stream` stores (plain, or FlateDecode when that saves more than the margin) decodes to the
new content, and its `Length` is the stored length. `hplain` is the one fact about the dictionary that is
used: after `set_plain_content` no `Filter` key is left (true of every `IndexMap`, i.e. duplicate-free, dictionary). -/
theorem change_content_decodes (inflate : Bytes → Option Bytes) (deflate : Bytes → Bytes)
    (hcodec : ∀ x, inflate (deflate x) = some x) (dict : Dict) (c : Bytes)
    (hplain : Dict.get (Dict.remove (Dict.remove dict kDecodeParms) kFilter) kFilter = none) :
    decodeStream inflate (plainThenCompress (deflate c) dict c) = some c := by
  unfold plainThenCompress
  simp only
  split
  · simp only [decodeStream, Dict.get_set]
    have h1 : ¬ (LENGTHE = kFilter) := by decide
    simp [h1, hcodec]
  · simp only [decodeStream, Dict.get_set]
    have h1 : ¬ (LENGTHE = kFilter) := by decide
    simp [h1, hplain]

theorem change_content_length (deflated : Bytes) (dict : Dict) (c : Bytes) :
    ∃ d' content', plainThenCompress deflated dict c = .stream d' content' ∧
      Dict.get d' LENGTHE = some (.int content'.length) := by
  unfold plainThenCompress
  simp only
  split
  · exact ⟨_, _, rfl, by simp [Dict.get_set]⟩
  · exact ⟨_, _, rfl, by simp [Dict.get_set]⟩

example : Dict.get (Dict.remove (Dict.remove [(kFilter, .name [65]), (LENGTHE, .int 3), (kDecodeParms, .null)] kDecodeParms) kFilter) kFilter = none := by
  decide

end Lopdf

namespace Lopdf.Ed
open Lopdf

/-- **C11, stream `Length` consistency, one step**: every modelled call keeps "each stream's `Length` is the
length of its stored content" — the calls that set content (add_page_contents, change_content_stream,
change_page_content, compress, decompress) establish it for the streams they write. -/
theorem len_step (d : Doc) (op : Op) (h : LenInv d) (hg : opLenGuard op) (d' : Doc) (out : Out)
    (hs : step d op = .ok (d', out)) : LenInv d' :=
  (step_keeps d op (d', out) hs).len hg h

/-- guarded programs: every `add_object` / `set_object` argument is `Length`-consistent -/
def lenGuards : List Op → Prop
  | [] => True
  | op :: rest => opLenGuard op ∧ lenGuards rest

/-- **C11, `Length` consistency over arbitrary programs** -/
theorem len_run (ops : List Op) (d : Doc) (h : LenInv d) (hg : lenGuards ops) (d' : Doc)
    (hr : runOps d ops = .ok d') : LenInv d' :=
  (runOps_induction (M := fun ops d => LenInv d ∧ lenGuards ops)
    (fun op _ d d1 out h hs => ⟨len_step d op h.1 h.2.1 d1 out hs, h.2.2⟩) ops d d' ⟨h, hg⟩ hr).1

example : LenOK (.stream [(LENGTHE, .int 3)] [1, 2, 3]) := by simp [LenOK, Dict.get, DictL.NoDup]

/-- **frame of `Document::compress` / `Document::decompress`**: trailer, `max_id` and the key set are
untouched; every object that is not a stream is returned as it was; a stream is replaced by its
(de)compressed form as C09's `compress` / `decompress` describe it. -/
theorem compress_frame (d : Doc) (f : Bytes → Bytes) (d' : Doc) (out : Out) (hs : step d (.compress f) = .ok (d', out)) :
    d'.trailer = d.trailer ∧ d'.maxId = d.maxId ∧ d'.objects.keys = d.objects.keys ∧
    ∀ k, d'.objects.get k = (d.objects.get k).map (compressObj f (fun _ => true) k) := by
  simp only [step] at hs; cases hs
  rw [docCompress_eq]
  exact ⟨rfl, rfl, Objects.keys_mapVals _ _, Objects.get_mapVals _ _⟩

theorem decompress_frame (d : Doc) (e : Ext) (d' : Doc) (out : Out) (hs : step d (.decompress e) = .ok (d', out)) :
    d'.trailer = d.trailer ∧ d'.maxId = d.maxId ∧ d'.objects.keys = d.objects.keys ∧
    ∀ k, d'.objects.get k = (d.objects.get k).map (decompressObj e) := by
  simp only [step] at hs; cases hs
  rw [docDecompress_eq]
  exact ⟨rfl, rfl, Objects.keys_mapVals _ fun _ => decompressObj e, Objects.get_mapVals _ fun _ => decompressObj e⟩

/-- the object a resource location lives in -/
def locObj : ResLoc → ObjId
  | .obj id => id
  | .entry t => t

theorem readLoc_set_other (os : Objects) (loc : ResLoc) (t : ObjId) (v : Obj) (h : locObj loc ≠ t) :
    readLoc (os.set t v) loc = readLoc os loc := by
  cases loc with
  | obj id => simp only [readLoc, Objects.get_set]; simp [locObj] at h; simp [Ne.symm h]
  | entry p => simp only [readLoc, Objects.get_set]; simp [locObj] at h; simp [Ne.symm h]

/-- **C11, resources_monotone for `add_xobject` when the `XObject` entry is a REFERENCE** (the case the
guard of `addXObject_monotone_partial` excludes): the sub-dictionary lives in another object `t`; if that
object is not the one holding the resource dictionary itself (no aliasing), the resource dictionary is
returned exactly as it was, and in the sub-dictionary every name other than the new one is unchanged. -/
theorem addXObject_ref_monotone_partial (d : Doc) (pg : ObjId) (name : Bytes) (xid : ObjId) (d1 : Doc) (loc : ResLoc)
    (res : Dict) (n g : Nat) (t : ObjId) (xd : Dict)
    (hg : getOrCreateResources d pg = some (d1, loc)) (hr : readLoc d1.objects loc = some (.dict res))
    (hx : Dict.get res kXObject = some (.ref n g)) (ht : objectMutId d1.objects (n, g) = some t)
    (hxd : d1.objects.get t = some (.dict xd)) (hna : locObj loc ≠ t) :
    readLoc (addXObject d pg name xid).1.objects loc = some (.dict res) ∧
    ∃ xd', (addXObject d pg name xid).1.objects.get t = some (.dict xd') ∧
      Dict.get xd' name = some (.ref xid.1 xid.2) ∧ ∀ m, m ≠ name → Dict.get xd' m = Dict.get xd m := by
  have hh : Dict.has res kXObject = true := by simp [Dict.has, hx]
  unfold addXObject
  simp only [hg, hr, hh, if_true, hx, ht, hxd]
  refine ⟨by rw [readLoc_set_other _ _ _ _ hna]; exact hr, Dict.set xd name (.ref xid.1 xid.2), by simp [Objects.get_set, hxd], ?_, ?_⟩
  · simp [Dict.get_set]
  · intro m hm; simp [Dict.get_set, Ne.symm hm]

/-- without the no-aliasing hypothesis the statement is false: a resource dictionary (object 7) whose
`XObject` entry refers back to itself loses its `Font` category when an XObject NAMED `Font` is added -/
def walias : Doc :=
  { trailer := [], maxId := 7, bookmarks := [], bmTable := [],
    objects := [((2,0), .dict [(TYPE, .name PAGE), (kResources, .ref 7 0)]),
                ((7,0), .dict [([70,111,110,116], .dict [([70,49], .ref 5 0)]), (kXObject, .ref 7 0)])] }

theorem xobject_alias_witness :
    (((walias.objects.get (7,0)).bind Obj.asDict).bind (fun r => Dict.get r [70,111,110,116])).bind Obj.asDict ≠ none ∧
    ((((addXObject walias (2,0) [70,111,110,116] (5,0)).1.objects.get (7,0)).bind Obj.asDict).bind
        (fun r => Dict.get r [70,111,110,116])).bind Obj.asDict = none := by
  constructor <;> decide

end Lopdf.Ed
