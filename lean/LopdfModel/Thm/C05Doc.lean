import LopdfModel.Thm.C05
import LopdfModel.Thm.C12
/-
  C05 — document level: `Document::decrypt_raw` after `Document::encrypt` restores the document,
  through `EncryptionState::encode`, the Encrypt entry bookkeeping, `PasswordAlgorithm::try_from`,
  authentication, `EncryptionState::decode` and the object walks.
-/
set_option linter.unusedSectionVars false
set_option linter.unusedSimpArgs false
namespace Lopdf.Crypt
open Lopdf Lopdf.Gen

/-! ## `encode` then `try_from(&Document)` / `decode` reads back the state -/

def algOf (st : EncState) : Alg :=
  { encryptMetadata := st.encryptMetadata, length := st.keyLength, version := st.version, revision := st.revision,
    ownerValue := st.ownerValue, ownerEncrypted := st.ownerEncrypted, userValue := st.userValue,
    userEncrypted := st.userEncrypted, permissions := st.permissions, permsEncrypted := st.permsEncrypted }

theorem pValue_lt (p : Nat) (h : p &&& PERM_ALL = p) : pValue p < 2 ^ 64 := by
  have : p ≤ PERM_ALL := h ▸ Nat.and_le_right
  exact Nat.or_lt_two_pow (Nat.lt_of_le_of_lt this (by decide)) (by decide)

theorem pAsI64_mod (x : Nat) (h : x < 2 ^ 64) : (pAsI64 x % (2 ^ 64 : Int)).toNat = x := by
  have e : pAsI64 x % (2 ^ 64 : Int) = (x : Int) % (2 ^ 64 : Int) := by
    unfold pAsI64; split
    · exact Int.sub_emod_right _ _
    · rfl
  rw [e, Int.emod_eq_of_lt (Int.natCast_nonneg x) (by exact_mod_cast h), Int.toNat_natCast]

theorem perms_readback (p : Nat) (h : p &&& PERM_ALL = p) :
    permsTruncate ((pAsI64 (pValue p)) % (2 ^ 64 : Int)).toNat = p := by
  rw [pAsI64_mod _ (pValue_lt p h), permsTruncate_pValue p h]

/-- the states `EncryptionState::try_from(EncryptionVersion)` produces -/
structure StateOK (st : EncState) : Prop where
  shape : (st.version = 1 ∧ st.revision = 2 ∧ st.keyLength = none) ∨
          (st.version = 2 ∧ st.revision = 3 ∧ ∃ l, st.keyLength = some l ∧ l % 8 = 0 ∧ 40 ≤ l ∧ l ≤ 128) ∨
          (st.version = 4 ∧ st.revision = 4 ∧ st.keyLength = some 128) ∨
          (st.version = 5 ∧ (st.revision = 5 ∨ st.revision = 6) ∧ st.keyLength = none)
  em : st.version < 4 → st.encryptMetadata = true
  lens4 : st.revision ≤ 4 → st.ownerValue.length = 32 ∧ st.userValue.length = 32 ∧
            st.ownerEncrypted = [] ∧ st.userEncrypted = [] ∧ st.permsEncrypted = []
  lens6 : st.revision ≥ 5 → st.ownerValue.length = 48 ∧ st.userValue.length = 48 ∧
            st.ownerEncrypted.length = 32 ∧ st.userEncrypted.length = 32 ∧ st.permsEncrypted.length = 16
  perms : st.permissions &&& PERM_ALL = st.permissions
  nofilters : st.version < 4 → st.cryptFilters = [] ∧ st.stmF = [] ∧ st.strF = []
  nodup : (st.cryptFilters.map (·.1)).Nodup

/-- `Dictionary::set` of an entry that is only written when it has a value -/
def setOpt (d : Dict) (f : Bytes × Option Obj) : Dict :=
  match f.2 with
  | some v => d.set f.1 v
  | none => d

theorem setOpt_ite (d : Dict) (k : Bytes) (c : Prop) [Decidable c] (v : Obj) :
    setOpt d (k, if c then some v else none) = if c then d.set k v else d := by
  split <;> rfl

theorem setOpt_ite3 (d : Dict) (c : Prop) [Decidable c] (k₁ k₂ k₃ : Bytes) (v₁ v₂ v₃ : Obj) :
    setOpt (setOpt (setOpt d (k₁, if c then some v₁ else none)) (k₂, if c then some v₂ else none))
      (k₃, if c then some v₃ else none) = if c then ((d.set k₁ v₁).set k₂ v₂).set k₃ v₃ else d := by
  split <;> rfl

theorem get_foldl_setOpt (fs : List (Bytes × Option Obj)) (hn : (fs.map (·.1)).Nodup) (d : Dict) (k : Bytes) :
    (fs.foldl setOpt d).get k = ((fs.lookup k).join).or (d.get k) := by
  induction fs generalizing d with
  | nil => simp
  | cons f fs ih =>
    obtain ⟨k', ov⟩ := f
    obtain ⟨hk, hn⟩ := List.nodup_cons.mp hn
    rw [List.foldl_cons, ih hn, List.lookup_cons]
    by_cases e : k = k'
    · subst e
      have : fs.lookup k = none := List.lookup_eq_none_iff.mpr fun p hp =>
        bne_iff_ne.mpr fun e => hk (e ▸ List.mem_map_of_mem (f := (·.1)) hp)
      cases ov <;> simp [this, setOpt, Dict.get_set]
    · have e' : (k == k') = false := by simpa using e
      cases ov <;> simp [e', setOpt, Dict.get_set, Ne.symm e]

/-- the entries `EncryptionState::encode` writes, in its order; `none`: not written for this state -/
def encodeFields (st : EncState) : List (Bytes × Option Obj) :=
  [(K_FILTER, some (.name K_STANDARD)), (K_V, some (.int st.version)), (K_R, some (.int st.revision)),
   (K_LENGTH, st.keyLength.map fun (l : Nat) => Obj.int l),
   (K_ENCRYPTMETADATA, if st.version ≥ 4 then some (.bool st.encryptMetadata) else none),
   (K_O, some (.str st.ownerValue .lit)), (K_U, some (.str st.userValue .lit)),
   (K_P, some (.int (pAsI64 (pValue st.permissions)))),
   (K_CF, if st.revision ≥ 4 then some (.dict (cfDict st.cryptFilters)) else none),
   (K_STMF, if st.revision ≥ 4 then some (.name st.stmF) else none),
   (K_STRF, if st.revision ≥ 4 then some (.name st.strF) else none),
   (K_OE, if st.revision ≥ 5 then some (.str st.ownerEncrypted .lit) else none),
   (K_UE, if st.revision ≥ 5 then some (.str st.userEncrypted .lit) else none),
   (K_PERMS, if st.revision ≥ 5 then some (.str st.permsEncrypted .lit) else none)]

theorem encode_eq (st : EncState) : st.encode = (encodeFields st).foldl setOpt [] := by
  unfold EncState.encode encodeFields
  simp only [List.foldl]
  rw [setOpt_ite3, setOpt_ite3, setOpt_ite]
  cases st.keyLength <;> rfl

theorem get_encode (st : EncState) (k : Bytes) : st.encode.get k = ((encodeFields st).lookup k).join := by
  have hn : ((encodeFields st).map (·.1)).Nodup := by simp only [encodeFields, List.map]; decide
  rw [encode_eq, get_foldl_setOpt _ hn]; simp

section fields
variable (st : EncState)
@[simp] theorem encode_FILTER : st.encode.get K_FILTER = some (.name K_STANDARD) := get_encode st _
@[simp] theorem encode_V : st.encode.get K_V = some (.int st.version) := get_encode st _
@[simp] theorem encode_R : st.encode.get K_R = some (.int st.revision) := get_encode st _
@[simp] theorem encode_LENGTH : st.encode.get K_LENGTH = st.keyLength.map fun (l : Nat) => Obj.int l := get_encode st _
@[simp] theorem encode_EM : st.encode.get K_ENCRYPTMETADATA =
    if st.version ≥ 4 then some (.bool st.encryptMetadata) else none := get_encode st _
@[simp] theorem encode_O : st.encode.get K_O = some (.str st.ownerValue .lit) := get_encode st _
@[simp] theorem encode_U : st.encode.get K_U = some (.str st.userValue .lit) := get_encode st _
@[simp] theorem encode_P : st.encode.get K_P = some (.int (pAsI64 (pValue st.permissions))) := get_encode st _
@[simp] theorem encode_CF : st.encode.get K_CF =
    if st.revision ≥ 4 then some (.dict (cfDict st.cryptFilters)) else none := get_encode st _
@[simp] theorem encode_STMF : st.encode.get K_STMF = if st.revision ≥ 4 then some (.name st.stmF) else none :=
  get_encode st _
@[simp] theorem encode_STRF : st.encode.get K_STRF = if st.revision ≥ 4 then some (.name st.strF) else none :=
  get_encode st _
@[simp] theorem encode_OE : st.encode.get K_OE = if st.revision ≥ 5 then some (.str st.ownerEncrypted .lit) else none :=
  get_encode st _
@[simp] theorem encode_UE : st.encode.get K_UE = if st.revision ≥ 5 then some (.str st.userEncrypted .lit) else none :=
  get_encode st _
@[simp] theorem encode_PERMS : st.encode.get K_PERMS =
    if st.revision ≥ 5 then some (.str st.permsEncrypted .lit) else none := get_encode st _
end fields

theorem algOfDict_encode (st : EncState) (h : StateOK st) : algOfDict st.encode = .ok (algOf st) := by
  obtain ⟨shape, hem, l4, l6, hp, _, _⟩ := h
  have hpr := perms_readback st.permissions hp
  simp only [Int.reducePow] at hpr
  have e : LENGTH_IGNORED_V = 5 ∧ LENGTH_DEFAULT_V = 4 ∧ LENGTH_DEFAULT_BITS = 128 := ⟨rfl, rfl, rfl⟩
  -- the five (V, R, Length) combinations `try_from` produces: each passes every check of `try_from(&Document)`
  rcases shape with ⟨hv, hr, hk⟩ | ⟨hv, hr, l, hk, hl8, h40, h128⟩ | ⟨hv, hr, hk⟩ | ⟨hv, hr | hr, hk⟩
  · obtain ⟨h1, h2, h3, h4, h5⟩ := l4 (by rw [hr]; decide)
    simp [algOfDict, Obj.asInt, Obj.asStr, e, algOf, hpr, hv, hr, hk, h1, h2, h3, h4, h5, hem (by rw [hv]; decide)]
  · obtain ⟨h1, h2, h3, h4, h5⟩ := l4 (by rw [hr]; decide)
    simp [algOfDict, Obj.asInt, Obj.asStr, e, algOf, hpr, hv, hr, hk, h1, h2, h3, h4, h5, hem (by rw [hv]; decide),
      hl8, h40, h128]
  · obtain ⟨h1, h2, h3, h4, h5⟩ := l4 (by rw [hr]; decide)
    simp [algOfDict, Obj.asInt, Obj.asStr, e, algOf, hpr, hv, hr, hk, h1, h2, h3, h4, h5]
  · obtain ⟨h1, h2, h3, h4, h5⟩ := l6 (by rw [hr]; decide)
    simp [algOfDict, Obj.asInt, Obj.asStr, e, algOf, hpr, hv, hr, hk, h1, h2, h3, h4, h5]
  · obtain ⟨h1, h2, h3, h4, h5⟩ := l6 (by rw [hr]; decide)
    simp [algOfDict, Obj.asInt, Obj.asStr, e, algOf, hpr, hv, hr, hk, h1, h2, h3, h4, h5]

/-! crypt filters: `encode` writes CF from the (name-sorted, duplicate-free) map, `get_crypt_filters` reads it back -/

def cfEntry (nf : Bytes × CF) : Bytes × Obj :=
  (nf.1, .dict [(K_TYPE, .name K_CRYPTFILTER), (K_CFM, .name nf.2.method)])

theorem foldl_set_new (fs : List (Bytes × CF)) (acc : Dict)
    (h : (acc.map (·.1) ++ fs.map (·.1)).Nodup) :
    fs.foldl (fun d (nf : Bytes × CF) => Dict.set d nf.1 (cfEntry nf).2) acc = acc ++ fs.map cfEntry := by
  induction fs generalizing acc with
  | nil => simp
  | cons nf rest ih =>
    have hn : nf.1 ∉ Dict.keys acc := fun hm => (List.nodup_append.mp h).2.2 _ hm _ (by simp) rfl
    rw [List.foldl_cons, Dict.set_of_not_mem _ hn, ih]
    · simp [cfEntry]
    · simpa using h

theorem cfDict_eq (fs : List (Bytes × CF)) (h : (fs.map (·.1)).Nodup) : cfDict fs = fs.map cfEntry := by
  simpa [cfDict, cfEntry] using foldl_set_new fs [] (by simpa using h)

theorem cfOfMethod_method (f : CF) : cfOfMethod (some f.method) = some f := by
  cases f <;> decide

theorem readback_cfEntries (fs : List (Bytes × CF)) :
    (fs.map cfEntry).filterMap (fun (nf : Bytes × Obj) =>
      match nf.2.asDict with
      | none => none
      | some f =>
        if (Dict.get f K_TYPE).isSome && !hasType f K_CRYPTFILTER then none
        else (cfOfMethod ((Dict.get f K_CFM).bind Obj.asName)).map (fun c => (nf.1, c))) = fs := by
  induction fs with
  | nil => rfl
  | cons nf rest ih =>
    have e1 : K_TYPE ≠ K_CFM := by decide
    simp [cfEntry, Obj.asDict, Dict.get, hasType, Obj.asName, e1, cfOfMethod_method] at ih ⊢
    exact ih

theorem getCryptFilters_of (enc : Dict) (fs : List (Bytes × CF)) (hn : (fs.map (·.1)).Nodup)
    (h : Dict.get enc K_CF = some (.dict (cfDict fs))) : getCryptFilters enc = fs := by
  unfold getCryptFilters
  rw [h]
  simp only [Option.bind_some, Obj.asDict, cfDict_eq fs hn]
  exact readback_cfEntries fs

theorem names_encode (st : EncState) (h : StateOK st) :
    (if st.version < 4 then [] else getCryptFilters st.encode) = st.cryptFilters ∧
    (if (st.version = 4 || st.version = 5) then ((Dict.get st.encode K_STMF).bind Obj.asName).getD [] else []) = st.stmF ∧
    (if (st.version = 4 || st.version = 5) then ((Dict.get st.encode K_STRF).bind Obj.asName).getD [] else []) = st.strF := by
  by_cases hv : st.version < 4
  · -- no names before V4: nothing is written, nothing is read
    obtain ⟨f1, f2, f3⟩ := h.nofilters hv
    have h4 : st.version ≠ 4 := by omega
    have h5 : st.version ≠ 5 := by omega
    simp [hv, h4, h5, f1, f2, f3]
  · have hvr : (st.version = 4 ∨ st.version = 5) ∧ st.revision ≥ 4 := by
      rcases h.shape with s | s | s | s <;> omega
    refine ⟨?_, ?_, ?_⟩
    · rw [if_neg hv]
      exact getCryptFilters_of _ _ h.nodup (by rw [encode_CF, if_pos hvr.2])
    · simp [hvr.1, encode_STMF, hvr.2, Obj.asName]
    · simp [hvr.1, encode_STRF, hvr.2, Obj.asName]

/-- `EncryptionState::decode` on the dictionary `encode` wrote returns the state itself, with the
file key the password yields -/
theorem decodeState_encode (P : Prims) (st : EncState) (h : StateOK st) (fid pw k : Bytes)
    (hk : (algOf st).fileKey P fid pw = .ok k) :
    decodeState P st.encode fid pw = .ok { st with fileKey := k } := by
  obtain ⟨n1, n2, n3⟩ := names_encode st h
  have ha := algOfDict_encode st h
  obtain ⟨version, revision, keyLength, em, cfs, fileKey, stmF, strF, o, oe, u, ue, perms, pe⟩ := st
  simp only [algOf] at hk ha n1 n2 n3
  unfold decodeState
  simp only [ha, hk, n1, n2, n3]

theorem filterName_encode (st : EncState) :
    (Dict.get st.encode K_FILTER).bind Obj.asName = some K_STANDARD := by
  rw [encode_FILTER]; rfl

/-! ## The Encrypt entry bookkeeping of `Document::encrypt` / `decrypt_raw` -/

theorem idxOf_append_new (d : Dict) (k : Bytes) (v : Obj) (h : k ∉ Dict.keys d) :
    Dict.idxOf (d ++ [(k, v)]) k = some d.length := by
  induction d with
  | nil => simp [Dict.idxOf]
  | cons e rest ih =>
    simp only [Dict.keys, List.map_cons, List.mem_cons, not_or] at h
    simp [Dict.idxOf, Ne.symm h.1, ih h.2]

/-- `trailer.set("Encrypt", …)` followed by `trailer.remove("Encrypt")` (swap_remove of the entry that
was appended last) gives back the trailer -/
theorem remove_set_new (d : Dict) (k : Bytes) (v : Obj) (h : Dict.get d k = none) :
    Dict.remove (Dict.set d k v) k = d := by
  have hn := (Dict.get_eq_none_iff d k).mp h
  rw [Dict.set_of_not_mem v hn]
  simp [Dict.remove, idxOf_append_new d k v hn]

theorem get_insert (os : Objects) (id id' : ObjId) (x : Obj) :
    Objects.get (Objects.insert os id x) id' = if id = id' then some x else Objects.get os id' := by
  induction os with
  | nil => rfl
  | cons e rest ih =>
    obtain ⟨i, o⟩ := e
    unfold Objects.insert
    split
    · rename_i hi; subst hi; by_cases h : i = id' <;> simp [Objects.get, h]
    · split
      · rfl
      · rename_i hi _
        by_cases h : i = id'
        · simp only [Objects.get, h, if_true, if_neg (fun e : id = id' => hi (h.trans e.symm))]
        · simp only [Objects.get, h, if_false, ih]

theorem erase_insert (os : Objects) (id : ObjId) (x : Obj) (h : ∀ e ∈ os, e.1 ≠ id) :
    Objects.erase (Objects.insert os id x) id = os := by
  induction os with
  | nil => simp [Objects.insert, Objects.erase]
  | cons e rest ih =>
    obtain ⟨i, o⟩ := e
    have hi : i ≠ id := h (i, o) (by simp)
    have hrest : ∀ e ∈ rest, e.1 ≠ id := fun e he => h e (by simp [he])
    have hr := ih hrest
    have hfil : List.filter (fun e : ObjId × Obj => !decide (e.1 = id)) rest = rest := by
      apply List.filter_eq_self.mpr; intro e he; simp [hrest e he]
    unfold Objects.insert
    simp only [hi, ↓reduceIte]
    split
    · simp [Objects.erase, hi, hfil]
    · simp [Objects.erase] at hr ⊢
      simp [List.filter_cons, hi, hr]

theorem decObjects_ids (P : Prims) (st : EncState) (skip : Option ObjId) (os r : Objects)
    (h : decObjects P st skip os = .ok r) : r.map (·.1) = os.map (·.1) := by
  induction os generalizing r with
  | nil => simp [decObjects] at h; subst h; rfl
  | cons e rest ih =>
    obtain ⟨i, o⟩ := e
    simp only [decObjects] at h
    split at h
    · cases h
    · split at h
      · cases h
      · rename_i rest' hr
        injection h with h; subst h
        simp [ih _ hr]

theorem decObjects_insert (P : Prims) (st : EncState) (id : ObjId) (x : Obj) (os r : Objects)
    (hf : ∀ e ∈ os, e.1 ≠ id) (h : decObjects P st (some id) os = .ok r) :
    decObjects P st (some id) (Objects.insert os id x) = .ok (Objects.insert r id x) := by
  induction os generalizing r with
  | nil => simp [decObjects] at h; subst h; simp [Objects.insert, decObjects]
  | cons e rest ih =>
    obtain ⟨i, o⟩ := e
    have hi : i ≠ id := hf (i, o) (by simp)
    have hi' : ¬ (some i = some id) := by simpa using hi
    simp only [decObjects, hi', ↓reduceIte] at h
    split at h
    · cases h
    · rename_i o' ho
      split at h
      · cases h
      · rename_i rest' hr
        injection h with h; subst h
        have ihr := ih rest' (fun e he => hf e (by simp [he])) hr
        unfold Objects.insert
        simp only [hi, ↓reduceIte]
        split
        · simp [decObjects, hi', ho, hr]
        · simp [decObjects, hi', ho, ihr]

/-! ### object streams: `decrypt_raw` re-expands them after decrypting -/

mutual
theorem normLen_strip (st : EncState) (o : Obj) : strip (normLen st o) = strip o := by
  match o with
  | .arr items => simp [normLen, strip, normLenList_strip st items]
  | .dict es =>
    simp only [normLen]
    split
    · rfl
    · simp [strip, normLenDict_strip st es]
  | .stream d c =>
    simp only [normLen]
    split
    · rfl
    · split
      · simp [strip, normLenDict_strip st d]
      · simp [setContent, strip, stripDict_set, Dict.set_set, normLenDict_strip st d]
  | .null | .bool _ | .int _ | .real _ | .name _ | .ref _ _ | .str _ _ => simp [normLen]
theorem normLenList_strip (st : EncState) (os : List Obj) : stripList (normLenList st os) = stripList os := by
  match os with
  | [] => rfl
  | o :: rest => simp [normLenList, stripList, normLen_strip st o, normLenList_strip st rest]
theorem normLenDict_strip (st : EncState) (es : List (Bytes × Obj)) : stripDict (normLenDict st es) = stripDict es := by
  match es with
  | [] => rfl
  | (k, o) :: rest => simp [normLenDict, stripDict, normLen_strip st o, normLenDict_strip st rest]
end

theorem isObjStm_strip (o : Obj) : isObjStmStream (strip o) = isObjStmStream o := by
  cases o <;> simp [strip, isObjStmStream, hasType_setLength, hasType_strip]

theorem isObjStm_normLen (st : EncState) (o : Obj) : isObjStmStream (normLen st o) = isObjStmStream o := by
  rw [← isObjStm_strip, normLen_strip, isObjStm_strip]

theorem objStmExtras_cons_other (i : ObjId) (o : Obj) (rest : Objects) (h : isObjStmStream o = false) :
    objStmExtras ((i, o) :: rest) = objStmExtras rest := by
  cases hr : objStmExtras rest with
  | none => simp only [objStmExtras, hr]
  | some tail =>
    cases o with
    | stream d c =>
      have hd : hasType d OBJSTM = false := h
      simp only [objStmExtras, hr, hd, Bool.false_eq_true, if_false]
    | _ => simp only [objStmExtras, hr]

theorem extras_nil (os : Objects) (h : ∀ e ∈ os, isObjStmStream e.2 = false) : objStmExtras os = some [] := by
  induction os with
  | nil => rfl
  | cons e rest ih =>
    rw [objStmExtras_cons_other e.1 e.2 rest (h e List.mem_cons_self)]
    exact ih fun e he => h e (List.mem_cons_of_mem _ he)

theorem mem_insert (os : Objects) (id : ObjId) (x : Obj) (e : ObjId × Obj) (h : e ∈ Objects.insert os id x) :
    e = (id, x) ∨ e ∈ os := by
  induction os with
  | nil => exact Or.inl (List.mem_singleton.mp h)
  | cons e' rest ih =>
    obtain ⟨i, o⟩ := e'
    unfold Objects.insert at h
    split at h
    · exact (List.mem_cons.mp h).imp_right (List.mem_cons_of_mem _)
    · split at h
      · exact List.mem_cons.mp h
      · rcases List.mem_cons.mp h with h | h
        · exact Or.inr (h ▸ List.mem_cons_self)
        · exact (ih h).imp_right (List.mem_cons_of_mem _)

/-- **members of object streams never replace or remove an existing object**: whatever the containers
hold, every object that was there before the re-expansion is there afterwards, unchanged -/
theorem orInsertAll_keeps (os : Objects) (extras : List (ObjId × Obj)) (id : ObjId) (o : Obj)
    (h : Objects.get os id = some o) : Objects.get (orInsertAll os extras) id = some o := by
  induction extras generalizing os with
  | nil => exact h
  | cons e rest ih =>
    obtain ⟨i, x⟩ := e
    simp only [orInsertAll]
    apply ih
    split
    · exact h
    · rename_i hnone
      have hne : id ≠ i := by
        intro e; subst e; simp [h] at hnone
      rw [get_insert, if_neg (Ne.symm hne)]; exact h

/-! ## the document-level round trip, for any password that authenticates and yields the file key -/

/-- the document `decrypt_raw` must give back: every object up to `normLen` (Length of processed
streams), the trailer as it was, `max_id` one higher (the Encrypt object's number stays used) -/
def restored (st : EncState) (d : Doc) : Doc :=
  { trailer := d.trailer, objects := d.objects.map (fun e => (e.1, normLen st e.2)), maxId := d.maxId + 1 }

theorem fileId_set (d : Doc) (v : Obj) :
    ({ trailer := Dict.set d.trailer K_ENCRYPT v, objects := d.objects, maxId := d.maxId } : Doc).fileId = d.fileId := by
  simp only [Doc.fileId, Dict.get_set_ne d.trailer K_ENCRYPT K_ID v (by decide)]

/-- `decrypt_raw` after `encrypt`, up to the point where the object streams are re-expanded: the trailer
is the old one and the decryption loop has restored every object (the Encrypt dictionary, skipped by the
loop, is still among them) -/
theorem decryptRaw_encrypt (P : Prims) (d enc : Doc) (st : EncState) (ivs : IVs) (pw : Bytes)
    (hk : ∀ key, BlockOK P key) (hiv : ∀ n, (ivs n).length = 16)
    (hst : StateOK st)
    (htr : Dict.get d.trailer K_ENCRYPT = none)
    (hfresh : ∀ e ∈ d.objects, e.1 ≠ (d.maxId + 1, 0))
    (hfid : st.revision ≤ 4 → d.fileId.isSome = true)
    (henc : d.encrypt P st ivs = .ok enc)
    (hauth : (algOf st).authAny P (d.fileId.getD []) pw = .ok ())
    (hkey : (algOf st).fileKey P (d.fileId.getD []) pw = .ok st.fileKey) :
    enc.decryptRaw P pw =
      match objStmExtras (Objects.insert (d.objects.map (fun e => (e.1, normLen st e.2))) (d.maxId + 1, 0)
          (.dict st.encode)) with
      | none => .error (.other "ext")
      | some extras =>
        .ok { trailer := d.trailer,
              objects := Objects.erase (orInsertAll (Objects.insert (d.objects.map (fun e => (e.1, normLen st e.2)))
                (d.maxId + 1, 0) (.dict st.encode)) extras) (d.maxId + 1, 0),
              maxId := d.maxId + 1 } := by
  unfold Doc.encrypt at henc
  split at henc
  · cases henc
  · split at henc
    · cases henc
    · rename_i os k' hobj
      injection henc with henc
      have hfid' : enc.fileId = d.fileId := by
        rw [← henc]; exact fileId_set d _
      have htrget : Dict.get enc.trailer K_ENCRYPT = some (.ref (d.maxId + 1) 0) := by
        rw [← henc]; exact Dict.get_set_same _ _ _
      have hget : enc.getEncrypted = some st.encode := by
        simp only [Doc.getEncrypted, htrget, Obj.asRef, Option.bind_some]
        exact getDictionary_of_get (by rw [← henc]; exact (get_insert _ _ _ _).trans (if_pos rfl))
      have hids : os.map (·.1) = d.objects.map (·.1) := encObjects_ids P st ivs d.objects 0 _ hobj
      have hfresh' : ∀ e ∈ os, e.1 ≠ (d.maxId + 1, 0) := by
        intro e he habs
        have : e.1 ∈ d.objects.map (·.1) := hids ▸ List.mem_map_of_mem he
        obtain ⟨e', he', hee⟩ := List.mem_map.mp this
        exact hfresh e' he' (hee.trans habs)
      have hdec := decObjects_insert P st (d.maxId + 1, 0) (.dict st.encode) os _ hfresh'
        (objects_rt P st ivs hk hiv (some (d.maxId + 1, 0)) d.objects 0 _ hobj
          fun e he habs => hfresh e he (Option.some.inj habs))
      have hmiss : (decide ((algOf st).revision ≤ 4) && d.fileId.isNone) = false := by
        by_cases h4 : st.revision ≤ 4
        · obtain ⟨fid, hd⟩ := Option.isSome_iff_exists.mp (hfid h4)
          simp [hd]
        · simp [algOf, h4]
      simp only [Doc.decryptRaw, hget, htrget, Obj.asRef, Option.bind_some, hfid', algOfDict_encode st hst,
        filterName_encode, hauth, decodeState_encode P st hst _ pw st.fileKey hkey, hmiss]
      rw [← henc]
      simp only [hdec, remove_set_new d.trailer K_ENCRYPT _ htr]
      rfl

theorem doc_rt (P : Prims) (d enc : Doc) (st : EncState) (ivs : IVs) (pw : Bytes)
    (hk : ∀ key, BlockOK P key) (hiv : ∀ n, (ivs n).length = 16)
    (hst : StateOK st)
    (htr : Dict.get d.trailer K_ENCRYPT = none)
    (hfresh : ∀ e ∈ d.objects, e.1 ≠ (d.maxId + 1, 0))
    (hfid : st.revision ≤ 4 → d.fileId.isSome = true)
    (hnos : ∀ e ∈ d.objects, isObjStmStream e.2 = false)
    (henc : d.encrypt P st ivs = .ok enc)
    (hauth : (algOf st).authAny P (d.fileId.getD []) pw = .ok ())
    (hkey : (algOf st).fileKey P (d.fileId.getD []) pw = .ok st.fileKey) :
    enc.decryptRaw P pw = .ok (restored st d) := by
  rw [decryptRaw_encrypt P d enc st ivs pw hk hiv hst htr hfresh hfid henc hauth hkey]
  have hex : objStmExtras (Objects.insert (List.map (fun e => (e.1, normLen st e.2)) d.objects) (d.maxId + 1, 0)
      (.dict st.encode)) = some [] := by
    apply extras_nil
    intro e he
    rcases mem_insert _ _ _ _ he with h | h
    · rw [h]; rfl
    · obtain ⟨e', he', hee⟩ := List.mem_map.mp h
      rw [← hee]; simp only [isObjStm_normLen]; exact hnos e' he'
  have hmap : ∀ e ∈ d.objects.map (fun e => (e.1, normLen st e.2)), e.1 ≠ (d.maxId + 1, 0) := by
    intro e he
    obtain ⟨e', he', hee⟩ := List.mem_map.mp he
    rw [← hee]; exact hfresh e' he'
  simp only [hex, orInsertAll, erase_insert _ _ _ hmap, restored]

theorem get_erase_ne (os : Objects) (id id' : ObjId) (h : id' ≠ id) :
    Objects.get (Objects.erase os id) id' = Objects.get os id' := by
  induction os with
  | nil => rfl
  | cons e rest ih =>
    obtain ⟨i, o⟩ := e
    simp [Objects.erase] at ih ⊢
    by_cases hi : i = id
    · subst hi
      have : ¬ (i = id') := fun e => h e.symm
      simp [List.filter_cons, Objects.get, this, ih]
    · by_cases hi' : i = id'
      · subst hi'; simp [List.filter_cons, hi, Objects.get]
      · simp [List.filter_cons, hi, Objects.get, hi', ih]

/-- **doc_rt for documents with object streams.**  Without the "no ObjStm" hypothesis: whatever the
(decrypted) object streams hold, `decrypt_raw` after `encrypt` still gives back EVERY original object
(up to `normLen`), the trailer, and removes the encryption dictionary; the members of the object
streams are only added under ids that were absent (`or_insert`). -/
theorem doc_rt_objstm (P : Prims) (d enc : Doc) (st : EncState) (ivs : IVs) (pw : Bytes)
    (hk : ∀ key, BlockOK P key) (hiv : ∀ n, (ivs n).length = 16)
    (hst : StateOK st)
    (htr : Dict.get d.trailer K_ENCRYPT = none)
    (hfresh : ∀ e ∈ d.objects, e.1 ≠ (d.maxId + 1, 0))
    (hnodup : (d.objects.map (·.1)).Nodup)
    (hfid : st.revision ≤ 4 → d.fileId.isSome = true)
    (henc : d.encrypt P st ivs = .ok enc)
    (hauth : (algOf st).authAny P (d.fileId.getD []) pw = .ok ())
    (hkey : (algOf st).fileKey P (d.fileId.getD []) pw = .ok st.fileKey)
    (extras : List (ObjId × Obj))
    (hex : objStmExtras (Objects.insert (d.objects.map (fun e => (e.1, normLen st e.2))) (d.maxId + 1, 0)
             (.dict st.encode)) = some extras) :
    ∃ d', enc.decryptRaw P pw = .ok d' ∧ d'.trailer = d.trailer ∧
      ∀ e ∈ d.objects, Objects.get d'.objects e.1 = some (normLen st e.2) := by
  rw [decryptRaw_encrypt P d enc st ivs pw hk hiv hst htr hfresh hfid henc hauth hkey, hex]
  refine ⟨_, rfl, rfl, fun e he => ?_⟩
  simp only
  rw [get_erase_ne _ _ _ (hfresh e he)]
  apply orInsertAll_keeps
  rw [get_insert, if_neg (Ne.symm (hfresh e he))]
  exact (Objects.get_mapVals d.objects (fun _ => normLen st) e.1).trans
    (congrArg (Option.map (normLen st)) (Objects.get_of_mem hnodup he))

/-! ## The states `try_from` builds: well-formed, the passwords authenticate and yield the key -/

structure PrimsOK (P : Prims) : Prop where
  block : ∀ key, BlockOK P key
  md5_len : ∀ x, (P.md5 x).length = 16
  sha256_len : ∀ x, (P.sha256 x).length = 32
  sha384_len : ∀ x, 32 ≤ (P.sha384 x).length
  sha512_len : ∀ x, 32 ≤ (P.sha512 x).length

theorem rc4Up_length (k : Bytes) (cnt i : Nat) (d : Bytes) : (rc4Up k cnt i d).length = d.length := by
  induction cnt generalizing i d with
  | zero => rfl
  | succ n ih => simp [rc4Up, ih, rc4_length]

theorem computeO_length (P : Prims) (a : Alg) (o u r : Bytes) (h : a.computeO P o u = .ok r) : r.length = 32 := by
  unfold Alg.computeO at h
  split at h
  · cases h
  · injection h with h; subst h
    split <;> simp [rc4Up_length, rc4_length, padPw_length]

/-- Algorithm 6 accepts the `U` of Algorithm 4 (R2) … -/
theorem authUserR4_r2 (P : Prims) (a : Alg) (fid pw k : Bytes) (hr : a.revision = 2)
    (hk : a.fileKeyR4 P fid pw = .ok k) (hu : a.userValue = rc4 k PAD_BYTES) :
    a.authUserR4 P fid pw = .ok () := by
  simp [Alg.authUserR4, hr, Alg.computeU2, hk, hu]

/-- … and every `U` that begins with the 16 bytes of Algorithm 5 (R3, R4) -/
theorem authUserR4_r34 (P : Prims) (hmd5 : ∀ x, (P.md5 x).length = 16) (a : Alg) (fid pw k tail : Bytes)
    (hr : a.revision = 3 ∨ a.revision = 4) (hk : a.fileKeyR4 P fid pw = .ok k)
    (hu : a.userValue = rc4Up k RC4_ROUNDS 1 (rc4 k (P.md5 (PAD_BYTES ++ fid))) ++ tail) :
    a.authUserR4 P fid pw = .ok () := by
  have h16 : (rc4Up k RC4_ROUNDS 1 (rc4 k (P.md5 (PAD_BYTES ++ fid)))).length = 16 := by
    rw [rc4Up_length, rc4_length, hmd5]
  have h2 : a.revision ≠ 2 := by omega
  have h34 : (decide (a.revision = 3) || decide (a.revision = 4)) = true := by simpa using hr
  simp [Alg.authUserR4, h2, h34, Alg.computeU34, hk, hu, h16, List.take_of_length_le (Nat.le_of_eq h16)]

/-- the common body of the V1 / V2 / V4 arms of `EncryptionState::try_from` -/
def build4 (P : Prims) (version revision : Nat) (length : Option Nat) (em : Bool)
    (cfs : List (Bytes × CF)) (stmF strF : Bytes) (perms : Nat) (owner user fid uTail : Bytes) : Except Err EncState :=
  let a0 : Alg := { encryptMetadata := em, length := length, version := version, revision := revision,
                    ownerValue := [], ownerEncrypted := [], userValue := [], userEncrypted := [],
                    permissions := perms, permsEncrypted := [] }
  match a0.computeO P owner user with
  | .error e => .error e
  | .ok o =>
    let a1 := { a0 with ownerValue := o }
    match (if revision = 2 then a1.computeU2 P fid user
           else (a1.computeU34 P fid user).map (fun u => u ++ uTail.take 16)) with
    | .error e => .error e
    | .ok u =>
      match a1.fileKeyR4 P fid user with
      | .error e => .error e
      | .ok k =>
        .ok { version := version, revision := revision, keyLength := length, encryptMetadata := em,
              cryptFilters := cfs, fileKey := k, stmF := stmF, strF := strF,
              ownerValue := o, ownerEncrypted := [], userValue := u, userEncrypted := [],
              permissions := perms, permsEncrypted := [] }

theorem stateOfConfig_v1 (P : Prims) (c : Config) (fid : Bytes) (rnd : Rand) (hv : c.ver = .v1) :
    stateOfConfig P c fid rnd = build4 P 1 2 none true [] [] [] c.permissions c.ownerPw c.userPw fid rnd.uTail := by
  unfold stateOfConfig build4; rw [hv]; rfl
theorem stateOfConfig_v2 (P : Prims) (c : Config) (fid : Bytes) (rnd : Rand) (l : Nat) (hv : c.ver = .v2 l) :
    stateOfConfig P c fid rnd = build4 P 2 3 (some l) true [] [] [] c.permissions c.ownerPw c.userPw fid rnd.uTail := by
  unfold stateOfConfig build4; rw [hv]; rfl
theorem stateOfConfig_v4 (P : Prims) (c : Config) (fid : Bytes) (rnd : Rand) (hv : c.ver = .v4) :
    stateOfConfig P c fid rnd =
      build4 P 4 4 (some 128) c.encryptMetadata c.cryptFilters c.stmF c.strF c.permissions c.ownerPw c.userPw fid rnd.uTail := by
  unfold stateOfConfig build4; rw [hv]; rfl

structure Built4 (P : Prims) (st : EncState) (owner user fid : Bytes) : Prop where
  lenO : st.ownerValue.length = 32
  lenU : st.userValue.length = 32
  empties : st.ownerEncrypted = [] ∧ st.userEncrypted = [] ∧ st.permsEncrypted = []
  hO : (algOf st).computeO P owner user = .ok st.ownerValue
  hU : (algOf st).authUserR4 P fid user = .ok ()
  hK : (algOf st).fileKeyR4 P fid user = .ok st.fileKey

/-- a state the common body builds from one of the three (V, R, Length) combinations is well formed; its `O`
is Algorithm 3's, the user password authenticates against its `U`, and its key is Algorithm 2's.  (`O`, `U` and
the key are computed before `O` and `U` are stored; neither Algorithm 2 nor 3 reads the stored `U`.) -/
theorem build4_ok (P : Prims) (hP : PrimsOK P) (version revision : Nat) (length : Option Nat) (em : Bool)
    (cfs : List (Bytes × CF)) (stmF strF : Bytes) (perms : Nat) (owner user fid uTail : Bytes) (st : EncState)
    (hshape : (version = 1 ∧ revision = 2 ∧ length = none) ∨
      (version = 2 ∧ revision = 3 ∧ ∃ l, length = some l ∧ l % 8 = 0 ∧ 40 ≤ l ∧ l ≤ 128) ∨
      (version = 4 ∧ revision = 4 ∧ length = some 128))
    (hem : version < 4 → em = true ∧ cfs = [] ∧ stmF = [] ∧ strF = [])
    (hperm : perms &&& PERM_ALL = perms) (hnd : (cfs.map (·.1)).Nodup) (hut : 16 ≤ uTail.length)
    (hb : build4 P version revision length em cfs stmF strF perms owner user fid uTail = .ok st) :
    StateOK st ∧ (2 ≤ st.revision ∧ st.revision ≤ 4) ∧ Built4 P st owner user fid := by
  have h234 : revision = 2 ∨ revision = 3 ∨ revision = 4 := hshape.imp (·.2.1) (Or.imp (·.2.1) (·.2.1))
  have hr : 2 ≤ revision ∧ revision ≤ 4 := by rcases h234 with h | h | h <;> rw [h] <;> decide
  simp only [build4] at hb
  split at hb
  · cases hb
  rename_i o hO
  split at hb
  · cases hb
  rename_i u hU
  split at hb
  · cases hb
  rename_i k hK
  injection hb with hb; subst hb
  -- `U` is Algorithm 4's value (R2), or the 16 bytes of Algorithm 5 followed by 16 arbitrary ones (R3, R4)
  have hUa : u.length = 32 ∧ ∀ a : Alg, a.revision = revision → a.userValue = u →
      a.fileKeyR4 P fid user = .ok k → a.authUserR4 P fid user = .ok () := by
    rcases h234 with h2 | h34
    · simp only [h2, if_true, Alg.computeU2, h2 ▸ hK] at hU
      injection hU with hU
      exact ⟨by rw [← hU, rc4_length]; rfl,
        fun a hr hu hk => authUserR4_r2 P a fid user k (hr.trans h2) hk (hu.trans hU.symm)⟩
    · have h2 : revision ≠ 2 := by rcases h34 with h | h <;> rw [h] <;> decide
      simp only [h2, if_false, Alg.computeU34, hK, Except.map] at hU
      injection hU with hU
      refine ⟨?_, fun a hr hu hk => authUserR4_r34 P hP.md5_len a fid user k _ (hr ▸ h34) hk (hu.trans hU.symm)⟩
      rw [← hU, List.length_append, rc4Up_length, rc4_length, hP.md5_len, List.length_take, Nat.min_eq_left hut]
  have hOl := computeO_length P _ _ _ _ hO
  exact ⟨⟨hshape.imp id (Or.imp id Or.inl), fun h => (hem h).1, fun _ => ⟨hOl, hUa.1, rfl, rfl, rfl⟩,
      fun h => absurd h (by simp only; omega), hperm, fun h => (hem h).2, hnd⟩, hr,
    ⟨hOl, hUa.1, ⟨rfl, rfl, rfl⟩, hO, hUa.2 _ rfl rfl hK, hK⟩⟩

/-- the V1 / V2 / V4 configurations the property quantifies over -/
def Cfg4 (c : Config) : Prop :=
  c.ver = .v1 ∨ (∃ l, c.ver = .v2 l ∧ l % 8 = 0 ∧ 40 ≤ l ∧ l ≤ 128) ∨ c.ver = .v4

theorem state4_ok (P : Prims) (hP : PrimsOK P) (c : Config) (fid : Bytes) (rnd : Rand) (st : EncState)
    (hv : Cfg4 c) (hst : stateOfConfig P c fid rnd = .ok st) (hut : 16 ≤ rnd.uTail.length)
    (hperm : c.permissions &&& PERM_ALL = c.permissions) (hnd : (c.cryptFilters.map (·.1)).Nodup) :
    StateOK st ∧ (2 ≤ st.revision ∧ st.revision ≤ 4) ∧ Built4 P st c.ownerPw c.userPw fid := by
  rcases hv with hv | ⟨l, hv, hl8, h40, h128⟩ | hv
  · rw [stateOfConfig_v1 P c fid rnd hv] at hst
    exact build4_ok P hP _ _ _ _ _ _ _ _ _ _ _ _ st (Or.inl ⟨rfl, rfl, rfl⟩) (fun _ => ⟨rfl, rfl, rfl, rfl⟩)
      hperm List.nodup_nil hut hst
  · rw [stateOfConfig_v2 P c fid rnd l hv] at hst
    exact build4_ok P hP _ _ _ _ _ _ _ _ _ _ _ _ st (Or.inr (Or.inl ⟨rfl, rfl, l, rfl, hl8, h40, h128⟩))
      (fun _ => ⟨rfl, rfl, rfl, rfl⟩) hperm List.nodup_nil hut hst
  · rw [stateOfConfig_v4 P c fid rnd hv] at hst
    exact build4_ok P hP _ _ _ _ _ _ _ _ _ _ _ _ st (Or.inr (Or.inr ⟨rfl, rfl, rfl⟩)) (fun h => absurd h (by decide))
      hperm hnd hut hst

/-- **doc_rt_user, revisions 2–4.**  For every document, every V1 / V2 (40…128) / V4 configuration
(any crypt-filter assignment), every password pair, file identifier and random bytes:
`decrypt_raw(user password)` after `encrypt` restores every object (up to the `Length` of processed
streams), the trailer and removes the encryption dictionary.  Hypotheses: the primitives' (`PrimsOK`),
well-formedness of the input document, and that the user password does not accidentally pass the
owner test with a different recovered password (`hno`; automatic when there is no owner password or
owner = user). -/
theorem doc_rt_user_r234 (P : Prims) (hP : PrimsOK P) (d enc : Doc) (c : Config) (fid : Bytes) (rnd : Rand)
    (st : EncState) (ivs : IVs) (hv : Cfg4 c)
    (hfid : d.fileId = some fid) (hst : stateOfConfig P c fid rnd = .ok st) (hut : 16 ≤ rnd.uTail.length)
    (hperm : c.permissions &&& PERM_ALL = c.permissions) (hnd : (c.cryptFilters.map (·.1)).Nodup)
    (hiv : ∀ n, (ivs n).length = 16) (htr : Dict.get d.trailer K_ENCRYPT = none)
    (hfresh : ∀ e ∈ d.objects, e.1 ≠ (d.maxId + 1, 0))
    (hnos : ∀ e ∈ d.objects, isObjStmStream e.2 = false) (henc : d.encrypt P st ivs = .ok enc)
    (hno : okB ((algOf st).authUserR4 P fid ((algOf st).recoverUser P c.userPw)) = false ∨
           effOwner c.ownerPw c.userPw = c.userPw) :
    enc.decryptRaw P c.userPw = .ok (restored st d) := by
  obtain ⟨hok, hr, hb⟩ := state4_ok P hP c fid rnd st hv hst hut hperm hnd
  apply doc_rt P d enc st ivs c.userPw hP.block hiv hok htr hfresh (fun _ => by simp [hfid]) hnos henc
  · rw [hfid]; exact authAny_user_r234 P (algOf st) fid c.userPw hr hb.hU
  · rw [hfid]; simp only [Option.getD_some]
    rcases hno with hno | hno
    · rw [user_key_r234 P (algOf st) fid c.userPw hr hno]; exact hb.hK
    · have := owner_key_r234 P (algOf st) fid c.ownerPw c.userPw hr hb.hO hb.hU
      rw [hno] at this; rw [this]; exact hb.hK

/-- **doc_rt_owner, revisions 2–4** (F-C05-a repaired): the same with the owner password (the user
password when no owner password was given) — no coincidence hypothesis needed. -/
theorem doc_rt_owner_r234_restores (P : Prims) (hP : PrimsOK P) (d enc : Doc) (c : Config) (fid : Bytes) (rnd : Rand)
    (st : EncState) (ivs : IVs) (hv : Cfg4 c)
    (hfid : d.fileId = some fid) (hst : stateOfConfig P c fid rnd = .ok st) (hut : 16 ≤ rnd.uTail.length)
    (hperm : c.permissions &&& PERM_ALL = c.permissions) (hnd : (c.cryptFilters.map (·.1)).Nodup)
    (hiv : ∀ n, (ivs n).length = 16) (htr : Dict.get d.trailer K_ENCRYPT = none)
    (hfresh : ∀ e ∈ d.objects, e.1 ≠ (d.maxId + 1, 0))
    (hnos : ∀ e ∈ d.objects, isObjStmStream e.2 = false) (henc : d.encrypt P st ivs = .ok enc) :
    enc.decryptRaw P (effOwner c.ownerPw c.userPw) = .ok (restored st d) := by
  obtain ⟨hok, hr, hb⟩ := state4_ok P hP c fid rnd st hv hst hut hperm hnd
  apply doc_rt P d enc st ivs _ hP.block hiv hok htr hfresh (fun _ => by simp [hfid]) hnos henc
  · rw [hfid]; exact authAny_owner_r234 P (algOf st) fid c.ownerPw c.userPw hr hb.hO hb.hU
  · rw [hfid]; simp only [Option.getD_some]
    rw [owner_key_r234 P (algOf st) fid c.ownerPw c.userPw hr hb.hO hb.hU]; exact hb.hK

/-- `compute_hash` depends on the algorithm state only through its revision -/
def hashRev (P : Prims) (rev : Nat) (pw salt udata : Bytes) : Bytes :=
  if rev = 5 then P.sha256 (pw ++ salt ++ udata) else hash2B P pw salt udata

theorem hash_eq_hashRev (P : Prims) (a : Alg) : a.hash P = hashRev P a.revision := by
  funext pw salt u; rfl

def permsPlainOf (perms : Nat) (em : Bool) (rnd : Bytes) : Bytes :=
  leBytes 8 (pValue perms) ++ [if em then 84 else 70] ++ PERMS_TAG ++ rnd.take 4

/-- the state the R5 / V5 arms of `try_from` build -/
def build6 (P : Prims) (rev : Nat) (c : Config) (rnd : Rand) : EncState :=
  let tu := trunc127 c.userPw
  let to := trunc127 c.ownerPw
  let u := hashRev P rev tu (rnd.uSalts.take 8) [] ++ rnd.uSalts.take 8 ++ slice rnd.uSalts 8 8
  let o := hashRev P rev to (rnd.oSalts.take 8) u ++ rnd.oSalts.take 8 ++ slice rnd.oSalts 8 8
  { version := 5, revision := rev, keyLength := none, encryptMetadata := c.encryptMetadata,
    cryptFilters := c.cryptFilters, fileKey := c.fileKey, stmF := c.stmF, strF := c.strF,
    ownerValue := o, ownerEncrypted := cbc0Enc P (hashRev P rev to (slice rnd.oSalts 8 8) u) c.fileKey,
    userValue := u, userEncrypted := cbc0Enc P (hashRev P rev tu (slice rnd.uSalts 8 8) []) c.fileKey,
    permissions := c.permissions,
    permsEncrypted := P.aesEnc c.fileKey (permsPlainOf c.permissions c.encryptMetadata rnd.permsRnd) }

theorem stateOfConfig_r5 (P : Prims) (c : Config) (fid : Bytes) (rnd : Rand) (hv : c.ver = .r5) (hk : c.fileKey.length = 32) :
    stateOfConfig P c fid rnd = .ok (build6 P 5 c rnd) := by
  simp only [stateOfConfig, hv, hk]
  rfl
theorem stateOfConfig_v5 (P : Prims) (c : Config) (fid : Bytes) (rnd : Rand) (hv : c.ver = .v5) (hk : c.fileKey.length = 32) :
    stateOfConfig P c fid rnd = .ok (build6 P 6 c rnd) := by
  simp only [stateOfConfig, hv, hk]
  rfl

theorem hash2BLoop_len (P : Prims) (hP : PrimsOK P) (pw udata : Bytes) (left round : Nat) (k : Bytes)
    (hk : 32 ≤ k.length) : 32 ≤ (hash2BLoop P pw udata left round k).length := by
  induction left generalizing round k with
  | zero => exact hk
  | succ l ih =>
    have hr : 32 ≤ (hash2BRound P pw udata k).1.length := by
      simp only [hash2BRound]
      split
      · rw [hP.sha256_len]; omega
      · split
        · exact hP.sha384_len _
        · exact hP.sha512_len _
    simp only [hash2BLoop]
    split
    · exact hr
    · exact ih _ _ hr

theorem hashRev_len (P : Prims) (hP : PrimsOK P) (rev : Nat) (x s u : Bytes) : (hashRev P rev x s u).length = 32 := by
  unfold hashRev
  split
  · exact hP.sha256_len _
  · unfold hash2B
    have := hash2BLoop_len P hP x u 287 1 (P.sha256 (x ++ s ++ u)) (by rw [hP.sha256_len]; omega)
    rw [List.length_take]; omega

theorem cbc0_rt (P : Prims) (hP : PrimsOK P) (k d : Bytes) (hd : d.length = 32) : cbc0Dec P k (cbc0Enc P k d) = d := by
  unfold cbc0Dec cbc0Enc
  exact cbc_dec_enc _ _ (hP.block k).enc_len (hP.block k).dec_enc _ d (by simp) (by omega)

theorem cbc0Enc_len (P : Prims) (hP : PrimsOK P) (k d : Bytes) (hd : d.length = 32) : (cbc0Enc P k d).length = 32 := by
  unfold cbc0Enc; rw [cbcEnc_length _ (hP.block k).enc_len]; omega

/-- the R5 / V5 configurations (and the random bytes `try_from` draws) the property quantifies over -/
structure Cfg6 (c : Config) (rnd : Rand) (rev : Nat) : Prop where
  ver : (c.ver = .r5 ∧ rev = 5) ∨ (c.ver = .v5 ∧ rev = 6)
  key : c.fileKey.length = 32
  us : 16 ≤ rnd.uSalts.length
  os : 16 ≤ rnd.oSalts.length
  pr : 4 ≤ rnd.permsRnd.length
  perm : c.permissions &&& PERM_ALL = c.permissions
  nodup : (c.cryptFilters.map (·.1)).Nodup

theorem Cfg6.rev56 {c : Config} {rnd : Rand} {rev : Nat} (h : Cfg6 c rnd rev) : rev = 5 ∨ rev = 6 :=
  h.ver.imp And.right And.right

theorem build6_ok (P : Prims) (hP : PrimsOK P) (c : Config) (rnd : Rand) (rev : Nat) (h : Cfg6 c rnd rev) :
    StateOK (build6 P rev c rnd) := by
  have hrev := h.rev56
  have hu := salted (hashRev P rev (trunc127 c.userPw) (rnd.uSalts.take 8) []) rnd.uSalts (hashRev_len P hP _ _ _ _) h.us
  refine ⟨Or.inr (Or.inr (Or.inr ⟨rfl, hrev, rfl⟩)), fun hv => by simp [build6] at hv, fun hr => ?_, fun _ => ?_, h.perm,
    fun hv => by simp [build6] at hv, h.nodup⟩
  · simp only [build6] at hr; omega
  · refine ⟨(salted _ rnd.oSalts (hashRev_len P hP _ _ _ _) h.os).1, hu.1, cbc0Enc_len P hP _ _ h.key, cbc0Enc_len P hP _ _ h.key, ?_⟩
    simp [build6, (hP.block c.fileKey).enc_len]

/-- an algorithm state whose U / UE / O / OE / Perms entries are those Algorithms 8, 9 and 10 (as
coded) produce for the passwords `userPw` / `ownerPw` and the key `key` -/
structure Built6 (P : Prims) (a : Alg) (key userPw ownerPw uS oS rnd : Bytes) : Prop where
  rev : a.revision = 5 ∨ a.revision = 6
  klen : key.length = 32
  us : 16 ≤ uS.length
  os : 16 ≤ oS.length
  pr : 4 ≤ rnd.length
  hU : a.userValue = hashRev P a.revision (trunc127 userPw) (uS.take 8) [] ++ uS.take 8 ++ slice uS 8 8
  hUE : a.userEncrypted = cbc0Enc P (hashRev P a.revision (trunc127 userPw) (slice uS 8 8) []) key
  hO : a.ownerValue = hashRev P a.revision (trunc127 ownerPw) (oS.take 8) a.userValue ++ oS.take 8 ++ slice oS 8 8
  hOE : a.ownerEncrypted = cbc0Enc P (hashRev P a.revision (trunc127 ownerPw) (slice oS 8 8) a.userValue) key
  hPerms : a.permsEncrypted = P.aesEnc key (permsPlainOf a.permissions a.encryptMetadata rnd)

section built6
variable (P : Prims) (hP : PrimsOK P) (a : Alg) (key userPw ownerPw uS oS rnd : Bytes)
variable (hb : Built6 P a key userPw ownerPw uS oS rnd)
include hP hb

theorem dispatch56 (fid pw : Bytes) :
    a.fileKey P fid pw = a.fileKeyR6 P pw ∧ a.authOwner P fid pw = a.authOwnerR6 P pw ∧
    a.authUser P fid pw = a.authUserR6 P pw := by
  have h4 : (decide (2 ≤ a.revision) && decide (a.revision ≤ 4)) = false := by rcases hb.rev with r | r <;> simp [r]
  have h56 : (decide (a.revision = 5) || decide (a.revision = 6)) = true := by rcases hb.rev with r | r <;> simp [r]
  simp [Alg.fileKey, Alg.authOwner, Alg.authUser, h4, h56]

theorem built6_O : slice a.ownerValue 32 8 = oS.take 8 ∧ slice a.ownerValue 40 8 = slice oS 8 8 ∧
    a.ownerValue.take 32 = hashRev P a.revision (trunc127 ownerPw) (oS.take 8) a.userValue := by
  rw [hb.hO]; exact (salted _ oS (hashRev_len P hP _ _ _ _) hb.os).2

theorem built6_U : slice a.userValue 32 8 = uS.take 8 ∧ slice a.userValue 40 8 = slice uS 8 8 ∧
    a.userValue.take 32 = hashRev P a.revision (trunc127 userPw) (uS.take 8) [] := by
  rw [hb.hU]; exact (salted _ uS (hashRev_len P hP _ _ _ _) hb.us).2

theorem authOwnerR6_built : a.authOwnerR6 P ownerPw = .ok () := by
  obtain ⟨h1, -, h3⟩ := built6_O P hP a key userPw ownerPw uS oS rnd hb
  rw [Alg.authOwnerR6, hash_eq_hashRev, h1, h3, if_pos rfl]

theorem authUserR6_built : a.authUserR6 P userPw = .ok () := by
  obtain ⟨h1, -, h3⟩ := built6_U P hP a key userPw ownerPw uS oS rnd hb
  rw [Alg.authUserR6, hash_eq_hashRev, h1, h3, if_pos rfl]

theorem fileKeyR6_owner_built : a.fileKeyR6 P ownerPw = .ok key := by
  obtain ⟨h1, h2, h3⟩ := built6_O P hP a key userPw ownerPw uS oS rnd hb
  simp only [Alg.fileKeyR6, hash_eq_hashRev, h1, h2, h3, ↓reduceIte]
  rw [hb.hOE, cbc0_rt P hP _ _ hb.klen]

/-- the user password yields the key too, unless it passes the OWNER test without being (after
truncation) the owner password — a hash coincidence, excluded by hypothesis `hno` -/
theorem fileKeyR6_user_built
    (hno : hashRev P a.revision (trunc127 userPw) (oS.take 8) a.userValue
             = hashRev P a.revision (trunc127 ownerPw) (oS.take 8) a.userValue → trunc127 userPw = trunc127 ownerPw) :
    a.fileKeyR6 P userPw = .ok key := by
  obtain ⟨o1, o2, o3⟩ := built6_O P hP a key userPw ownerPw uS oS rnd hb
  obtain ⟨u1, u2, u3⟩ := built6_U P hP a key userPw ownerPw uS oS rnd hb
  simp only [Alg.fileKeyR6, hash_eq_hashRev, o1, o2, o3, u1, u2, u3]
  split
  · rename_i heq
    rw [hno heq, hb.hOE, cbc0_rt P hP _ _ hb.klen]
  · simp only [↓reduceIte]
    rw [hb.hUE, cbc0_rt P hP _ _ hb.klen, validatePerms_permsPlain P a key rnd (hP.block key) hb.pr hb.hPerms]

end built6

theorem built6_of_build6 (P : Prims) (c : Config) (rnd : Rand) (rev : Nat) (h : Cfg6 c rnd rev) :
    Built6 P (algOf (build6 P rev c rnd)) c.fileKey c.userPw c.ownerPw rnd.uSalts rnd.oSalts rnd.permsRnd := by
  exact ⟨h.rev56, h.key, h.us, h.os, h.pr, rfl, rfl, rfl, rfl, rfl⟩

/-- **doc_rt_owner, revisions 5 and 6**: `decrypt_raw(owner password)` after `encrypt` restores the
document, for every document, configuration, password pair, salts and IVs. -/
theorem doc_rt_owner_r56 (P : Prims) (hP : PrimsOK P) (d enc : Doc) (c : Config) (rnd : Rand) (rev : Nat) (ivs : IVs)
    (h : Cfg6 c rnd rev) (hiv : ∀ n, (ivs n).length = 16) (htr : Dict.get d.trailer K_ENCRYPT = none)
    (hfresh : ∀ e ∈ d.objects, e.1 ≠ (d.maxId + 1, 0))
    (hnos : ∀ e ∈ d.objects, isObjStmStream e.2 = false)
    (henc : d.encrypt P (build6 P rev c rnd) ivs = .ok enc) :
    enc.decryptRaw P c.ownerPw = .ok (restored (build6 P rev c rnd) d) := by
  have hb := built6_of_build6 P c rnd rev h
  have hd := dispatch56 P hP _ _ _ _ _ _ _ hb
  apply doc_rt P d enc _ ivs c.ownerPw hP.block hiv (build6_ok P hP c rnd rev h) htr hfresh
    (fun hr => by have := h.rev56; have : rev ≤ 4 := hr; omega) hnos henc
  · unfold Alg.authAny
    rw [(hd _ _).2.1, authOwnerR6_built P hP _ _ _ _ _ _ _ hb]
  · rw [(hd _ _).1]; exact fileKeyR6_owner_built P hP _ _ _ _ _ _ _ hb

/-- **doc_rt_user, revisions 5 and 6**: the same with the user password (hypothesis `hno`: the user
password does not pass the owner test unless it is the owner password — no hash coincidence). -/
theorem doc_rt_user_r56 (P : Prims) (hP : PrimsOK P) (d enc : Doc) (c : Config) (rnd : Rand) (rev : Nat) (ivs : IVs)
    (h : Cfg6 c rnd rev) (hiv : ∀ n, (ivs n).length = 16) (htr : Dict.get d.trailer K_ENCRYPT = none)
    (hfresh : ∀ e ∈ d.objects, e.1 ≠ (d.maxId + 1, 0))
    (hnos : ∀ e ∈ d.objects, isObjStmStream e.2 = false)
    (henc : d.encrypt P (build6 P rev c rnd) ivs = .ok enc)
    (hno : hashRev P rev (trunc127 c.userPw) (rnd.oSalts.take 8) (build6 P rev c rnd).userValue
             = hashRev P rev (trunc127 c.ownerPw) (rnd.oSalts.take 8) (build6 P rev c rnd).userValue →
           trunc127 c.userPw = trunc127 c.ownerPw) :
    enc.decryptRaw P c.userPw = .ok (restored (build6 P rev c rnd) d) := by
  have hb := built6_of_build6 P c rnd rev h
  have hd := dispatch56 P hP _ _ _ _ _ _ _ hb
  apply doc_rt P d enc _ ivs c.userPw hP.block hiv (build6_ok P hP c rnd rev h) htr hfresh
    (fun hr => by have := h.rev56; have : rev ≤ 4 := hr; omega) hnos henc
  · apply authAny_ok_of_user
    rw [(hd _ _).2.2]; exact authUserR6_built P hP _ _ _ _ _ _ _ hb
  · rw [(hd _ _).1]; exact fileKeyR6_user_built P hP _ _ _ _ _ _ _ hb hno

/-- the same two theorems stated on the result of `try_from` (`stateOfConfig`) -/
theorem doc_rt_r56_of_config (P : Prims) (hP : PrimsOK P) (d enc : Doc) (c : Config) (fid : Bytes) (rnd : Rand)
    (rev : Nat) (st : EncState) (ivs : IVs)
    (h : Cfg6 c rnd rev) (hst : stateOfConfig P c fid rnd = .ok st)
    (hiv : ∀ n, (ivs n).length = 16) (htr : Dict.get d.trailer K_ENCRYPT = none)
    (hfresh : ∀ e ∈ d.objects, e.1 ≠ (d.maxId + 1, 0))
    (hnos : ∀ e ∈ d.objects, isObjStmStream e.2 = false) (henc : d.encrypt P st ivs = .ok enc) :
    enc.decryptRaw P c.ownerPw = .ok (restored st d) ∧
    ((hashRev P rev (trunc127 c.userPw) (rnd.oSalts.take 8) st.userValue
        = hashRev P rev (trunc127 c.ownerPw) (rnd.oSalts.take 8) st.userValue → trunc127 c.userPw = trunc127 c.ownerPw) →
      enc.decryptRaw P c.userPw = .ok (restored st d)) := by
  have hst' : st = build6 P rev c rnd := by
    rcases h.ver with ⟨hv, hr⟩ | ⟨hv, hr⟩
    · rw [stateOfConfig_r5 P c fid rnd hv h.key] at hst; injection hst with hst; rw [← hst, hr]
    · rw [stateOfConfig_v5 P c fid rnd hv h.key] at hst; injection hst with hst; rw [← hst, hr]
  subst hst'
  exact ⟨doc_rt_owner_r56 P hP d enc c rnd rev ivs h hiv htr hfresh hnos henc,
         fun hno => doc_rt_user_r56 P hP d enc c rnd rev ivs h hiv htr hfresh hnos henc hno⟩

/-- non-vacuity: the witness instance of the primitives satisfies `PrimsOK` -/
theorem toy_primsOK : PrimsOK toy :=
  ⟨toy_blockOK, fun _ => fit_length 16 _, fun _ => fit_length 32 _, fun _ => (fit_length 48 _).symm ▸ by decide,
   fun _ => (fit_length 64 _).symm ▸ by decide⟩

end Lopdf.Crypt
