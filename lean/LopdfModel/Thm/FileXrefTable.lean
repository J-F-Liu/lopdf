import LopdfModel.Lemmas.XrefTableRT
import LopdfModel.Lemmas.XTable
/-
  C01/C03 (file level) — **the cross-reference table round trip**: what `Writer::write_xref`
  writes, `parser::xref` reads back as exactly the recorded entries.
-/
namespace Lopdf.FileRT
open Lopdf Gen

/-- the entry the reader should hold for object `n` -/
def normalOf (x : XrefMap) (n : Nat) : Option XEntry := (x.get n).map fun p => XEntry.normal p.1 p.2

theorem applyAssigns_get_ids (x : XrefMap) : ∀ (ids : List Nat) (t : XTable) (n : Nat),
    (applyAssigns t (ids.filterMap (idAssign x some))).get n =
      if n ∈ ids then (normalOf x n).orElse (fun _ => t.get n) else t.get n := by
  intro ids
  induction ids with
  | nil => intro t n; simp [applyAssigns]
  | cons i rest ih =>
    intro t n
    simp only [List.filterMap_cons, idAssign]
    cases hx : x.get i with
    | none =>
      simp only [Option.map_none]
      rw [ih]
      by_cases hn : n = i
      · subst hn
        simp [normalOf, hx]
      · simp [hn]
    | some p =>
      obtain ⟨off, g⟩ := p
      simp only [Option.map_some, applyAssigns]
      rw [ih, XTable.get_insert]
      by_cases hn : i = n
      · subst hn
        simp [normalOf, hx]
      · have hn' : ¬ n = i := fun e => hn e.symm
        simp [hn, hn']

/-- offsets and generations the writer can record (`u32` offsets, `u16` generations) -/
def XrefMapOk (x : XrefMap) : Prop := ∀ n off g, x.get n = some (off, g) → off < 4294967296 ∧ g < 65536

theorem XrefMapOk_nil : XrefMapOk [] := fun _ _ _ h => by cases h

theorem XrefMapOk_insert {x : XrefMap} (hx : XrefMapOk x) (n off g : Nat) (ho : off < 4294967296)
    (hg : g < 65536) : XrefMapOk (x.insert n (off, g)) := by
  intro m off' g' hget
  by_cases hm : m = n
  · rw [hm, XrefMap.get_insert_same] at hget
    cases hget
    exact ⟨ho, hg⟩
  · rw [XrefMap.get_insert_other _ _ _ _ hm] at hget
    exact hx m off' g' hget

theorem tableSecs_ok (x : XrefMap) (size : Nat) (hx : XrefMapOk x) (hs : size ≤ 4294967295) :
    ∀ sec ∈ tableSecs x size, SecOk sec := by
  intro sec hsec
  obtain ⟨h1, h2⟩ := loopSecs_bounds x some (size - 1) 1 0 [none] (by intro _; rfl) sec hsec
  refine ⟨by omega, ?_⟩
  intro e he
  rcases h2 e he with h | ⟨i, p, hp, rfl⟩
  · simp at h; subst h; trivial
  · obtain ⟨off, g⟩ := p
    exact hx i off g hp

theorem tableSecs_ne_nil (x : XrefMap) (size : Nat) : tableSecs x size ≠ [] := by
  intro h
  have := loopSecs_spec x (some : Nat × Nat → Option (Nat × Nat)) (size - 1) 1 0 [none] (by intro _; rfl)
  unfold tableSecs at h
  rw [h] at this
  simp [assigns, assignsFrom] at this

theorem XTable_keys_insert (t : XTable) (k : Nat) (v : XEntry) :
    (t.insert k v).map (·.1) = if k ∈ t.map (·.1) then t.map (·.1) else t.map (·.1) ++ [k] := by
  induction t with
  | nil => simp [XTable.insert]
  | cons p rest ih =>
    obtain ⟨q, w⟩ := p
    by_cases h : q = k
    · subst h; simp [XTable.insert]
    · have h' : ¬ k = q := fun e => h e.symm
      simp only [XTable.insert, h, if_false, List.map_cons, ih, List.mem_cons, h', false_or]
      split <;> simp

theorem XTable_insert_nodup (t : XTable) (k : Nat) (v : XEntry) (h : (t.map (·.1)).Nodup) :
    ((t.insert k v).map (·.1)).Nodup := by
  rw [XTable_keys_insert]
  split
  · exact h
  · rename_i hk
    rw [List.nodup_append]
    refine ⟨h, by simp, ?_⟩
    intro a ha b hb
    simp at hb
    subst hb
    intro e; subst e; exact hk ha

theorem applyAssigns_nodup : ∀ (l : List (Nat × Option (Nat × Nat))) (t : XTable),
    (t.map (·.1)).Nodup → ((applyAssigns t l).map (·.1)).Nodup := by
  intro l
  induction l with
  | nil => intro t h; exact h
  | cons p rest ih =>
    intro t h
    obtain ⟨k, e⟩ := p
    cases e with
    | none => exact ih t h
    | some v => obtain ⟨off, g⟩ := v; exact ih _ (XTable_insert_nodup t k _ h)

theorem table_get_some {X : XTable} {x : XrefMap} {size n : Nat} {v : XEntry}
    (h : ∀ n, X.get n = if 1 ≤ n ∧ n < size then normalOf x n else none) (hv : X.get n = some v) :
    1 ≤ n ∧ n < size ∧ ∃ off g, v = .normal off g ∧ x.get n = some (off, g) := by
  rw [h n] at hv
  split at hv
  · rename_i hn
    cases hx : x.get n with
    | none => simp [normalOf, hx] at hv
    | some p => exact ⟨hn.1, hn.2, p.1, p.2, by simpa [normalOf, hx] using hv.symm, rfl⟩
  · cases hv

theorem table_get_of {X : XTable} {x : XrefMap} {size n off g : Nat}
    (h : ∀ n, X.get n = if 1 ≤ n ∧ n < size then normalOf x n else none) (h1 : 1 ≤ n) (h2 : n < size)
    (hx : x.get n = some (off, g)) : X.get n = some (.normal off g) := by
  rw [h n, if_pos ⟨h1, h2⟩, normalOf, hx]; rfl

/-- the table `xref` builds from a written table: the recorded entries of the numbers `1 ≤ n < size`,
one binding per number (it is built by `insert`) -/
theorem xref_table_read (x : XrefMap) (size : Nat) (rest : Bytes)
    (hx : XrefMapOk x) (hs : size ≤ 4294967295) (hr : NoDigitAhead rest) :
    ∃ table, pXref (writeXrefTable x size ++ rest) = .ok (some (table, space rest)) ∧
      (∀ n, table.get n = if 1 ≤ n ∧ n < size then normalOf x n else none) ∧ (table.map (·.1)).Nodup := by
  refine ⟨applyAssigns [] (assigns (tableSecs x size)), ?_, fun n => ?_, applyAssigns_nodup _ [] (by simp)⟩
  · rw [writeXrefTable_eq]
    have h0 : (tag pXref.XREF_WORD (XREF_KW ++ secsBytes (tableSecs x size) ++ rest)).bind
        (fun r => (eol r).map (·.2)) = some (secsBytes (tableSecs x size) ++ rest) := by
      simp [XREF_KW, pXref.XREF_WORD, tag, eol]
    unfold pXref
    rw [h0]
    simp only
    rw [foldSections_secs (tableSecs x size) _ rest [] false (tableSecs_ok x size hx hs) hr
      (by have := secsBytes_length (tableSecs x size); simp only [List.length_append]; omega)
      (Or.inl (tableSecs_ne_nil x size))]
  · unfold tableSecs
    rw [loopSecs_spec x some (size - 1) 1 0 [none] (by intro _; rfl)]
    simp only [assignsFrom, List.cons_append, List.nil_append, applyAssigns]
    rw [applyAssigns_get_ids]
    have : (1 ≤ n ∧ n < 1 + (size - 1)) ↔ (1 ≤ n ∧ n < size) := by omega
    simp [List.mem_range'_1, XTable.get, this]

/-- **Cross-reference table round trip (C01/C03).** For every recorded map `x` with `u32`
offsets and `u16` generations and every `Size ≤ u32::MAX`, followed by any text that does not
start with a digit (the writer continues with `trailer`): the parser `xref` accepts what
`write_xref` wrote, consumes exactly the table, and the table it builds holds for every object
number `n` the entry `normal off g` iff `1 ≤ n < size` and the writer recorded `n ↦ (off, g)`;
object 0, gaps and numbers ≥ size get no entry (free entries are never inserted). -/
theorem xref_table_rt (x : XrefMap) (size : Nat) (rest : Bytes)
    (hx : XrefMapOk x) (hs : size ≤ 4294967295) (hr : NoDigitAhead rest) :
    ∃ table, pXref (writeXrefTable x size ++ rest) = .ok (some (table, space rest)) ∧
      ∀ n, table.get n = if 1 ≤ n ∧ n < size then normalOf x n else none := by
  obtain ⟨table, h1, h2, _⟩ := xref_table_read x size rest hx hs hr
  exact ⟨table, h1, h2⟩

/-- reading of the statement as an equivalence on in-use entries -/
theorem xref_table_rt_iff (x : XrefMap) (size : Nat) (rest : Bytes)
    (hx : XrefMapOk x) (hs : size ≤ 4294967295) (hr : NoDigitAhead rest) :
    ∃ table, pXref (writeXrefTable x size ++ rest) = .ok (some (table, space rest)) ∧
      ∀ n off g, 1 ≤ n → n < size → (table.get n = some (.normal off g) ↔ x.get n = some (off, g)) := by
  obtain ⟨table, h1, h2⟩ := xref_table_rt x size rest hx hs hr
  refine ⟨table, h1, fun n off g hn1 hn2 => ⟨fun hv => ?_, table_get_of h2 hn1 hn2⟩⟩
  obtain ⟨_, _, off', g', e, hx'⟩ := table_get_some h2 hv
  cases e
  exact hx'

/-- non-vacuity: a sparse map (objects 1, 2 and 5, one with generation 7), `Size = 7`, followed by `trailer` -/
example : XrefMapOk [(1, (15, 0)), (2, (4000000000, 7)), (5, (99, 65535))] ∧ NoDigitAhead TRAILER_KW :=
  ⟨XrefMapOk_insert (XrefMapOk_insert (XrefMapOk_insert XrefMapOk_nil 1 15 0 (by omega) (by omega))
    2 4000000000 7 (by omega) (by omega)) 5 99 65535 (by omega) (by omega), noDigitAhead_cons _ (by decide)⟩

end Lopdf.FileRT
