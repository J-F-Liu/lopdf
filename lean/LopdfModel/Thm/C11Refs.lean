import LopdfModel.Thm.C11Pages
import LopdfModel.Thm.C11Frames
/-
  C11 — references of a document ("no new dangling reference"), the frame of the
  page-tree invariant, and "mild" steps (objects rewritten one at a time, nothing disappears).
-/
namespace Lopdf.Ed
open Lopdf Lopdf.DictL

/-- some value of the document (trailer or an object) contains the reference `r`, at any depth -/
def HasRef (d : Doc) (r : ObjId) : Prop :=
  r ∈ refsOfD d.trailer ∨ ∃ k o, d.objects.get k = some o ∧ r ∈ refsOf o

def Dangling (d : Doc) (r : ObjId) : Prop := HasRef d r ∧ d.objects.get r = none

/-- the step from `d` to `d'` introduced no dangling reference: whatever dangles afterwards dangled before -/
def NoNew (d d' : Doc) : Prop := ∀ r, Dangling d' r → Dangling d r

def Closed (d : Doc) : Prop := ∀ r, ¬ Dangling d r

theorem noNew_refl (d : Doc) : NoNew d d := fun _ h => h
theorem noNew_trans {a b c : Doc} (h1 : NoNew a b) (h2 : NoNew b c) : NoNew a c := fun r h => h1 r (h2 r h)
theorem closed_of_noNew {d d' : Doc} (h : NoNew d d') (hc : Closed d) : Closed d' := fun r hr => hc r (h r hr)

theorem refs_dictSet (d : Dict) (k : Bytes) (v : Obj) (r : ObjId) (h : r ∈ refsOfD (Dict.set d k v)) :
    r ∈ refsOfD d ∨ r ∈ refsOf v := by
  obtain ⟨e, he, hr⟩ := (mem_refsOfD_iff r _).mp h
  rcases Dict.mem_set he with he | he
  · exact Or.inl ((mem_refsOfD_iff r _).mpr ⟨e, he, hr⟩)
  · subst he; exact Or.inr hr

theorem refs_dictRemove (d : Dict) (k : Bytes) (r : ObjId) (h : r ∈ refsOfD (Dict.remove d k)) : r ∈ refsOfD d := by
  obtain ⟨e, he, hr⟩ := (mem_refsOfD_iff r _).mp h
  exact (mem_refsOfD_iff r _).mpr ⟨e, Dict.mem_remove he, hr⟩

theorem refs_removeKeys (ks : List Bytes) : ∀ (d : Dict) (r : ObjId), r ∈ refsOfD (removeKeys d ks) → r ∈ refsOfD d :=
  fun d r => List.foldlRecOn (motive := fun d' => r ∈ refsOfD d' → r ∈ refsOfD d) ks Dict.remove id
    fun d' ih k _ h => ih (refs_dictRemove d' k r h)

/-! ### the page-tree invariant only reads five keys of the catalog, `Pages` and `Page` dictionaries -/

def Prot : List Bytes := [TYPE, KIDS, COUNT, PARENT, PAGES]

/-- a dictionary stays a dictionary with distinct keys and the same protected entries -/
def Keep (o o' : Obj) : Prop :=
  ∀ nd, o = .dict nd → ∃ nd', o' = .dict nd' ∧ (NoDup nd → NoDup nd') ∧ ∀ key ∈ Prot, Dict.get nd' key = Dict.get nd key

def KeepAt (os os' : Objects) (x : ObjId) : Prop := ∀ o, os.get x = some o → ∃ o', os'.get x = some o' ∧ Keep o o'

theorem keep_refl (o : Obj) : Keep o o := fun nd h => ⟨nd, h, fun h => h, fun _ _ => rfl⟩

theorem keepAt_of_eq (os os' : Objects) (x : ObjId) (h : os'.get x = os.get x) : KeepAt os os' x :=
  fun o ho => ⟨o, by rw [h]; exact ho, keep_refl o⟩

theorem keepsKeys_of_keepAt {L : List Bytes} {os os' : Objects} {x : ObjId} (h : KeepAt os os' x) (hL : ∀ k ∈ L, k ∈ Prot) :
    KeepsKeys L os os' x := by
  intro nd hg
  obtain ⟨o', e', r⟩ := h _ hg
  obtain ⟨nd', rfl, n1, g1⟩ := r nd rfl
  exact ⟨nd', e', n1, fun key hk => g1 key (hL key hk)⟩

theorem shapeKeys_prot : ∀ k ∈ [TYPE, KIDS, PARENT], k ∈ Prot := by decide
theorem treeKeys_prot : ∀ k ∈ [COUNT, PARENT], k ∈ Prot := by decide

theorem shapeL_keep (os os' : Objects) : ∀ (ks : List PT) (top : Option ObjId), ShapeL os top ks →
    (∀ x ∈ nodeIdsL ks, KeepAt os os' x) → (∀ x ∈ PT.leavesL ks, KeepAt os os' x) → ShapeL os' top ks :=
  fun ks top h hn hl => shapeL_keeps os os' ks top h fun x hx =>
    keepsKeys_of_keepAt (hx.elim (hn x) (hl x)) shapeKeys_prot

theorem treeOKL_keep (os os' : Objects) : ∀ (ks : List PT) (top : Option ObjId), TreeOKL os top ks →
    (∀ x ∈ nodeIdsL ks, KeepAt os os' x) → TreeOKL os' top ks :=
  fun ks top h hf => treeOKL_keeps os os' ks top h fun x hx => keepsKeys_of_keepAt (hf x hx) treeKeys_prot

/-- **frame of the page-tree invariant**: a step that leaves the trailer alone and keeps the protected entries of
the catalog, the `Pages` nodes and the pages keeps the invariant, for the same tree -/
theorem pagesInv_keep (d d' : Doc) (cat rid : ObjId) (ks : List PT) (h : PagesInv d cat rid ks)
    (htr : d'.trailer = d.trailer)
    (hk : ∀ x, x = cat ∨ x ∈ nodeIds (.pages rid ks) ∨ x ∈ PT.leavesL ks → KeepAt d.objects d'.objects x) :
    PagesInv d' cat rid ks := by
  obtain ⟨cd, hc1, hc2, hc3⟩ := h.catObj
  obtain ⟨o', e', r⟩ := hk cat (Or.inl rfl) _ hc1
  obtain ⟨cd', rfl, n1, g1⟩ := r cd rfl
  exact {
    trN := by rw [htr]; exact h.trN
    trRoot := by rw [htr]; exact h.trRoot
    catObj := ⟨cd', e', n1 hc2, by rw [g1 PAGES (by simp [Prot])]; exact hc3⟩
    shape := shape_keeps _ _ _ none h.shape fun x hx =>
      keepsKeys_of_keepAt (hk x (Or.inr (hx.imp id (by simpa [PT.leaves] using ·)))) shapeKeys_prot
    counts := treeOK_keeps _ _ _ none h.counts fun x hx => keepsKeys_of_keepAt (hk x (Or.inr (Or.inl hx))) treeKeys_prot
    nodesN := h.nodesN
    leavesN := h.leavesN
    disj := h.disj
    catOut := h.catOut
    height := h.height }

/-! ### "mild" steps: objects are rewritten one at a time, nothing disappears -/

/-- an object before / after a mild step: every reference it now holds it held before, or is in the allowed set
`Ex`; a dictionary stays a dictionary with distinct keys and the same protected entries -/
def Mild (Ex : ObjId → Prop) (o o' : Obj) : Prop := (∀ r ∈ refsOf o', r ∈ refsOf o ∨ Ex r) ∧ Keep o o'

structure MildStep (Ex : ObjId → Prop) (d d' : Doc) : Prop where
  tr : d'.trailer = d.trailer
  old : ∀ k o, d.objects.get k = some o → ∃ o', d'.objects.get k = some o' ∧ Mild Ex o o'
  fresh : ∀ k o', d.objects.get k = none → d'.objects.get k = some o' → ∀ r ∈ refsOf o', Ex r

theorem mild_refl (Ex : ObjId → Prop) (o : Obj) : Mild Ex o o := ⟨fun _ h => Or.inl h, keep_refl o⟩

theorem keep_trans {a b c : Obj} (h1 : Keep a b) (h2 : Keep b c) : Keep a c := by
  intro nd e
  obtain ⟨nd1, e1, n1, g1⟩ := h1 nd e
  obtain ⟨nd2, e2, n2, g2⟩ := h2 nd1 e1
  exact ⟨nd2, e2, fun h => n2 (n1 h), fun key hk => (g2 key hk).trans (g1 key hk)⟩

theorem mild_trans {Ex : ObjId → Prop} {a b c : Obj} (h1 : Mild Ex a b) (h2 : Mild Ex b c) : Mild Ex a c := by
  refine ⟨?_, keep_trans h1.2 h2.2⟩
  intro r hr
  rcases h2.1 r hr with h | h
  · exact h1.1 r h
  · exact Or.inr h

theorem mildStep_refl (Ex : ObjId → Prop) (d : Doc) : MildStep Ex d d :=
  ⟨rfl, fun _ o h => ⟨o, h, mild_refl Ex o⟩, fun k o' h1 h2 => by rw [h1] at h2; cases h2⟩

theorem mildStep_trans {Ex : ObjId → Prop} {a b c : Doc} (h1 : MildStep Ex a b) (h2 : MildStep Ex b c) : MildStep Ex a c := by
  refine ⟨h2.tr.trans h1.tr, ?_, ?_⟩
  · intro k o ho
    obtain ⟨o1, e1, m1⟩ := h1.old k o ho
    obtain ⟨o2, e2, m2⟩ := h2.old k o1 e1
    exact ⟨o2, e2, mild_trans m1 m2⟩
  · intro k o' hn hc r hr
    cases hb : b.objects.get k with
    | none => exact h2.fresh k o' hb hc r hr
    | some o1 =>
      obtain ⟨o2, e2, m2⟩ := h2.old k o1 hb
      rw [hc] at e2; cases e2
      rcases m2.1 r hr with h | h
      · exact h1.fresh k o1 hn hb r h
      · exact h

/-- only `max_id` differs -/
theorem mildStep_of_same (Ex : ObjId → Prop) (d d' : Doc) (ht : d'.trailer = d.trailer) (ho : d'.objects = d.objects) :
    MildStep Ex d d' :=
  ⟨ht, fun k o h => ⟨o, by rw [ho]; exact h, mild_refl Ex o⟩, fun k o' h1 h2 => by rw [ho, h1] at h2; cases h2⟩

theorem mildStep_setObj (Ex : ObjId → Prop) (d : Doc) (t : ObjId) (o v : Obj) (h : d.objects.get t = some o)
    (hm : Mild Ex o v) : MildStep Ex d { d with objects := d.objects.set t v } := by
  refine ⟨rfl, ?_, ?_⟩
  · intro k o0 h0
    simp only [Objects.get_set]
    by_cases e : t = k
    · subst e; rw [h] at h0; cases h0; simp [h]; exact hm
    · simp [e]; exact ⟨o0, h0, mild_refl Ex o0⟩
  · intro k o' h1 h2
    simp only [Objects.get_set] at h2
    by_cases e : t = k
    · subst e; rw [h] at h1; cases h1
    · simp [e] at h2; rw [h1] at h2; cases h2

theorem mildStep_addObject (Ex : ObjId → Prop) (d : Doc) (o : Obj) (hf : d.objects.get (d.maxId + 1, 0) = none)
    (hr : ∀ r ∈ refsOf o, Ex r) : MildStep Ex d (addObject d o) := by
  refine ⟨rfl, ?_, ?_⟩
  · intro k o0 h0
    rw [addObject_get]
    by_cases e : (d.maxId + 1, 0) = k
    · subst e; rw [hf] at h0; cases h0
    · simp [e]; exact ⟨o0, h0, mild_refl Ex o0⟩
  · intro k o' h1 h2
    rw [addObject_get] at h2
    by_cases e : (d.maxId + 1, 0) = k
    · simp [e] at h2; subst h2; exact hr
    · simp [e] at h2; rw [h1] at h2; cases h2

theorem mild_dictSet (Ex : ObjId → Prop) (pd : Dict) (key : Bytes) (v : Obj) (hk : key ∉ Prot)
    (hr : ∀ r ∈ refsOf v, r ∈ refsOfD pd ∨ Ex r) : Mild Ex (.dict pd) (.dict (Dict.set pd key v)) := by
  refine ⟨?_, ?_⟩
  · intro r h
    simp only [refsOf] at h ⊢
    rcases refs_dictSet pd key v r h with h | h
    · exact Or.inl h
    · exact hr r h
  · intro nd e; cases e
    refine ⟨_, rfl, fun h => Dict.nodup_set h _ _, ?_⟩
    intro q hq
    rw [Dict.get_set]
    have : key ≠ q := fun e => hk (e ▸ hq)
    simp [this]

theorem mildStep_isSome {Ex : ObjId → Prop} {d d' : Doc} (h : MildStep Ex d d') (k : ObjId) (hs : (d.objects.get k).isSome) :
    (d'.objects.get k).isSome := by
  cases hg : d.objects.get k with
  | none => rw [hg] at hs; cases hs
  | some o => obtain ⟨o', e, _⟩ := h.old k o hg; simp [e]

/-- a mild step introduces no dangling reference when the allowed new references resolve afterwards or were
references of the document already -/
theorem noNew_of_mild {Ex : ObjId → Prop} {d d' : Doc} (h : MildStep Ex d d')
    (hex : ∀ r, Ex r → (d'.objects.get r).isSome ∨ HasRef d r) : NoNew d d' := by
  intro r ⟨hh, hn⟩
  have hex' : Ex r → HasRef d r := fun e => by
    rcases hex r e with h | h
    · rw [hn] at h; cases h
    · exact h
  refine ⟨?_, ?_⟩
  · rcases hh with hh | ⟨k, o', hk, hr⟩
    · exact Or.inl (by rw [← h.tr]; exact hh)
    · cases hg : d.objects.get k with
      | none => exact hex' (h.fresh k o' hg hk r hr)
      | some o =>
        obtain ⟨o2, e2, m⟩ := h.old k o hg
        rw [hk] at e2; cases e2
        rcases m.1 r hr with h1 | h1
        · exact Or.inr ⟨k, o, hg, h1⟩
        · exact hex' h1
  · cases hg : d.objects.get r with
    | none => rfl
    | some o => obtain ⟨o2, e2, _⟩ := h.old r o hg; rw [hn] at e2; cases e2

theorem pagesInv_of_mild {Ex : ObjId → Prop} {d d' : Doc} (h : MildStep Ex d d') (cat rid : ObjId) (ks : List PT)
    (hp : PagesInv d cat rid ks) : PagesInv d' cat rid ks :=
  pagesInv_keep d d' cat rid ks hp h.tr (fun x _ o ho => by obtain ⟨o', e, m⟩ := h.old x o ho; exact ⟨o', e, m.2⟩)

end Lopdf.Ed
