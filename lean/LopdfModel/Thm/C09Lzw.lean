import LopdfModel.Lemmas.C09Lzw
import LopdfModel.Thm.C09
/-
  C09 — LZW as a theorem.  `Spec/LzwCodec.lean` holds a reference encoder and decoder for the PDF LZW variant
  (9–12 bit MSB-first codes, clear code first and again when the table is full, EOD, EarlyChange 0/1); here the
  round trip is proved for EVERY byte string, so the `hlzw` hypothesis of `chain_rt` is a proved fact about the
  specification.  weezl is tied to the specification on every run (ops `lzwspec`, `lzwenc`).
-/
namespace Lopdf
open Gen Spec.LzwC

/-- **LZW round trip** — every byte string, both `EarlyChange` settings; the proof covers the classic invariant
(decoder table = encoder table minus its newest entry), the KwKwK case, every code-width switch and the
table-full / clear-code path. -/
theorem lzw_round_trip (ec : Bool) (x : Bytes) : lzwDecode ec (lzwEncode ec x) = some x :=
  Spec.LzwC.lzw_round_trip ec x

/-- the known answer of ISO 32000-1 §7.4.4.2: the encoder writes exactly the bytes of the standard's example -/
theorem lzw_iso_example :
    lzwEncode true [45, 45, 45, 45, 45, 65, 45, 45, 45, 66] = [0x80, 0x0B, 0x60, 0x50, 0x22, 0x0C, 0x0C, 0x85, 0x01] := by
  have h : encBits true [45, 45, 45, 45, 45, 65, 45, 45, 45, 66]
      = toBits [0x80, 0x0B, 0x60, 0x50, 0x22, 0x0C, 0x0C, 0x85, 0x01] := by decide
  rw [lzwEncode, h, ofBits_toBits]

/-- bit layer: `w`-bit codes written most-significant-bit first are read back -/
theorem lzw_bits_rt (w c : Nat) (rest : List Bool) (h : c < 2 ^ w) :
    readBits w (codeBits w c ++ rest) = some (c, rest) := readBits_codeBits w c rest h

/-- the specification codec as the `lzw` parameter of the filter model -/
def specLzwExt (inflate : Bytes → Bytes) : Ext :=
  { inflate := inflate, lzw := fun ec y => (lzwDecode ec y).getD [] }

/-- the LZW hypothesis of `chain_rt` / `stream_png_rt`, discharged for the specification codec -/
theorem lzw_hypothesis_spec (inflate : Bytes → Bytes) :
    ∀ e x, (specLzwExt inflate).lzw e (lzwEncode e x) = x := by
  intro e x; simp [specLzwExt, lzw_round_trip]

/-- `chain_rt` with the LZW stages decoded by the proved specification codec: only the flate2 hypotheses remain -/
theorem chain_rt_spec_lzw (inflate deflate : Bytes → Bytes)
    (hfl : ∀ x, inflate (deflate x) = x) (hne : ∀ x, deflate x ≠ [])
    (s : Strm) (c : StageEnc) (cs : List StageEnc) (x : Bytes)
    (hF : s.dict.get K_FILTER = some (.arr ((c :: cs).map fun c => Obj.name c.f.name)))
    (hP : ∀ k (h : k < (c :: cs).length), stageParms s.dict k = ((c :: cs)[k]).p)
    (hv : ChainValid deflate lzwEncode (c :: cs) x)
    (hc : s.content = encChainP deflate lzwEncode (c :: cs) x) :
    decompressedContent (specLzwExt inflate) s = .ok x ∧ getPlainContent (specLzwExt inflate) s = .ok x :=
  chain_rt (specLzwExt inflate) deflate lzwEncode hfl hne (lzw_hypothesis_spec inflate) s c cs x hF hP hv hc

/-- non-vacuity: `Filter [/ASCII85Decode /LZWDecode]`, really LZW-encoded content -/
def lzwToyStream : Strm :=
  { dict := [(K_FILTER, .arr [.name F_A85, .name F_LZW])],
    content := encChainP (fun x => 0 :: x) lzwEncode [⟨.a85, none, none⟩, ⟨.lzw, none, none⟩] [1, 2, 1, 2, 1, 2, 1] }
example : decompressedContent (specLzwExt fun y => y.tail) lzwToyStream = .ok [1, 2, 1, 2, 1, 2, 1] :=
  (chain_rt_spec_lzw (fun y => y.tail) (fun x => 0 :: x) (fun _ => rfl) (fun _ => by simp)
    lzwToyStream ⟨.a85, none, none⟩ [⟨.lzw, none, none⟩] _ rfl
    (by intro k hk; have : k = 0 ∨ k = 1 := by simp at hk; omega
        rcases this with rfl | rfl <;> rfl)
    ⟨Or.inl rfl, Or.inr (by trivial), trivial⟩ rfl).1

end Lopdf
