import LopdfModel.Thm.C14Content
import LopdfModel.Thm.C16
import LopdfModel.Model.TextExtract
/-
  C16 — extraction, end to end on the model: text shown in a content stream built by
  `Content::encode` (Model/Content.lean, property C14) and read back through
  `Content::decode` + the `extract_text` loop (Model/Text.lean) is returned unchanged.

  An operand is admitted (`C16eOperand`) when `operand` reads its written form back unchanged; C14's
  `operand_rt` gives that for names, strings, integers and arrays of strings. Operations with such
  operands and a text operator are then a class for C14's induction over the encoded list, and the
  text comes from the `extract_text` loop taken operator by operator (Thm/C16). The file is about
  the content bytes only, not about saving and loading them (C01/C09).
-/
namespace Lopdf
open Gen Spec

/-- an operand whose written form, followed by the separating space, is read back by `operand`
as the same object; its text starts with a byte that is not blank, not `%` and not `B` -/
structure C16eOperand (o : Obj) : Prop where
  rt : ∀ rest, pOperand (writeObj o ++ 32 :: rest) = .ok o (contentSpace rest)
  head : ∃ b t, writeObj o = b :: t ∧ isContentSpace b = false ∧ b ≠ 37 ∧ b ≠ 66

/-! `WFOperand` (the scope of C14's `operand_rt`) for the shapes used in text programs -/

theorem wfOperand_flat {o : Obj} (hw : ObjRt.WFObj o) (hr : ∀ n g, o ≠ .ref n g) (hh : ObjRt.height o = 0) :
    ContentRt.WFOperand o :=
  ⟨hw, hr, hh ▸ Nat.zero_le _⟩

theorem wfOperand_name (n : Bytes) : ContentRt.WFOperand (.name n) :=
  wfOperand_flat (by simp [ObjRt.WFObj, ObjRt.WF]) (by simp) (by simp [ObjRt.height])

theorem wfOperand_str (s : Bytes) (f : StrFmt) : ContentRt.WFOperand (.str s f) := by
  cases f <;> exact wfOperand_flat (by simp [ObjRt.WFObj, ObjRt.WF]) (by simp) (by simp [ObjRt.height])

theorem wfOperand_int (i : Int) (h : -(I64_MAX : Int) - 1 ≤ i ∧ i ≤ I64_MAX) : ContentRt.WFOperand (.int i) :=
  wfOperand_flat (by simpa [ObjRt.WFObj, ObjRt.WF] using h) (by simp) (by simp [ObjRt.height])

theorem wfOperand_arr (items : List Obj) (h : ∀ o ∈ items, ObjRt.WFObj o ∧ ObjRt.height o = 0) :
    ContentRt.WFOperand (.arr items) := by
  have hw : ObjRt.WFL (fun _ => True) items ∧ ObjRt.heightL items = 0 := by
    induction items with
    | nil => simp [ObjRt.WFL, ObjRt.heightL]
    | cons o r ih =>
      have h1 := h o (by simp)
      have ih := ih fun x hx => h x (by simp [hx])
      simp only [ObjRt.WFL, ObjRt.heightL]
      exact ⟨⟨h1.1, ih.1⟩, by rw [h1.2, ih.2]; rfl⟩
  exact ⟨by simpa [ObjRt.WFObj, ObjRt.WF] using hw.1, by simp, by simp [ObjRt.height, hw.2, MAX_NESTING]⟩

/-- what C14's `operand_rt` reads back is the operand itself when it is its own normal form
(no reals inside), and every written object starts with a byte that is not blank, `%` or `B` -/
theorem C16eOperand.of_wf {o : Obj} (h : ContentRt.WFOperand o) (hn : ObjRt.norm o = o) : C16eOperand o where
  rt rest := by rw [ContentRt.operand_rt o rest h, hn]
  head := by
    obtain ⟨b, r, e, h66, h37, hcs⟩ := ContentRt.head_obj_content _ o [] h.1
    exact ⟨b, r, by simpa using e, hcs, h37, h66⟩

theorem c16e_operand_name (n : Bytes) : C16eOperand (.name n) :=
  .of_wf (wfOperand_name n) (by simp [ObjRt.norm])

theorem c16e_operand_hex (s : Bytes) : C16eOperand (.str s .hex) :=
  .of_wf (wfOperand_str s .hex) (by simp [ObjRt.norm])

/-- literal strings (`hs` is not used: see `C16eShow.Ok`) -/
theorem c16e_operand_lit (s : Bytes) (hs : NoParens s) : C16eOperand (.str s .lit) :=
  .of_wf (wfOperand_str s .lit) (by simp [ObjRt.norm])

theorem c16e_operand_nat (n : Nat) (hn : n ≤ I64_MAX) : C16eOperand (.int (Int.ofNat n)) :=
  .of_wf (wfOperand_int _ ⟨by simp; omega, by simpa using hn⟩) (by simp [ObjRt.norm])

theorem normL_of_fixed : ∀ (l : List Obj), (∀ o ∈ l, ObjRt.norm o = o) → ObjRt.normL l = l
  | [], _ => rfl
  | o :: r, h => by
    rw [ObjRt.normL, h o (by simp), normL_of_fixed r (fun x hx => h x (by simp [hx]))]

/-- arrays of hexadecimal strings (the operand of `TJ` without kerning numbers) -/
theorem c16e_operand_hexarr (ss : List Bytes) : C16eOperand (.arr (ss.map fun s => Obj.str s .hex)) :=
  .of_wf (wfOperand_arr _ (List.forall_mem_map.mpr fun s _ => by simp [ObjRt.WFObj, ObjRt.WF, ObjRt.height]))
    (by rw [ObjRt.norm, normL_of_fixed _ (List.forall_mem_map.mpr fun s _ => by simp [ObjRt.norm])])

/-- the text operators used below: BT ET Tf Tj TJ -/
def c16eTextOps : List Bytes := [[66, 84], [69, 84], [84, 102], [84, 106], [84, 74]]

theorem c16eTextOps_mem : ([66, 84] : Bytes) ∈ c16eTextOps ∧ OP_ET ∈ c16eTextOps ∧ OP_TF ∈ c16eTextOps ∧
    OP_TJ ∈ c16eTextOps ∧ OP_TJ_ARR ∈ c16eTextOps := by decide

/-- at a text operator the `many0(operand)` loop stops with a recoverable error, the operator is
read whole, it is not the inline-image keyword and not a comment: all decided by the operator's
own two bytes, whatever follows -/
theorem c16e_textop_facts (opr : Bytes) (h : opr ∈ c16eTextOps) (rest : Bytes)
    (hr : ∀ b r, rest = b :: r → isOperatorByte b = false) :
    pOperand (opr ++ rest) = .error ∧ pOperator (opr ++ rest) = some (opr, rest) ∧
    tag [66, 73] (opr ++ rest) = none ∧ comment (opr ++ rest) = none ∧
    (∃ b t, opr = b :: t ∧ isContentSpace b = false) ∧ opr ≠ [66, 73] := by
  simp only [c16eTextOps, List.mem_cons, List.not_mem_nil, or_false] at h
  rcases h with rfl | rfl | rfl | rfl | rfl <;>
    exact ⟨rfl, operator_rt _ rest (by simp) (by decide) hr, rfl, rfl, ⟨_, _, rfl, rfl⟩, by decide⟩

theorem c16e_operands_head (os : List Obj) (hos : ∀ o ∈ os, C16eOperand o) (tail : Bytes) :
    os = [] ∨ ∃ b t, ContentRt.encOperands os ++ tail = b :: t ∧ isContentSpace b = false ∧ b ≠ 37 ∧ b ≠ 66 := by
  cases os with
  | nil => exact .inl rfl
  | cons o os =>
    obtain ⟨b, t, hw, hb⟩ := (hos o (by simp)).head
    exact .inr ⟨b, _, by rw [ContentRt.encOperands_cons, hw]; rfl, hb⟩

theorem c16e_manyOperands : ∀ (os : List Obj) (tail : Bytes) (n : Nat),
    (∀ o ∈ os, C16eOperand o) → pOperand tail = .error → ContentRt.HeadNonCs tail →
    os.length < n → manyOperands n (ContentRt.encOperands os ++ tail) = some (os, tail)
  | [], tail, n + 1, _, herr, _, _ => by simp [ContentRt.encOperands, manyOperands, herr]
  | o :: os, tail, n + 1, hos, herr, hhead, hn => by
    have hos' := fun x hx => hos x (List.mem_cons_of_mem o hx)
    have ih := c16e_manyOperands os tail n hos' herr hhead (by simpa using hn)
    -- what follows the separating space starts with a non-blank byte
    have hnext : ContentRt.HeadNonCs (ContentRt.encOperands os ++ tail) := by
      rcases c16e_operands_head os hos' tail with rfl | ⟨b, t, e, hb, _⟩
      · exact hhead
      · exact ⟨b, t, e, hb⟩
    rw [ContentRt.encOperands_cons]
    simp only [manyOperands, (hos o (by simp)).rt, ContentRt.contentSpace_head _ hnext, ih, Option.map_some]

/-- a text operation: one of the operators above, operands of the kinds `operand` reads back -/
structure C16eOp (op : Operation) : Prop where
  operator : op.operator ∈ c16eTextOps
  operands : ∀ o ∈ op.operands, C16eOperand o

theorem c16e_encodeOperation (op : Operation) (h : C16eOp op) :
    encodeOperation op = ContentRt.encOperands op.operands ++ op.operator := by
  have hne := (c16e_textop_facts op.operator h.operator [] (by intro b r e; cases e)).2.2.2.2.2
  simp [encodeOperation, hne, ContentRt.encOperands]

/-- **one operation**: `operation` reads back what `Content::encode` wrote for it, leaving the
rest (after blanks) untouched -/
theorem c16e_pOperation (op : Operation) (h : C16eOp op) (rest : Bytes)
    (hr : ∀ b r, rest = b :: r → isOperatorByte b = false) :
    pOperation (encodeOperation op ++ rest) = .ok op (contentSpace rest) := by
  obtain ⟨herr, hop, htag, hcom, ⟨b, t, hopr, hb⟩, _⟩ := c16e_textop_facts op.operator h.operator rest hr
  rw [c16e_encodeOperation op h, List.append_assoc]
  -- the operation does not start with a comment or with `BI`
  have hfirst : comment (ContentRt.encOperands op.operands ++ (op.operator ++ rest)) = none ∧
      tag [66, 73] (ContentRt.encOperands op.operands ++ (op.operator ++ rest)) = none := by
    rcases c16e_operands_head op.operands h.operands (op.operator ++ rest) with e | ⟨b, t, e, _, h37, h66⟩
    · simpa [e, ContentRt.encOperands] using ⟨hcom, htag⟩
    · rw [e]
      exact ⟨ObjRt.comment_non37 b t h37, tag_cons_ne 66 [73] b t (Ne.symm h66)⟩
  have hmo := c16e_manyOperands op.operands (op.operator ++ rest)
    ((ContentRt.encOperands op.operands ++ (op.operator ++ rest)).length + 1) h.operands herr
    ⟨b, t ++ rest, by rw [hopr]; rfl, hb⟩
    (by have := ContentRt.encOperands_length op.operands; simp only [List.length_append]; omega)
  simp only [pOperation, manyComments, hfirst.1, hfirst.2, hmo, hop]

theorem c16e_encodeOperation_head (op : Operation) (h : C16eOp op) (tail : Bytes) :
    ContentRt.HeadNonCs (encodeOperation op ++ tail) := by
  rw [c16e_encodeOperation op h, List.append_assoc]
  rcases c16e_operands_head op.operands h.operands (op.operator ++ tail) with e | ⟨b, t, e, hb, _⟩
  · obtain ⟨b, t, hopr, hb⟩ := (c16e_textop_facts op.operator h.operator [] (by intro b r e; cases e)).2.2.2.2.1
    exact ⟨b, t ++ tail, by simp [e, ContentRt.encOperands, hopr], hb⟩
  · exact ⟨b, t, e, hb⟩

/-- text operations are in the scope of C14's induction over `Content::encode`'s list: each is
read back unchanged in front of the end or of the newline that joins operations -/
theorem c16e_readBack : ContentRt.ReadBack C16eOp id := fun op tail h ht =>
  ⟨c16e_pOperation op h tail (fun b r e => by rw [ht b r e]; rfl), c16e_encodeOperation_head op h tail⟩

/-- **`Content::decode ∘ Content::encode = id`** on operation lists made of the text operators
BT ET Tf Tj TJ with operands `operand` reads back unchanged (names, strings, non-negative integers,
arrays of hexadecimal strings: the `c16e_operand_*` above) — any number of operations, any operand values -/
theorem c16e_decode_encode (ops : List Operation) (h : ∀ op ∈ ops, C16eOp op) :
    decodeContent (encodeContent ops) = .ok ops := by
  rw [ContentRt.decodeContent_rt c16e_readBack ops h, List.map_id]

/-- one text-showing operation: `Tj` with a literal or hexadecimal string, or `TJ` with an array
of hexadecimal strings -/
inductive C16eShow where
  | tj (s : UStr) (f : StrFmt)
  | tjArr (ss : List UStr)

/-- the operation as `Content::encode` receives it: strings encoded with `string_to_bytes` -/
def C16eShow.op (t : Table) : C16eShow → Operation
  | .tj s f => { operator := OP_TJ, operands := [Obj.str (stringToBytes t s) f] }
  | .tjArr ss => { operator := OP_TJ_ARR, operands := [Obj.arr ((ss.map (stringToBytes t)).map fun b => Obj.str b .hex)] }

/-- the text the operation shows, as `extract_text` renders it (a `TJ` array is followed by one space) -/
def C16eShow.text : C16eShow → UStr
  | .tj s _ => s
  | .tjArr ss => ss.flatten ++ [32]

/-- strings over the table's repertoire. The clause on literal strings (no parenthesis byte in the encoded
text) is carried by the statements and used by no proof: C14's `operand_rt` rests on C01's full `lit_rt`,
which needs no such guard. -/
def C16eShow.Ok (t : Table) : C16eShow → Prop
  | .tj s f => (∀ c ∈ s, Scalar c) ∧ (∀ u ∈ stdEncodeUtf16 s, some u ∈ t) ∧ (f = .lit → NoParens (stringToBytes t s))
  | .tjArr ss => ∀ s ∈ ss, (∀ c ∈ s, Scalar c) ∧ (∀ u ∈ stdEncodeUtf16 s, some u ∈ t)

theorem c16e_collect_strs (t : Table) (hl : t.length ≤ 256) : ∀ (ss : List UStr) (text : UStr),
    (∀ s ∈ ss, (∀ c ∈ s, Scalar c) ∧ (∀ u ∈ stdEncodeUtf16 s, some u ∈ t)) →
    collectList (.oneByte t) text ((ss.map (stringToBytes t)).map fun b => Obj.str b .hex) = .ok (text ++ ss.flatten)
  | [], text, _ => by simp [collectList]
  | s :: ss, text, h => by
    have h1 := h s (by simp)
    rw [List.map_cons, List.map_cons, collectList_cons_str t hl s h1.1 h1.2,
      c16e_collect_strs t hl ss (text ++ s) (fun x hx => h x (by simp [hx])), List.flatten_cons, List.append_assoc]

theorem c16e_extractLoop_shows (encs : List (Bytes × Enc)) (t : Table) (hl : t.length ≤ 256) :
    ∀ (shows : List C16eShow) (rest : List (Bytes × List Obj)) (st : XState),
      st.cur = some (.oneByte t) → (∀ p ∈ shows, p.Ok t) →
      extractLoop encs (opsView (shows.map (C16eShow.op t)) ++ rest) st
        = extractLoop encs rest { st with text := st.text ++ (shows.map C16eShow.text).flatten }
  | [], rest, st, _, _ => by simp [opsView]
  | p :: shows, rest, st, hc, hs => by
    have h1 := hs p (by simp)
    have ih := fun st' (hc' : st'.cur = some (.oneByte t)) =>
      c16e_extractLoop_shows encs t hl shows rest st' hc' (fun x hx => hs x (by simp [hx]))
    simp only [opsView] at ih ⊢
    cases p with
    | tj s f =>
      rw [List.map_cons, List.map_cons, List.cons_append, C16eShow.op,
        extractLoop_show encs (.inl rfl) _ _ st hc (collectList_cons_str t hl s h1.1 h1.2.1 f st.text []),
        ih { st with text := st.text ++ s } hc]
      simp [C16eShow.text, List.append_assoc]
    | tjArr ss =>
      rw [List.map_cons, List.map_cons, List.cons_append,
        C16eShow.op,
        extractLoop_show encs (.inr rfl) _ _ st hc (collectList_arr _ _ _ (c16e_collect_strs t hl ss st.text h1)),
        ih { st with text := st.text ++ ss.flatten ++ [32] } hc]
      simp [C16eShow.text, List.append_assoc]

/-- the content operations of a page that selects font `fname` at `size` and shows `shows` in one text object -/
def c16eShowOps (fname : Bytes) (size : Nat) (t : Table) (shows : List C16eShow) : List Operation :=
  { operator := [66, 84], operands := [] } ::
  { operator := OP_TF, operands := [.name fname, .int (Int.ofNat size)] } ::
  (shows.map (C16eShow.op t) ++ [{ operator := OP_ET, operands := [] }])

theorem C16eShow.op_good (t : Table) (p : C16eShow) (h : p.Ok t) : C16eOp (p.op t) := by
  cases p with
  | tj s f =>
    refine ⟨c16eTextOps_mem.2.2.2.1, fun o ho => ?_⟩
    obtain rfl := List.mem_singleton.mp ho
    cases f with
    | hex => exact c16e_operand_hex _
    | lit => exact c16e_operand_lit _ (h.2.2 rfl)
  | tjArr ss =>
    refine ⟨c16eTextOps_mem.2.2.2.2, fun o ho => ?_⟩
    obtain rfl := List.mem_singleton.mp ho
    exact c16e_operand_hexarr _

theorem c16e_showOps_good (fname : Bytes) (size : Nat) (hsize : size ≤ I64_MAX) (t : Table) (shows : List C16eShow)
    (hs : ∀ p ∈ shows, p.Ok t) : ∀ op ∈ c16eShowOps fname size t shows, C16eOp op := by
  intro op hop
  simp only [c16eShowOps, List.mem_cons, List.mem_append, List.mem_map, List.not_mem_nil, or_false] at hop
  rcases hop with rfl | rfl | ⟨p, hp, rfl⟩ | rfl
  · exact ⟨c16eTextOps_mem.1, by simp⟩
  · refine ⟨c16eTextOps_mem.2.2.1, fun o ho => ?_⟩
    simp only [List.mem_cons, List.not_mem_nil, or_false] at ho
    rcases ho with rfl | rfl
    · exact c16e_operand_name fname
    · exact c16e_operand_nat size hsize
  · exact C16eShow.op_good t p (hs p hp)
  · exact ⟨c16eTextOps_mem.2.1, by simp⟩

/-- **Extraction, end to end on the model.** For every font dictionary whose encoding is a
predefined one-byte table `t`, every font size, and every list of text-showing operations over
`t`'s repertoire — `Tj` with a hexadecimal string, `Tj` with a literal string, `TJ` with an array of hexadecimal strings — the bytes
`Content::encode` produces for `BT /F size Tf … ET` are decoded by `Content::decode` to the same
operations, and `extract_text` returns exactly the shown strings in order (one space after each
`TJ` array) followed by the newline `ET` contributes. -/
theorem c16e_extract_end_to_end (fname : Bytes) (font : Dict) (t : Table) (size : Nat) (shows : List C16eShow)
    (hf : getFontEncoding font = some (.oneByte t)) (hsize : size ≤ I64_MAX) (hs : ∀ p ∈ shows, p.Ok t) :
    let shown := (shows.map C16eShow.text).flatten
    decodeContent (encodeContent (c16eShowOps fname size t shows)) = .ok (c16eShowOps fname size t shows) ∧
    extractTextOfContent [(fname, font)] (encodeContent (c16eShowOps fname size t shows))
      = .ok (if shown.getLast? = some 10 then shown else shown ++ [10]) := by
  intro shown
  have hl := font_table_length hf
  have hdec := c16e_decode_encode _ (c16e_showOps_good fname size hsize t shows hs)
  refine ⟨hdec, ?_⟩
  have hview : opsView (c16eShowOps fname size t shows) =
      ([66, 84], []) :: (OP_TF, [.name fname, .int (Int.ofNat size)]) ::
        (opsView (shows.map (C16eShow.op t)) ++ [(OP_ET, [])]) := by
    simp [opsView, c16eShowOps]
  simp only [extractTextOfContent, hdec, hview, extractText, fontEncodings, hf]
  rw [extractLoop_other _ (by decide), extractLoop_Tf, c16e_extractLoop_shows _ t hl shows _ _ (by simp [lookupEnc]) hs,
    extractLoop_ET]
  simp [extractLoop, shown]

/-- non-vacuity: "Hé€" as a literal string, "!" as a hexadecimal string, then a TJ array, in WinAnsi -/
example : (C16eShow.tj [0x48, 0xE9, 0x20AC] .lit).Ok WIN_ANSI_ENCODING ∧ (C16eShow.tj [0x21] .hex).Ok WIN_ANSI_ENCODING
    ∧ (C16eShow.tjArr [[0x41], [0x42, 0x43]]).Ok WIN_ANSI_ENCODING := by
  refine ⟨⟨by decide, by decide +kernel, fun _ => ?_⟩, ⟨by decide, by decide +kernel, fun h => by cases h⟩, ?_⟩
  · have e : stringToBytes WIN_ANSI_ENCODING [0x48, 0xE9, 0x20AC] = [72, 233, 128] := by decide +kernel
    rw [e]
    intro b hb
    simp only [List.mem_cons, List.not_mem_nil, or_false] at hb
    rcases hb with h | h | h <;> subst h <;> decide
  · intro s hs
    simp only [List.mem_cons, List.not_mem_nil, or_false] at hs
    rcases hs with rfl | rfl <;> exact ⟨by decide, by decide +kernel⟩

end Lopdf
