import LopdfModel.Lemmas.Lex
import LopdfModel.Lemmas.Lit
import LopdfModel.Lemmas.Num
import LopdfModel.Model.File
/-
  C01 — token layer.  Each theorem states: what `Writer` writes for a value is read back by the
  corresponding grammar function of `parser/mod.rs` as the same value, for EVERY value, followed
  by ANY text that starts where the separator logic lets it start.  The composition through the
  `alt` order of `_direct_objects` is `ObjRt.obj_rt` (`Thm/C01Obj.lean`), through whole files
  `FileRT.file_rt_table` / `file_rt_stream` (`Thm/FileRt.lean`).
-/
namespace Lopdf
open Gen

/-- **Names.** Any byte string (delimiters, `#`, NUL, CR/LF, 0x80–0xFF …) written by
`write_name` is read back by `name` exactly, followed by any text that starts with a
non-regular byte (or nothing). -/
theorem name_rt (n : Bytes) (rest : Bytes) (h : NameStop rest) :
    pName (writeName n ++ rest) = some (n, rest) := by
  simp only [writeName, List.cons_append, pName]
  rw [nameBody_write n _ rest h (by have := writeNameBody_length n; simp; omega)]

example : NameStop [32, 49] ∧ NameStop [] ∧ NameStop [47, 65] := by
  refine ⟨nameStop_cons (b := 32) _ (by decide), ?_, nameStop_cons (b := 47) _ (by decide)⟩
  intro b r h; cases h
example : pName (writeName [35, 0, 40, 255, 65] ++ [32]) = some ([35, 0, 40, 255, 65], [32]) :=
  name_rt _ _ (nameStop_cons (b := 32) _ (by decide))

/-- **Hexadecimal strings.** Every byte string written as `<…>` reads back exactly,
whatever follows. -/
theorem hexstr_rt (s : Bytes) (rest : Bytes) :
    pHexString (writeString s .hex ++ rest) = some (s, rest) := by
  simp only [writeString, List.cons_append, List.nil_append, List.append_assoc, pHexString]
  rw [hexBody_write s _ rest [] (by have := writeHexBody_length s; simp; omega)]
  simp [whiteSpace_nonws 62 rest (by decide)]

/-- **Integers.** Every `i64` written by `itoa` reads back through `integer` as the same
number, followed by any text that does not start with a digit. -/
theorem int_rt (i : Int) (rest : Bytes) (hlo : -(I64_MAX : Int) - 1 ≤ i) (hhi : i ≤ I64_MAX)
    (hr : NoDigitAhead rest) : pInteger (writeInt i ++ rest) = some (i, rest) := by
  obtain ⟨neg, m, e, rfl⟩ := ObjRt.writeInt_shape i
  rw [e, ObjRt.pInteger_inttext neg _ rest (natDigits_ne_nil m) (natDigits_all_digit m) hr,
    digitsVal_natDigits]
  cases neg
  · have : m ≤ I64_MAX := by simpa using hhi
    simp [this]
  · have : m ≤ I64_MAX + 1 := by simp at hlo; omega
    simp [this]

example : NoDigitAhead [32, 48] := noDigitAhead_cons (b := 32) _ (by decide)
example : pInteger (writeInt (-9223372036854775808) ++ [93]) = some (-9223372036854775808, [93]) :=
  int_rt _ _ (by decide) (by decide) (noDigitAhead_cons (b := 93) _ (by decide))

/-- **Literal strings without parentheses.** Arbitrary bytes otherwise — backslash, CR, LF, NUL,
0x80–0xFF — for every following text: the case of `LitRt.lit_rt_full` in which only `\` and CR
are escaped (`writeString_lit_noparens`). -/
theorem lit_rt_partial (s rest : Bytes) (hs : NoParens s) :
    pLiteral (writeString s .lit ++ rest) = some (s, rest) :=
  have _ := hs  -- not needed: the theorem holds for every string
  LitRt.lit_rt_full s rest

example : NoParens [92, 13, 10, 0, 255, 65] := by unfold NoParens; decide
example : pLiteral (writeString [92, 13, 10, 0, 255] .lit ++ [62, 62]) = some ([92, 13, 10, 0, 255], [62, 62]) :=
  lit_rt_partial _ _ (by unfold NoParens; decide)

end Lopdf

namespace Lopdf
open Gen

/-- the decimal texts `Display` prints for non-integral finite reals (and the writer's `….0`
form): optional minus, at least one digit, a point, any digits -/
structure IsDecimal (t : Bytes) : Prop where
  parts : ∃ (neg : Bool) (d1 d2 : Bytes), t = (if neg then [45] else []) ++ d1 ++ [46] ++ d2
    ∧ d1 ≠ [] ∧ (∀ b ∈ d1, isDigit b = true) ∧ (∀ b ∈ d2, isDigit b = true)

theorem ObjRt.decimal_shape (t : Bytes) (h : IsDecimal t) : ∃ (neg : Bool) (d1 d2 : Bytes),
    t = ObjRt.sgn neg ++ d1 ++ 46 :: d2 ∧ d1 ≠ [] ∧ ObjRt.AllDigits d1 ∧ ObjRt.AllDigits d2 := by
  obtain ⟨neg, d1, d2, rfl, hne, h1, h2⟩ := h.parts
  exact ⟨neg, d1, d2, by simp [ObjRt.sgn], hne, h1, h2⟩

/-- **Reals (text level).** Every such decimal text is read back by `real` as exactly that
text, followed by anything that does not start with a digit; `f32::from_str ∘ Display = id`
(Rust std) then gives the same real. -/
theorem real_rt (t rest : Bytes) (h : IsDecimal t) (hr : NoDigitAhead rest) :
    pReal (t ++ rest) = some (t, rest) := by
  obtain ⟨neg, d1, d2, rfl, hne, h1, h2⟩ := ObjRt.decimal_shape t h
  have e : ObjRt.sgn neg ++ d1 ++ 46 :: d2 ++ rest = ObjRt.sgn neg ++ d1 ++ 46 :: (d2 ++ rest) := by simp
  rw [e, ObjRt.pReal_sgn_digits neg d1 _ hne h1 (noDigitAhead_cons _ (by decide))]
  simp [spanP_append isDigit d2 rest h2 hr]

example : IsDecimal [45, 48, 46, 53] :=
  ⟨⟨true, [48], [53], rfl, by simp, by decide, by decide⟩⟩

end Lopdf
