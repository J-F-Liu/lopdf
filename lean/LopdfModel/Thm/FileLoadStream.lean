import LopdfModel.Thm.FileLoad
import LopdfModel.Thm.FileXrefStream
import LopdfModel.Thm.C01Indirect
/-
  C01/C03 (file level) — loading a file saved with a cross-reference STREAM reconstructs the
  table the writer recorded: `xref_and_trailer` falls through `xref` to `indirect_object`,
  reads the stream through its `Length`, and `decode_xref_stream` returns the entries. The reader
  also finds the cross-reference stream object itself, recorded under the number `max_id + 1`.
-/
namespace Lopdf.FileRT
open Lopdf Gen

theorem digit_ne_x {a : UInt8} (h : isDigit a = true) : ¬ 120 = a := by
  rintro rfl
  exact absurd h (by decide)

def ENDOBJ_TAIL : Bytes := [10, 101, 110, 100, 111, 98, 106, 10]

/-- `indirect_object` + `stream` read the written cross-reference stream object back -/
theorem pIndirect_xrefStreamN (len : ObjId → Option Int) (base : Nat) (N : Nat) (tr tr' : Dict) (content tail : Bytes) (hN : N ≤ U32_MAX)
    (hL : tr'.get LENGTH = some (.int content.length))
    (hD : DictReadsBackN tr tr' (STREAM_KW ++ (content ++ (ENDSTREAM_KW ++ 32 :: (ENDOBJ_TAIL ++ tail))))) :
    pIndirect len none base (writeIndirect N 0 (.stream tr content) ++ tail)
      = some ((N, 0), .plain (.stream (tr'.set LENGTH (.int content.length)) content)) := by
  -- the header `N 0 obj` is read as for every written object; what is left is `stream` on the written stream
  obtain ⟨off, e⟩ := ObjRt.pIndirect_written len none base N 0 (.stream tr content) tail hN (by decide) (Or.inl rfl)
    ⟨60, _, rfl, by decide, by decide⟩
  generalize hrs : STREAM_KW ++ (content ++ (ENDSTREAM_KW ++ 32 :: (ENDOBJ_TAIL ++ tail))) = restS at hD
  have hin : writeObj (.stream tr content) ++ ObjRt.endObjTail (.stream tr content) tail
      = writeObj (.dict tr) ++ restS := by
    simp [writeObj, ObjRt.endObjTail, needEndSeparator, ← hrs, ENDOBJ_TAIL]
  have hst : pStream len (writeObj (.dict tr) ++ restS)
      = .ok (.plain (.stream (tr'.set LENGTH (.int content.length)) content)) (32 :: (ENDOBJ_TAIL ++ tail)) := by
    unfold DictReadsBackN at hD
    have s5 : space restS = restS := by
      rw [← hrs]; exact ObjRt.space_head _ ⟨115, _, rfl, by decide, by decide⟩
    have t2 : tag STREAM_WORD restS = some (10 :: (content ++ (ENDSTREAM_KW ++ 32 :: (ENDOBJ_TAIL ++ tail)))) := by
      rw [← hrs]; exact tag_append STREAM_WORD _
    have s6 : space0 (10 :: (content ++ (ENDSTREAM_KW ++ 32 :: (ENDOBJ_TAIL ++ tail))))
        = 10 :: (content ++ (ENDSTREAM_KW ++ 32 :: (ENDOBJ_TAIL ++ tail))) := rfl
    have hlen : ¬ (content ++ (ENDSTREAM_KW ++ 32 :: (ENDOBJ_TAIL ++ tail))).length < content.length := by
      simp only [List.length_append]; omega
    have hneg : ¬ ((content.length : Int) < 0) := by omega
    unfold pStream
    simp only [hD, s5, t2, s6, eol, hL, hneg, if_false, Int.toNat_natCast, hlen, List.take_left', List.drop_left']
    simp [ENDSTREAM_KW, ENDSTREAM_WORD, tag]
  rw [e, ObjRt.afterHeader, hin, hst]

/-- `xref_and_trailer` on a written cross-reference stream object = `decode_xref_stream` of it -/
theorem xrefAndTrailer_xrefStreamN (N : Nat) (tr tr' : Dict) (content tail : Bytes) (hN : N ≤ U32_MAX)
    (hL : tr'.get LENGTH = some (.int content.length))
    (hD : DictReadsBackN tr tr' (STREAM_KW ++ (content ++ (ENDSTREAM_KW ++ 32 :: (ENDOBJ_TAIL ++ tail))))) :
    xrefAndTrailer (writeIndirect N 0 (.stream tr content) ++ tail)
      = decodeXrefStream (tr'.set LENGTH (.int content.length)) content := by
  have hx : pXref (writeIndirect N 0 (.stream tr content) ++ tail) = .ok none := by
    obtain ⟨a, as, hda, ha⟩ := ObjRt.natDigits_head N
    unfold pXref
    simp [writeIndirect, hda, pXref.XREF_WORD, tag, digit_ne_x ha]
  unfold xrefAndTrailer
  rw [hx]
  simp only [xrefAndTrailer.xrefStreamAlt, pIndirect_xrefStreamN (fun _ => none) 0 N tr tr' content tail hN hL hD]

theorem pIndirect_xrefStream (len : ObjId → Option Int) (base : Nat) (N : Nat) (tr : Dict) (content tail : Bytes) (hN : N ≤ U32_MAX)
    (hL : tr.get LENGTH = some (.int content.length))
    (hD : DictReadsBack tr (STREAM_KW ++ (content ++ (ENDSTREAM_KW ++ 32 :: (ENDOBJ_TAIL ++ tail))))) :
    pIndirect len none base (writeIndirect N 0 (.stream tr content) ++ tail)
      = some ((N, 0), .plain (.stream (tr.set LENGTH (.int content.length)) content)) :=
  pIndirect_xrefStreamN len base N tr tr content tail hN hL hD

/-! ### the dictionary `create_xref_steam` builds -/

/-- keys the writers do not touch -/
def FreeKey (k : Bytes) : Prop := ¬ TYPE = k ∧ ¬ SIZE = k ∧ ¬ W_KEY = k ∧ ¬ INDEX = k ∧ ¬ FILTER = k ∧ ¬ LENGTH = k

theorem freeKey_PREV : FreeKey PREV := by unfold FreeKey; decide
theorem freeKey_XREFSTM : FreeKey XREFSTM := by unfold FreeKey; decide
theorem freeKey_ENCRYPT : FreeKey ENCRYPT := by unfold FreeKey; decide

section
variable (pre : Bytes) (d : SDoc) (hnd : d.trailer.keys.Nodup)
include hnd

/-- look-up in the stream dictionary: the six keys the writer touches, then the document's trailer -/
theorem streamTrailer_get (k : Bytes) :
    (streamTrailer pre d).get k =
      if LENGTH = k then some (.int (xrefStreamContent (streamSecs (xmapStream pre d) (d.maxId + 1))).length)
      else if FILTER = k then none
      else if INDEX = k then some (xrefStreamIndex (streamSecs (xmapStream pre d) (d.maxId + 1)))
      else if W_KEY = k then some (.arr (XREF_W.map fun (w : Nat) => Obj.int (Int.ofNat w)))
      else if SIZE = k then some (.int (d.maxId + 1 + 1))
      else if TYPE = k then some (.name XREF_NAME) else d.trailer.get k := by
  simp only [streamTrailer, Dict.get_set,
    Dict.get_remove (Dict.nodup_set (Dict.nodup_set (Dict.nodup_set (Dict.nodup_set hnd _ _) _ _) _ _) _ _)]

theorem streamTrailer_nodup : (streamTrailer pre d).keys.Nodup :=
  Dict.nodup_set (Dict.nodup_remove
    (Dict.nodup_set (Dict.nodup_set (Dict.nodup_set (Dict.nodup_set hnd _ _) _ _) _ _) _ _) _) _ _

theorem streamTrailer_get_length : (streamTrailer pre d).get LENGTH
    = some (.int (xrefStreamContent (streamSecs (xmapStream pre d) (d.maxId + 1))).length) := by
  rw [streamTrailer_get pre d hnd]; rfl

/-- the five entries `decode_xref_stream` uses -/
theorem streamTrailer_facts :
    (streamTrailer pre d).has FILTER = false ∧
    (streamTrailer pre d).get SIZE = some (.int ((d.maxId + 1 + 1 : Nat) : Int)) ∧
    (streamTrailer pre d).get INDEX = some (xrefStreamIndex (streamSecs (xmapStream pre d) (d.maxId + 1))) ∧
    (streamTrailer pre d).get W_KEY = some (.arr (XREF_W.map fun (w : Nat) => Obj.int (Int.ofNat w))) ∧
    (streamTrailer pre d).get LENGTH
      = some (.int (xrefStreamContent (streamSecs (xmapStream pre d) (d.maxId + 1))).length) := by
  refine ⟨?_, ?_, ?_, ?_, streamTrailer_get_length pre d hnd⟩
  · rw [Dict.has_eq, streamTrailer_get pre d hnd]; rfl
  · rw [streamTrailer_get pre d hnd]; rfl
  · rw [streamTrailer_get pre d hnd]; rfl
  · rw [streamTrailer_get pre d hnd]; rfl

/-- a save with a cross-reference stream keeps the trailer entries under the keys it does not set -/
theorem streamTrailer_get_free {k : Bytes} (hk : FreeKey k) : (streamTrailer pre d).get k = d.trailer.get k := by
  obtain ⟨h1, h2, h3, h4, h5, h6⟩ := hk
  simp only [streamTrailer_get pre d hnd, h1, h2, h3, h4, h5, h6, if_false]

theorem streamTrailer_get_type : (streamTrailer pre d).get TYPE = some (.name XREF_NAME) := by
  rw [streamTrailer_get pre d hnd]; rfl

end

/-- the trailer `decode_xref_stream` returns for a cross-reference-stream save -/
def streamTrailerRead (pre : Bytes) (d : SDoc) : Dict :=
  ((((streamTrailer pre d).set LENGTH
    (.int (xrefStreamContent (streamSecs (xmapStream pre d) (d.maxId + 1))).length)).remove LENGTH).remove W_KEY).remove INDEX

/-- writing the `Length` that is there and removing `Length`, `W`, `Index` -/
theorem streamTrailerRead_eq (pre : Bytes) (d : SDoc) (hnd : d.trailer.keys.Nodup) :
    streamTrailerRead pre d = (((streamTrailer pre d).remove LENGTH).remove W_KEY).remove INDEX := by
  rw [streamTrailerRead, Dict.set_of_get (streamTrailer_get_length pre d hnd)]

theorem streamTrailerRead_nodup (pre : Bytes) (d : SDoc) (hnd : d.trailer.keys.Nodup) :
    (streamTrailerRead pre d).keys.Nodup := by
  rw [streamTrailerRead_eq pre d hnd]
  exact Dict.nodup_remove (Dict.nodup_remove (Dict.nodup_remove (streamTrailer_nodup pre d hnd) _) _) _

/-- **`swap_remove` on distinct keys**: the key is gone, every other key keeps its value -/
theorem Dict_get_remove (d : Dict) (k k' : Bytes) (hn : d.keys.Nodup) :
    (d.remove k).get k' = if k = k' then none else d.get k' :=
  Dict.get_remove hn k k'

theorem get_remove3 {T : Dict} (hn : T.keys.Nodup) {k : Bytes} (hk : FreeKey k) :
    (((T.remove LENGTH).remove W_KEY).remove INDEX).get k = T.get k := by
  rw [Dict.get_remove (Dict.nodup_remove (Dict.nodup_remove hn _) _), if_neg hk.2.2.2.1,
    Dict.get_remove (Dict.nodup_remove hn _), if_neg hk.2.2.1, Dict.get_remove hn, if_neg hk.2.2.2.2.2]

theorem streamTrailerRead_get_free (pre : Bytes) (d : SDoc) (hnd : d.trailer.keys.Nodup) {k : Bytes}
    (hk : FreeKey k) : (streamTrailerRead pre d).get k = d.trailer.get k := by
  rw [streamTrailerRead_eq pre d hnd, get_remove3 (streamTrailer_nodup pre d hnd) hk]
  exact streamTrailer_get_free pre d hnd hk

/-- the cross-reference stream object a stream-style save appends to `pre` -/
def xrefObjP (pre : Bytes) (d : SDoc) : Obj :=
  .stream (streamTrailer pre d) (xrefStreamContent (streamSecs (xmapStream pre d) (d.maxId + 1)))

/-- the cross-reference stream object a stream save writes -/
def xrefObj (d : SDoc) : Obj :=
  .stream (streamTrailer [] d) (xrefStreamContent (streamSecs (xmapStream [] d) (d.maxId + 1)))

theorem xrefObj_eq (d : SDoc) : xrefObj d = xrefObjP [] d := rfl

/-- the objects a reader finds in a stream save: the document's and the cross-reference stream -/
def objectsWithXref (d : SDoc) : Objects := d.objects ++ [((d.maxId + 1, 0), xrefObj d)]

/-- **`xref_and_trailer` on the cross-reference stream object of a save**, its dictionary read back
as `tr'` (the dictionary itself, or its normal form) with the five entries the decoder uses -/
theorem xrefAndTrailer_streamSave (pre : Bytes) (d : SDoc) (tail : Bytes) (tr' : Dict)
    (hg : GensOk d) (hmax : d.maxId + 2 ≤ 4294967295)
    (hD : DictReadsBackN (streamTrailer pre d) tr'
      (STREAM_KW ++ (xrefStreamContent (streamSecs (xmapStream pre d) (d.maxId + 1))
        ++ (ENDSTREAM_KW ++ 32 :: (ENDOBJ_TAIL ++ tail)))))
    (hF : tr'.has FILTER = false) (hS : tr'.get SIZE = some (.int ((d.maxId + 1 + 1 : Nat) : Int)))
    (hI : tr'.get INDEX = some (xrefStreamIndex (streamSecs (xmapStream pre d) (d.maxId + 1))))
    (hW : tr'.get W_KEY = some (.arr (XREF_W.map fun (w : Nat) => Obj.int (Int.ofNat w))))
    (hL : tr'.get LENGTH = some (.int (xrefStreamContent (streamSecs (xmapStream pre d) (d.maxId + 1))).length)) :
    ∃ table, xrefAndTrailer (writeIndirect (d.maxId + 1) 0 (xrefObjP pre d) ++ tail)
        = .ok (table, d.maxId + 2, ((tr'.remove LENGTH).remove W_KEY).remove INDEX) ∧
      (∀ n, table.get n = if 1 ≤ n ∧ n < d.maxId + 2 then normalOf (xmapStream pre d) n else none) ∧
      (table.map (·.1)).Nodup := by
  obtain ⟨table, hdec, hget, hnodup⟩ := xref_stream_rt (xmapStream pre d) (d.maxId + 1) tr'
    ((d.maxId + 1 + 1 : Nat) : Int) (xmapStream_ok pre d hg) (by omega)
    ⟨d.maxId + 1, by omega, by omega, by simp [xmapStream, XrefMap.get_insert_same]⟩ hF hS hI hW
  have hmod := toNat_emod_U32 (d.maxId + 1 + 1) (by omega)
  refine ⟨table, ?_, fun n => ?_, hnodup⟩
  · rw [xrefObjP, xrefAndTrailer_xrefStreamN (d.maxId + 1) (streamTrailer pre d) tr' _ tail
      (by simp only [U32_MAX]; omega) hL hD, Dict.set_of_get hL, hdec, hmod]
  · rw [hget n]
    have : (1 ≤ n ∧ n ≤ d.maxId + 1) ↔ (1 ≤ n ∧ n < d.maxId + 2) := by omega
    simp only [this]

theorem offsetsOk_stream (pre : Bytes) (d : SDoc) (tail : Bytes) (hlen : (bodyOf pre d).length < 4294967296) :
    OffsetsOk (bodyOf pre d ++ (writeIndirect (d.maxId + 1) 0 (xrefObjP pre d) ++ tail)) (xmapStream pre d) :=
  (save_offsets pre d hlen).insert hlen _ _ _ tail

/-- the cross-reference section of a stream save, read where `startxref` points: the recorded table
(the stream's own entry included) and the stream dictionary minus `Length`, `W`, `Index` -/
theorem stream_section_of_save (pre : Bytes) (d : SDoc) (out : Bytes) (d' : SDoc)
    (hk : d.xrefKind = .stream) (h : saveFrom pre d = some (out, d'))
    (hmax : d.maxId + 2 ≤ 4294967295) (hg : GensOk d) (hnd : d.trailer.keys.Nodup)
    (hD : DictReadsBack d'.trailer (STREAM_KW ++ (xrefStreamContent (streamSecs (xmapStream pre d) (d.maxId + 1))
      ++ (ENDSTREAM_KW ++ 32 :: (ENDOBJ_TAIL ++ (STARTXREF_KW ++ natDigits (bodyOf pre d).length ++ EOF_KW)))))) :
    ∃ table, xrefAndTrailer (out.drop (bodyOf pre d).length) = .ok (table, d.maxId + 2, streamTrailerRead pre d) ∧
      (∀ n, table.get n = if 1 ≤ n ∧ n < d.maxId + 2 then normalOf (xmapStream pre d) n else none) ∧
      (table.map (·.1)).Nodup := by
  obtain ⟨hout, htr⟩ := saveFrom_stream_eq pre d out d' hk h
  rw [htr] at hD
  obtain ⟨f1, f2, f3, f4, f5⟩ := streamTrailer_facts pre d hnd
  obtain ⟨table, hxt, hget, hnodup⟩ := xrefAndTrailer_streamSave pre d _ (streamTrailer pre d) hg hmax hD
    f1 f2 f3 f4 f5
  refine ⟨table, ?_, hget, hnodup⟩
  rw [streamTrailerRead_eq pre d hnd, hout]
  simp only [List.append_assoc]
  rw [List.drop_left]
  exact hxt

/-- **Loading a cross-reference-stream save reconstructs the writer's table (C01/C03).** For every
document saved with a cross-reference stream (file < 4 GiB, `Size = max_id + 2 ≤ u32::MAX`, `u16`
generations, distinct trailer keys — an `IndexMap`) whose stream dictionary reads back
(object-level round trip): the reader finds `startxref`; `xref_and_trailer` there fails over from
`xref` to `indirect_object`, reads the stream through `Length`, and `decode_xref_stream` returns
a table that holds `normal off g` for object `n` iff `1 ≤ n ≤ max_id + 1` and the writer
recorded `n ↦ (off, g)` — including the entry of the cross-reference stream itself; hence every
entry the reader holds points at the bytes `n g obj\n` of the file. `Size` = `max_id + 2`. -/
theorem load_xref_of_save_stream (pre : Bytes) (d : SDoc) (out : Bytes) (d' : SDoc)
    (hk : d.xrefKind = .stream) (h : saveFrom pre d = some (out, d')) (hlen : out.length < 4294967296)
    (hmax : d.maxId + 2 ≤ 4294967295) (hg : GensOk d) (hnd : d.trailer.keys.Nodup)
    (hD : DictReadsBack d'.trailer (STREAM_KW ++ (xrefStreamContent (streamSecs (xmapStream pre d) (d.maxId + 1))
      ++ (ENDSTREAM_KW ++ 32 :: (ENDOBJ_TAIL ++ (STARTXREF_KW ++ natDigits (bodyOf pre d).length ++ EOF_KW)))))) :
    ∃ xs table, getXrefStart out = some xs ∧ xs ≤ out.length ∧
      xrefAndTrailer (out.drop xs) = .ok (table, d.maxId + 2, streamTrailerRead pre d) ∧
      (∀ n, table.get n = if 1 ≤ n ∧ n ≤ d.maxId + 1 then normalOf (xmapStream pre d) n else none) ∧
      (∀ n off g, table.get n = some (.normal off g) → HeaderAt out off n g) ∧
      (table.map (·.1)).Nodup := by
  have hb := body_le_out pre d out d' h
  obtain ⟨table, hxt, hget, hnodup⟩ := stream_section_of_save pre d out d' hk h hmax hg hnd hD
  refine ⟨_, table, startxref_found pre d out d' h hlen, hb, hxt, fun n => ?_, ?_, hnodup⟩
  · rw [hget n]
    have : (1 ≤ n ∧ n < d.maxId + 2) ↔ (1 ≤ n ∧ n ≤ d.maxId + 1) := by omega
    simp only [this]
  · rw [(saveFrom_stream_eq pre d out d' hk h).1]
    simp only [List.append_assoc]
    exact headerAt_of_table hget (offsetsOk_stream pre d _ (by omega))

section
variable (pre : Bytes) (d : SDoc) (hwf : DocWF d)
include hwf

theorem objects_get_xrefNumber (g : Nat) : d.objects.get (d.maxId + 1, g) = none := by
  cases hg : d.objects.get (d.maxId + 1, g) with
  | none => rfl
  | some o =>
    have := (hwf.range _ (Objects.get_mem hg)).2
    simp only at this
    omega

theorem revObjs_stream_get (id : ObjId) :
    (d.objects ++ [((d.maxId + 1, 0), xrefObjP pre d)]).get id
      = if id = (d.maxId + 1, 0) then some (xrefObjP pre d) else d.objects.get id := by
  rw [Objects_get_append]
  split
  · rename_i h; rw [h, objects_get_xrefNumber d hwf 0]; simp [Objects.get]
  · rename_i h
    cases d.objects.get id <;> simp [Objects.get, Ne.symm h]

/-- the file of a cross-reference-stream save (and every extension of it) holds the document's
objects and the cross-reference stream object at their recorded offsets -/
theorem stream_recorded (hnd : d.trailer.keys.Nodup) (tail : Bytes) (hlen : (bodyOf pre d).length < 4294967296) :
    Recorded (bodyOf pre d ++ (writeIndirect (d.maxId + 1) 0 (xrefObjP pre d) ++ tail)) (xmapStream pre d)
      (d.objects ++ [((d.maxId + 1, 0), xrefObjP pre d)]) := by
  -- the object loop with the cross-reference stream object already among the objects to find, then that object
  have hbody := writeObjects_recorded (d.objects ++ [((d.maxId + 1, 0), xrefObjP pre d)]) d.objects (hdrOf pre d) []
    (fun _ _ _ hg => by cases hg)
    (fun p hp => by
      rw [revObjs_stream_get pre d hwf, if_neg, Objects_get_of_mem d.objects hwf.nodup p hp]
      intro e
      have := (hwf.range p hp).2
      rw [e] at this
      simp only at this
      omega)
    hlen
  refine hbody.insert hlen (by rw [revObjs_stream_get pre d hwf, if_pos rfl]) ?_ tail
  show Dict.getTypeIs (streamTrailer pre d) OBJSTM = false
  unfold Dict.getTypeIs
  rw [streamTrailer_get_type pre d hnd]
  rfl

theorem stream_complete (id : ObjId) (o : Obj)
    (h : (d.objects ++ [((d.maxId + 1, 0), xrefObjP pre d)]).get id = some o) :
    1 ≤ id.1 ∧ id.1 ≤ d.maxId + 1 ∧ ∃ off, (xmapStream pre d).get id.1 = some (off, id.2) := by
  rw [revObjs_stream_get pre d hwf] at h
  split at h
  · rename_i e
    rw [e]
    exact ⟨by simp, by simp, _, XrefMap.get_insert_same _ _ _⟩
  · obtain ⟨h1, h2, off, hx⟩ := xmapOf_complete pre d hwf id o h
    refine ⟨h1, by omega, off, ?_⟩
    rw [xmapStream, XrefMap.get_insert_other _ _ _ _ (by omega)]
    exact hx

end

end Lopdf.FileRT
