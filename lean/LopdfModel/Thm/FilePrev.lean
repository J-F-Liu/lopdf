import LopdfModel.Thm.C07
/-
  C07 (file level) — **the `Prev` loop of `Reader::read` computes `mergeChain`**: on a file whose
  cross-reference sections are chained by `Prev` (any number of revisions, tables or streams),
  `prevLoop` returns the newest-first or-insert merge of the sections' tables, so
  `chain_latest_wins` describes what the reader actually holds.  The `already_seen` guard cuts
  cycles: a `Prev` that points at an offset already visited ends the walk.
-/
namespace Lopdf.FileRT
open Lopdf Gen

/-- the revisions the `Prev` walk visits from `prevObj` on: (offset, table, trailer) of each
older section in visiting order. It ends when `Prev` is absent / not an integer, or points at an
offset already seen (cycle cut). -/
def ChainOk (buf : Bytes) : Option Obj → List Int → List (Int × XTable × Dict) → Prop
  | prevObj, seen, [] =>
    match prevObj.bind Obj.asInt with
    | none => True
    | some p => p ∈ seen
  | prevObj, seen, (p, X, T) :: rest =>
    prevObj.bind Obj.asInt = some p ∧ p ∉ seen ∧ 0 ≤ p ∧ p.toNat ≤ buf.length ∧
    (∃ sz, xrefAndTrailer (buf.drop p.toNat) = .ok (X, sz, T)) ∧
    ChainOk buf (T.get PREV) (p :: seen) rest

/-- **`prevLoop` = `mergeChain` (any chain length, any fuel that covers it).** -/
theorem prevLoop_chain_fuel (buf : Bytes) (tr : Dict) (hstm : tr.get XREFSTM = none) :
    ∀ (chain : List (Int × XTable × Dict)) (fuel : Nat) (prevObj : Option Obj) (seen : List Int) (x : XTable),
    ChainOk buf prevObj seen chain → chain.length ≤ fuel →
    prevLoop buf fuel prevObj seen x tr = .ok (mergeChain (x :: chain.map (·.2.1)), tr) := by
  intro chain
  induction chain with
  | nil =>
    intro fuel prevObj seen x hc _
    simp only [ChainOk] at hc
    cases fuel with
    | zero => simp [prevLoop, mergeChain]
    | succ f =>
      simp only [prevLoop, List.map_nil, mergeChain, List.foldl_nil]
      cases hp : prevObj.bind Obj.asInt with
      | none => rfl
      | some p =>
        rw [hp] at hc
        simp only at hc
        simp [hc]
  | cons c rest ih =>
    intro fuel prevObj seen x hc hf
    obtain ⟨p, X, T⟩ := c
    obtain ⟨h1, h2, h3, h4, ⟨sz, h5⟩, h6⟩ := hc
    cases fuel with
    | zero => simp at hf
    | succ f =>
      have hnot : ¬ (p < 0 ∨ p.toNat > buf.length) := by omega
      have hcont : seen.contains p = false := by simpa using h2
      simp only [prevLoop, h1, hcont, Bool.false_eq_true, if_false, decide_eq_true_eq, Bool.or_eq_true, hnot,
        h5, hstm, hybridMerge, Option.bind_none, Dict.remove_of_get_none hstm]
      rw [ih f (T.get PREV) (p :: seen) (x.merge X) h6 (by simpa using hf)]
      simp [mergeChain]

/-! ### the reader's fuel always suffices -/

theorem pigeon : ∀ (n : Nat) (l : List Int), l.Nodup → (∀ a ∈ l, 0 ≤ a ∧ a ≤ (n : Int)) → l.length ≤ n + 1 := by
  intro n l hn hb
  -- `l` is a duplicate-free part of `0, …, n`
  have hsub : l ⊆ (List.range (n + 1)).map (fun k : Nat => (k : Int)) := fun a ha => by
    obtain ⟨h0, h1⟩ := hb a ha
    exact List.mem_map.mpr ⟨a.toNat, List.mem_range.mpr (by omega), by omega⟩
  simpa using hn.length_le_of_subset hsub

theorem ChainOk_offsets (buf : Bytes) : ∀ (chain : List (Int × XTable × Dict)) (prevObj : Option Obj) (seen : List Int),
    ChainOk buf prevObj seen chain →
    (chain.map (·.1)).Nodup ∧ (∀ p ∈ chain.map (·.1), p ∉ seen ∧ 0 ≤ p ∧ p ≤ (buf.length : Int)) := by
  intro chain
  induction chain with
  | nil => intro _ _ _; simp
  | cons c rest ih =>
    intro prevObj seen hc
    obtain ⟨p, X, T⟩ := c
    obtain ⟨_, h2, h3, h4, _, h6⟩ := hc
    obtain ⟨i1, i2⟩ := ih (T.get PREV) (p :: seen) h6
    constructor
    · simp only [List.map_cons, List.nodup_cons]
      refine ⟨?_, i1⟩
      intro hm
      exact (i2 p hm).1 (by simp)
    · intro q hq
      simp only [List.map_cons, List.mem_cons] at hq
      rcases hq with rfl | hq
      · exact ⟨h2, h3, by omega⟩
      · obtain ⟨a, b, c⟩ := i2 q hq
        exact ⟨fun hm => a (by simp [hm]), b, c⟩

/-- **The `Prev` loop of `Reader::read` (C07).** With the fuel the reader model uses
(`buf.length + 2` — one round per possible distinct offset), for every chain of revisions of
any length: the loop returns `mergeChain` of the newest table and the tables of the older
sections in `Prev` order, hence (`chain_latest_wins`) every object number resolves to the entry
of the NEWEST revision that defines it; the newest trailer is kept. Hypothesis `hstm`: the file
is not a hybrid-reference file (no `XRefStm` in the newest trailer). -/
theorem prevLoop_chain (buf : Bytes) (tr : Dict) (hstm : tr.get XREFSTM = none)
    (chain : List (Int × XTable × Dict)) (prevObj : Option Obj) (seen : List Int) (x : XTable)
    (hc : ChainOk buf prevObj seen chain) :
    prevLoop buf (buf.length + 2) prevObj seen x tr = .ok (mergeChain (x :: chain.map (·.2.1)), tr) ∧
    ∀ k, (mergeChain (x :: chain.map (·.2.1))).get k = (x :: chain.map (·.2.1)).findSome? (·.get k) := by
  obtain ⟨h1, h2⟩ := ChainOk_offsets buf chain prevObj seen hc
  have hl := pigeon buf.length (chain.map (·.1)) h1 (fun a ha => ⟨(h2 a ha).2.1, (h2 a ha).2.2⟩)
  simp only [List.length_map] at hl
  exact ⟨prevLoop_chain_fuel buf tr hstm chain _ prevObj seen x hc (by omega),
    fun k => chain_latest_wins _ k⟩

/-- non-vacuity and the cycle cut: a two-revision history whose oldest section points BACK at
the newer one (`Prev` cycle) — `ChainOk` holds with the walk ending at the repeated offset -/
example (buf : Bytes) (X1 X2 : XTable) (T1 T2 : Dict) (hb : 200 ≤ buf.length)
    (s1 : xrefAndTrailer (buf.drop 100) = .ok (X1, 5, T1)) (s2 : xrefAndTrailer (buf.drop 20) = .ok (X2, 3, T2))
    (p1 : T1.get PREV = some (.int 20)) (p2 : T2.get PREV = some (.int 100)) :
    ChainOk buf (some (.int 100)) [] [(100, X1, T1), (20, X2, T2)] := by
  refine ⟨rfl, by simp, by omega, by simp; omega, ⟨5, by simpa using s1⟩, ?_⟩
  rw [p1]
  refine ⟨rfl, by simp, by omega, by simp; omega, ⟨3, by simpa using s2⟩, ?_⟩
  rw [p2]
  simp [ChainOk, Obj.asInt]

end Lopdf.FileRT
