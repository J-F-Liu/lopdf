import LopdfModel.Thm.C14Inline
import LopdfModel.Thm.C01Sound
/-
  C14 — decode → encode → decode for inline images with the well-formedness hypothesis of
  `image_redecode` DISCHARGED by the soundness of the object parser: the entry values of a decoded
  inline image are parsed objects, hence well-formed and nested at most MAX_NESTING deep.
  The residue that remains a hypothesis is stated precisely: every real among the values is in
  `Display` form, and the data length fits i64.
-/
namespace Lopdf.Grammar
open Lopdf Gen
open Lopdf.ObjRt (WFD heightD normD)
open Lopdf.InlineRt

/-- the entry values of a decoded inline image are parsed objects -/
theorem inline_decoded_sound (inp : Bytes) (op : Operation) (r : Bytes) (h : inlineImageImpl inp = .ok op r) :
    ∃ d0 c, op = imageOp (Dict.set d0 imageDataStream.LENGTH_KEY (.int c.length)) c ∧
      WFParsedD d0 ∧ heightD d0 ≤ MAX_NESTING := by
  obtain ⟨d0, r1, r2, c, r3, hd, _, _, _, rfl⟩ := inlineImage_ok inp op r h
  have g := dict_sound (inp.length + 1) 0 (fun i o r hh => directObjects_sound _ 0 i o r hh) _ _ [] d0 r1 hd
    ⟨trivial, fun _ => by simp [heightD]⟩
  exact ⟨d0, c, rfl, g.1, by have := g.2 (by omega); omega⟩

theorem imageOp_inj (d d' : Dict) (c c' : Bytes) (h : imageOp d c = imageOp d' c') : d = d' ∧ c = c' := by
  unfold imageOp at h
  injection h with _ h2
  injection h2 with h3 _
  injection h3 with h4 h5
  exact ⟨h4, h5⟩

/-- **decode → encode → decode, hypothesis discharged.** Whatever inline image the decoder
returned: encoding it and decoding again returns EXACTLY the same image, provided only that the
reals among its entry values are in `Display` form (`[-]digits.digits*`: a decoded `.5` or `+1.`
is printed differently by lopdf) and that the data length fits `i64`.  Well-formedness of the
values (integer ranges, reference ranges, distinct keys, nesting height) is a THEOREM about the
parser (`directObjects_sound`), not a hypothesis. -/
theorem image_redecode_sound (inp : Bytes) (op : Operation) (r : Bytes) (h : inlineImageImpl inp = .ok op r) :
    ∃ d c, op = imageOp d c ∧
      (c.length ≤ I64_MAX → WFParsedD d ∧ heightD d ≤ MAX_NESTING) ∧
      (c.length ≤ I64_MAX → DisplayRealsD d → decodeContent (encodeContent [op]) = .ok [op]) := by
  obtain ⟨d0, c, e, hw, hh⟩ := inline_decoded_sound inp op r h
  have hgood : c.length ≤ I64_MAX →
      GoodD 0 (Dict.set d0 imageDataStream.LENGTH_KEY (.int c.length)) := by
    intro hl
    exact goodD_set 0 d0 _ _ ⟨hw, fun _ => by omega⟩
      ⟨ObjRt.i64_of_magnitude false c.length hl, fun _ => show 0 + 0 ≤ MAX_NESTING by decide⟩
  refine ⟨_, c, e, fun hl => ⟨(hgood hl).1, by have := (hgood hl).2 (by omega); omega⟩, fun hl hdr => ?_⟩
  obtain ⟨d', c', e', himp⟩ := image_redecode inp op r h
  obtain ⟨hd, hc⟩ := imageOp_inj _ _ _ _ (e.symm.trans e')
  subst hc; subst hd
  have hg := hgood hl
  rw [himp (wfD_of_parsed _ hg.1 hdr) (by have := hg.2 (by omega); omega), normD_parsed _ hg.1, ← e]

/-- the residue is not empty: `.5` is a parsed real that is not in `Display` form -/
example : WFParsed (.real [46, 53]) ∧ ¬ DisplayReals (.real [46, 53]) := dot5_not_display

end Lopdf.Grammar
