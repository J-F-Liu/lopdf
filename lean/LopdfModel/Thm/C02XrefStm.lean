import LopdfModel.Thm.C02Xref
/-
  C02 — cross-reference streams: for ANY field widths `W = [w1 w2 w3]` (including `w1 = 0` =
  default type 1, `w3 = 0`, and widths above 4 bytes as long as the values fit 32 bits), any
  `Index` pairs (or none: `[0 Size]`), the content produced by the reference encoder
  (`encodeSubs`: the rows' big-endian fields) is decoded by `decode_xref_stream` to exactly the
  map the rows denote (`streamTableOf`).
-/
namespace Lopdf.Grammar
open Lopdf Gen

def beVal (l : Bytes) : Nat := l.foldl (fun acc (b : UInt8) => acc * 256 + b.toNat) 0

theorem foldl_mod (l : Bytes) : ∀ a : Nat,
    l.foldl (fun acc (b : UInt8) => (acc * 256 + b.toNat) % U32) (a % U32) =
      (l.foldl (fun acc (b : UInt8) => acc * 256 + b.toNat) a) % U32 := by
  induction l with
  | nil => intro a; rfl
  | cons b bs ih =>
    intro a
    simp only [List.foldl_cons]
    rw [Nat.add_mod (a % U32 * 256), Nat.mul_mod, Nat.mod_mod, ← Nat.mul_mod, ← Nat.add_mod, ih]

theorem beBytes_length (w v : Nat) : (beBytes w v).length = w := by
  induction w generalizing v with
  | zero => rfl
  | succ w ih => simp [beBytes, ih]

theorem beVal_beBytes (w : Nat) : ∀ v : Nat, beVal (beBytes w v) = v % 256 ^ w := by
  induction w with
  | zero => intro v; simp [beBytes, beVal, Nat.mod_one]
  | succ w ih =>
    intro v
    have h1 : beVal (beBytes w (v / 256) ++ [(v % 256).toUInt8]) =
        beVal (beBytes w (v / 256)) * 256 + v % 256 := by
      simp only [beVal, List.foldl_append, List.foldl_cons, List.foldl_nil]
      congr 1
      simp [Nat.toUInt8, UInt8.toNat_ofNat']
    rw [beBytes, h1, ih, Nat.pow_succ, Nat.mul_comm (256 ^ w) 256, Nat.mod_mul]
    omega

theorem readBE_beBytes (w v : Nat) (rest : Bytes) (h1 : v < 256 ^ w) (h2 : v < 4294967296) :
    readBE w (beBytes w v ++ rest) = some (v, rest) := by
  have hl := beBytes_length w v
  unfold readBE
  have ht : List.take w (beBytes w v ++ rest) = beBytes w v := List.take_left' hl
  have hd : List.drop w (beBytes w v ++ rest) = rest := List.drop_left' hl
  have hlen : ¬ (beBytes w v ++ rest).length < w := by simp [hl]
  rw [if_neg hlen, ht, hd]
  have := foldl_mod (beBytes w v) 0
  simp only [Nat.zero_mod] at this
  rw [this]
  have hv : beVal (beBytes w v) = v := by rw [beVal_beBytes, Nat.mod_eq_of_lt h1]
  unfold beVal at hv
  rw [hv, Nat.mod_eq_of_lt (by simpa [U32] using h2)]

theorem encodeRows_cons (w1 w2 w3 : Nat) (r : SRow) (rs : List SRow) (rest : Bytes) :
    encodeRows w1 w2 w3 (r :: rs) ++ rest =
      beBytes w1 r.1 ++ (beBytes w2 r.2.1 ++ (beBytes w3 r.2.2 ++ (encodeRows w1 w2 w3 rs ++ rest))) := by
  simp [encodeRows, encodeRow]

theorem rowBindings_cons (n : Nat) (r : SRow) (rs : List SRow) :
    rowBindings n (r :: rs) =
      (match rowEntry r with | some e => [(n, e)] | none => []) ++ rowBindings (n + 1) rs := by
  simp only [rowBindings, numberedRows, List.filterMap_cons]
  cases rowEntry r <;> simp

/-- object numbers below 2^32 survive the `i64` arithmetic of `decode_xref_stream` -/
theorem rowId (s j : Nat) (h : s + j < 4294967296) :
    ¬ ((s : Int) + (j : Int) > ((I64_MAX : Nat) : Int)) ∧
    (((s : Int) + (j : Int)) % ((U32 : Nat) : Int)).toNat = s + j := by
  rw [← Int.natCast_add, ← Int.natCast_emod, Int.toNat_natCast]
  exact ⟨Int.not_lt.mpr (Int.ofNat_le.mpr (Nat.le_trans (Nat.le_of_lt h) (by decide))), Nat.mod_eq_of_lt h⟩

theorem readType (w1 t : Nat) (rest : Bytes) (ht : if w1 = 0 then t = 1 else t < 256 ^ w1 ∧ t < 4294967296) :
    (if w1 = 0 then some (1, beBytes w1 t ++ rest) else readBE w1 (beBytes w1 t ++ rest)) = some (t, rest) := by
  by_cases hw : w1 = 0
  · subst hw; simp only [if_true] at ht ⊢; subst ht; rfl
  · simp only [hw, if_false] at ht ⊢
    exact readBE_beBytes w1 t _ ht.1 ht.2

theorem readGen (w3 f3 : Nat) (rest : Bytes) (h1 : f3 < 256 ^ w3) (h2 : f3 < 65536) :
    (if w3 = 0 then some (0, beBytes w3 f3 ++ rest) else readBE w3 (beBytes w3 f3 ++ rest)) = some (f3, rest) := by
  by_cases hw : w3 = 0
  · subst hw
    have : f3 = 0 := by simpa using h1
    subst this; rfl
  · simp only [hw, if_false]; exact readBE_beBytes w3 f3 _ h1 (by omega)

theorem xrefRows_complete (w1 w2 w3 s : Nat) : ∀ (rows : List SRow) (j : Nat) (rest : Bytes) (x : XTable),
    (∀ r ∈ rows, RowOk w1 w2 w3 r) → s + j + rows.length ≤ 4294967296 →
    xrefRows w1 w2 w3 (s : Int) rows.length j (encodeRows w1 w2 w3 rows ++ rest) x =
      .ok (bindAll x (rowBindings (s + j) rows), rest) := by
  intro rows
  induction rows with
  | nil => intro j rest x _ _; rfl
  | cons r rs ih =>
    intro j rest x hok hl
    obtain ⟨t, f2, f3⟩ := r
    obtain ⟨ht, h2a, h2b, h3a, h3b⟩ := hok (t, f2, f3) List.mem_cons_self
    rw [List.length_cons] at hl
    have ih' := fun x' => ih (j + 1) rest x' (fun r hr => hok r (List.mem_cons_of_mem _ hr))
      (by rw [← Nat.add_assoc]; omega)
    rw [← Nat.add_assoc] at ih'
    obtain ⟨hmax, hid⟩ := rowId s j (by omega)
    rw [encodeRows_cons, List.length_cons, xrefRows, rowBindings_cons]
    generalize encodeRows w1 w2 w3 rs ++ rest = E at ih' ⊢
    have hf2 := readBE_beBytes w2 f2 (beBytes w3 f3 ++ E) h2a h2b
    have hf3 := readBE_beBytes w3 f3 E h3a (Nat.lt_trans h3b (by decide))
    simp only [readType w1 t _ ht, hf2]
    -- the four kinds of row: free, in use, compressed, undefined type (skipped, denotes nothing)
    by_cases h0 : t = 0
    · subst h0; simp only [if_true, hf3, ih', rowEntry]; rfl
    by_cases h1 : t = 1
    · subst h1
      simp only [if_true, if_false, h0, readGen w3 f3 E h3a h3b, hmax, hid, Nat.mod_eq_of_lt h3b, ih', rowEntry]
      rfl
    by_cases h2 : t = 2
    · subst h2
      simp only [if_true, if_false, h0, h1, hf3, hmax, hid, Nat.mod_eq_of_lt h3b, ih', rowEntry]
      rfl
    · simp only [h0, h1, h2, if_false, hf3, ih', rowEntry]; rfl

theorem encodeSubs_cons (w1 w2 w3 : Nat) (s : SSub) (ss : List SSub) (rest : Bytes) :
    encodeSubs w1 w2 w3 (s :: ss) ++ rest = encodeRows w1 w2 w3 s.2 ++ (encodeSubs w1 w2 w3 ss ++ rest) := by
  simp [encodeSubs]

theorem xrefSections_complete (w1 w2 w3 : Nat) : ∀ (subs : List SSub) (rest : Bytes) (x : XTable),
    SubsOk w1 w2 w3 subs →
    xrefSections w1 w2 w3 (indexInts subs) (encodeSubs w1 w2 w3 subs ++ rest) x =
      .ok (bindAll x (streamBindings subs)) := by
  intro subs
  induction subs with
  | nil => intro rest x _; simp [indexInts, xrefSections, streamBindings, bindAll]
  | cons s ss ih =>
    intro rest x hok
    obtain ⟨h1, h2⟩ := hok s (by simp)
    have ih' := fun x' => ih rest x' (fun s' hs' => hok s' (by simp [hs']))
    have hr := xrefRows_complete w1 w2 w3 s.1 s.2 0 (encodeSubs w1 w2 w3 ss ++ rest) x h1 (by omega)
    have hi : indexInts (s :: ss) = (s.1 : Int) :: (s.2.length : Int) :: indexInts ss := by
      simp [indexInts]
    rw [hi, encodeSubs_cons, xrefSections]
    simp only [Int.toNat_natCast, hr, ih', Nat.add_zero]
    simp [streamBindings, bindAll_append]

theorem intArray_ints (l : List Int) : intArray (.arr (l.map Obj.int)) = some l := by
  simp only [intArray]
  induction l with
  | nil => rfl
  | cons a as ih => simp [List.mapM_cons, Obj.asInt, ih]

theorem encodeRows_length (w1 w2 w3 : Nat) (rows : List SRow) :
    (encodeRows w1 w2 w3 rows).length = rows.length * (w1 + w2 + w3) := by
  induction rows with
  | nil => simp [encodeRows]
  | cons r rs ih =>
    have : encodeRows w1 w2 w3 (r :: rs) = encodeRow w1 w2 w3 r ++ encodeRows w1 w2 w3 rs := by
      simp [encodeRows]
    rw [this, List.length_append, ih]
    simp only [encodeRow, List.length_append, beBytes_length, List.length_cons, Nat.add_mul]
    omega

theorem encodeSubs_length (w1 w2 w3 : Nat) (subs : List SSub) :
    (encodeSubs w1 w2 w3 subs).length = totalRows subs * (w1 + w2 + w3) := by
  induction subs with
  | nil => simp [encodeSubs, totalRows]
  | cons s ss ih =>
    have : encodeSubs w1 w2 w3 (s :: ss) = encodeRows w1 w2 w3 s.2 ++ encodeSubs w1 w2 w3 ss := by
      simp [encodeSubs]
    rw [this, List.length_append, ih, encodeRows_length]
    simp only [totalRows, List.map_cons, List.sum_cons, Nat.add_mul]

theorem anyPositiveCount_false_of_widths (l : List Int) : (false && anyPositiveCount l) = false := rfl

/-- how the `Index` entry of the dictionary names the subsections: explicitly, or — when the
key is absent — the single default subsection `[0 Size]` -/
def IndexDenotes (d : Dict) (size : Int) (subs : List SSub) : Prop :=
  d.get INDEX = some (.arr (indexOf subs)) ∨
  (d.get INDEX = none ∧ ∃ rows : List SRow, subs = [(0, rows)] ∧ (rows.length : Int) = size)

theorem index_resolved (d : Dict) (size : Int) (subs : List SSub) (h : IndexDenotes d size subs) :
    (match (d.get INDEX).bind intArray with | some l => l | none => [0, size]) = indexInts subs := by
  rcases h with h | ⟨h, rows, rfl, hl⟩
  · simp [h, indexOf, intArray_ints]
  · simp [h, indexInts, hl]

/-- **Cross-reference streams, every `W` and `Index`.** For a stream dictionary without filter
whose `Size` is an integer, whose `W` is `[w1 w2 w3]` and whose `Index` names the subsections
(or is absent, for the single subsection `[0 Size]`), and the content the reference encoder
produces from well-formed rows of ANY type — at least one row, at least one non-zero width —,
`decode_xref_stream` yields exactly the denoted map, `Size` as `u32`, and the dictionary without
`Length`, `W`, `Index` as the trailer. -/
theorem xrefStream_complete (d : Dict) (size : Int) (w1 w2 w3 : Nat) (subs : List SSub)
    (hF : d.has FILTER = false) (hS : d.get SIZE = some (.int size))
    (hW : d.get W_KEY = some (.arr [.int w1, .int w2, .int w3]))
    (hI : IndexDenotes d size subs) (hok : SubsOk w1 w2 w3 subs)
    (hrows : 0 < totalRows subs) (hwid : 0 < w1 + w2 + w3) :
    decodeXrefStream d (encodeSubs w1 w2 w3 subs) =
      .ok (streamTableOf subs, (size % (U32 : Int)).toNat, ((d.remove LENGTH).remove W_KEY).remove INDEX) := by
  have hlen := encodeSubs_length w1 w2 w3 subs
  have hsec := xrefSections_complete w1 w2 w3 subs [] [] hok
  simp only [List.append_nil] at hsec
  have hidx := index_resolved d size subs hI
  have hwa : intArray (.arr [.int w1, .int w2, .int w3]) = some [(w1 : Int), (w2 : Int), (w3 : Int)] :=
    intArray_ints [(w1 : Int), (w2 : Int), (w3 : Int)]
  -- every width is bounded by the content: at least one row of `w1 + w2 + w3` bytes
  have hle : w1 + w2 + w3 ≤ (encodeSubs w1 w2 w3 subs).length := hlen ▸ Nat.le_mul_of_pos_left _ hrows
  have c : ∀ w : Nat, w ≤ w1 + w2 + w3 → ¬ ((w : Int) > ((encodeSubs w1 w2 w3 subs).length : Int)) :=
    fun w h => Int.not_lt.mpr (Int.ofNat_le.mpr (Nat.le_trans h hle))
  have c1 := c w1 (by omega)
  have c2 := c w2 (by omega)
  have c3 := c w3 (by omega)
  have c0 : ((w1 : Int) == 0 && (w2 : Int) == 0 && (w3 : Int) == 0) = false := by
    rw [Bool.eq_false_iff]
    intro h
    simp only [Bool.and_eq_true, beq_iff_eq] at h
    omega
  have n : ∀ w : Nat, ¬ ((w : Int) < 0) := fun w => Int.not_lt.mpr (Int.natCast_nonneg w)
  have hS' : (d.get SIZE).bind Obj.asInt = some size := by rw [hS]; rfl
  have hW' : (d.get W_KEY).bind intArray = some [(w1 : Int), (w2 : Int), (w3 : Int)] := by rw [hW]; exact hwa
  unfold decodeXrefStream
  simp only [hF, Bool.false_eq_true, if_false, hS', hW']
  simp only [n, c1, c2, c3, c0, decide_false, Bool.or_false, Bool.false_and, Bool.false_eq_true,
    if_false, Int.toNat_natCast]
  cases hb : (d.get INDEX).bind intArray with
  | none =>
    rw [hb] at hidx
    simp only at hidx
    simp only [hidx, hsec]
    rfl
  | some l =>
    rw [hb] at hidx
    simp only at hidx
    simp only [hidx, hsec]
    rfl

/-- **Look-up in the denoted map**: the last row for the number that denotes an entry. -/
theorem streamTableOf_get (subs : List SSub) (n : Nat) :
    (streamTableOf subs).get n = lastBinding (streamBindings subs) n := bindAll_nil_get _ n

/-! ### non-vacuity -/

/-- a stream dictionary carrying the three keys (plus `Type`, `Length`, `Root`, which stay /
are removed as `decode_xref_stream` does) -/
def xrefDict (size : Int) (w1 w2 w3 : Nat) (subs : List SSub) : Dict :=
  [(TYPE, .name [88, 82, 101, 102]), (SIZE, .int size), (W_KEY, .arr [.int w1, .int w2, .int w3]),
   (INDEX, .arr (indexOf subs)), ([82, 111, 111, 116], .ref 1 0)]

theorem xrefDict_facts (size : Int) (w1 w2 w3 : Nat) (subs : List SSub) :
    (xrefDict size w1 w2 w3 subs).has FILTER = false ∧
    (xrefDict size w1 w2 w3 subs).get SIZE = some (.int size) ∧
    (xrefDict size w1 w2 w3 subs).get W_KEY = some (.arr [.int w1, .int w2, .int w3]) ∧
    IndexDenotes (xrefDict size w1 w2 w3 subs) size subs :=
  ⟨rfl, rfl, rfl, Or.inl rfl⟩

/-- `W [0 5 0]`: no type field (default type 1), a five-byte offset field, no generation field;
two `Index` pairs -/
def exSubsA : List SSub := [(3, [(1, 300, 0), (1, 70000, 0)]), (10, [(1, 9, 0)])]
example : SubsOk 0 5 0 exSubsA := by unfold SubsOk exSubsA RowOk; decide
example : encodeSubs 0 5 0 exSubsA = [0, 0, 0, 1, 44, 0, 0, 1, 17, 112, 0, 0, 0, 0, 9] := by decide
example : streamTableOf exSubsA = [(3, .normal 300 0), (4, .normal 70000 0), (10, .normal 9 0)] := by decide
example : decodeXrefStream (xrefDict 11 0 5 0 exSubsA) (encodeSubs 0 5 0 exSubsA) =
    .ok (streamTableOf exSubsA, 11, (((xrefDict 11 0 5 0 exSubsA).remove LENGTH).remove W_KEY).remove INDEX) := by
  obtain ⟨h1, h2, h3, h4⟩ := xrefDict_facts 11 0 5 0 exSubsA
  exact xrefStream_complete _ 11 0 5 0 exSubsA h1 h2 h3 h4 (by unfold SubsOk exSubsA RowOk; decide)
    (by decide) (by decide)

/-- `W [1 2 1]` with a free, an in-use, a compressed row and a later row replacing a number -/
def exSubsB : List SSub := [(0, [(0, 0, 255), (1, 515, 0), (2, 7, 3)]), (1, [(1, 600, 1)])]
example : SubsOk 1 2 1 exSubsB := by unfold SubsOk exSubsB RowOk; decide
example : streamTableOf exSubsB = [(1, .normal 600 1), (2, .compressed 7 3)] := by decide

/-! ### rows of an undefined type (former finding F-C02-b) -/

/-- `W [1 1 1]`, `Index [0 2]`, rows (3, 0, 0) and (1, 5, 0): the first row has an undefined
type and denotes the null object, the second says object 1 is at offset 5. -/
def exSubsC : List SSub := [(0, [(3, 0, 0), (1, 5, 0)])]
example : encodeSubs 1 1 1 exSubsC = [3, 0, 0, 1, 5, 0] := by decide
example : streamTableOf exSubsC = [(1, .normal 5 0)] := by decide

/-- the former counter-witness of finding F-C02-b (repaired by lopdf commit e3a88e7): the row of
an undefined type is skipped as a whole and object 1 is found. -/
theorem unknownType_skipped :
    (decodeXrefStream (xrefDict 2 1 1 1 exSubsC) (encodeSubs 1 1 1 exSubsC)).map (·.1) = .ok (streamTableOf exSubsC) := by
  decide

/-- the same as an instance of the general theorem (rows of ANY type are inside `RowOk`) -/
example : decodeXrefStream (xrefDict 2 1 1 1 exSubsC) (encodeSubs 1 1 1 exSubsC) =
    .ok (streamTableOf exSubsC, 2, (((xrefDict 2 1 1 1 exSubsC).remove LENGTH).remove W_KEY).remove INDEX) := by
  obtain ⟨h1, h2, h3, h4⟩ := xrefDict_facts 2 1 1 1 exSubsC
  exact xrefStream_complete _ 2 1 1 1 exSubsC h1 h2 h3 h4 (by unfold SubsOk exSubsC RowOk; decide)
    (by decide) (by decide)

/-- a row of type 255 between two in-use rows, `W [1 2 1]` -/
example : SubsOk 1 2 1 [(4, [(1, 10, 0), (255, 513, 9), (1, 20, 0)])] := by unfold SubsOk RowOk; decide
example : streamTableOf [(4, [(1, 10, 0), (255, 513, 9), (1, 20, 0)])] = [(4, .normal 10 0), (6, .normal 20 0)] := by
  decide

end Lopdf.Grammar
