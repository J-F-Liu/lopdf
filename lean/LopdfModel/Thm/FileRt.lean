import LopdfModel.Thm.FileIncr
import LopdfModel.Thm.C01Indirect
/-
  C01 — the `file_rt_*` theorems: the file-level theorems (`Thm/File*.lean`) composed with
  the object-level round trips (`Thm/C01Obj.lean`, `Thm/C01Indirect.lean`): no object-level
  hypothesis is left, only well-formedness of the document. What comes back is the normal form
  (`nfObj`: an integral real is read as an integer); without real numbers it is the document.
-/
namespace Lopdf.FileRT
open Lopdf Gen Lopdf.ObjRt

/-- objects the composed theorem covers: every direct object within the nesting limit (no
real numbers — those come back normalised, see `norm`), and streams whose dictionary is such an
object and carries the direct `Length` of the content (what `lopdf` maintains) -/
def ObjOK : Obj → Prop
  | .stream es c => WFObj (.dict es) ∧ height (.dict es) ≤ MAX_NESTING ∧ NoRealD es ∧
      Dict.get es LENGTH = some (.int c.length)
  | o => WFObj o ∧ height o ≤ MAX_NESTING ∧ NoReal o

/-- what the reader returns for a written object: reals in normal form (an integral real is read
as an integer — `norm`), inside a stream's dictionary too -/
def nfObj : Obj → Obj
  | .stream es c => .stream (normD es) c
  | o => norm o

/-- objects covered by `file_rt_table_norm`: every direct object within the nesting limit, and
streams with such a dictionary carrying the direct `Length` of the content -/
def ObjOKN : Obj → Prop
  | .stream es c => WFObj (.dict es) ∧ height (.dict es) ≤ MAX_NESTING ∧ Dict.get es LENGTH = some (.int c.length)
  | o => WFObj o ∧ height o ≤ MAX_NESTING

namespace ObjOK

theorem toN {o : Obj} (h : ObjOK o) : ObjOKN o ∧ nfObj o = o := by
  cases o with
  | stream es c => exact ⟨⟨h.1, h.2.1, h.2.2.2⟩, by rw [nfObj, normD_noReal es h.2.2.1]⟩
  | _ => exact ⟨⟨h.1, h.2.1⟩, norm_noReal _ h.2.2⟩

end ObjOK

theorem asName_norm (v : Obj) : (norm v).asName = v.asName := by
  cases v with
  | real t =>
    simp only [norm, normReal]
    split
    · rfl
    · split <;> rfl
  | _ => simp [norm, Obj.asName]

theorem nfObj_notObjStm (o : Obj) (h : NotObjStm o) : NotObjStm (nfObj o) := by
  cases o with
  | stream es c =>
    show Dict.getTypeIs (normD es) OBJSTM = false
    have h' : Dict.getTypeIs es OBJSTM = false := h
    unfold Dict.getTypeIs at h' ⊢
    rw [normD_get]
    cases hg : Dict.get es TYPE with
    | none => simp
    | some v => simpa [hg, asName_norm] using h'
  | real t =>
    simp only [nfObj, norm, normReal]
    split
    · trivial
    · split <;> trivial
  | _ => trivial

theorem indirect_nf (n g : Nat) (o : Obj) (hn : n ≤ U32_MAX) (hg : g ≤ U16_MAX) (h : ObjOKN o)
    (len : ObjId → Option Int) (base : Nat) (rest : Bytes) :
    pIndirect len none base (writeIndirect n g o ++ rest) = some ((n, g), .plain (nfObj o)) := by
  cases o with
  | stream es c =>
    obtain ⟨h1, h2, h4⟩ := h
    have hget : Dict.get (normD es) LENGTH = some (.int c.length) := by rw [normD_get, h4]; rfl
    have hl : ObjRt.lengthOf len (normD es) = some (Int.ofNat c.length) := by
      simp [ObjRt.lengthOf, hget]
    rw [indirect_stream_rt len none base n g es c rest hn hg (Or.inl rfl) h1 h2 hl, Dict.set_of_get hget]
    rfl
  | _ => exact indirect_rt len none base n g _ rest hn hg (Or.inl rfl) h.1 h.2

theorem docWF_readsBackN (d : SDoc) (hwf : DocWF d) (hmax : d.maxId + 1 ≤ 4294967295)
    (hobjs : ∀ p ∈ d.objects, ObjOKN p.2) (p : ObjId × Obj) (hp : p ∈ d.objects) (len : ObjId → Option Int)
    (base : Nat) (rest : Bytes) :
    pIndirect len none base (writeIndirect p.1.1 p.1.2 p.2 ++ rest) = some ((p.1.1, p.1.2), .plain (nfObj p.2)) := by
  have := hwf.range p hp
  exact indirect_nf _ _ _ (by simp only [U32_MAX]; omega) (by have := hwf.gens p hp; simp only [U16_MAX]; omega)
    (hobjs p hp) len base rest

theorem docWF_readsBack (d : SDoc) (hwf : DocWF d) (hmax : d.maxId + 1 ≤ 4294967295)
    (hobjs : ∀ p ∈ d.objects, ObjOK p.2) (p : ObjId × Obj) (hp : p ∈ d.objects) :
    IndirectReadsBack p.1.1 p.1.2 p.2 := by
  intro len base rest
  have := docWF_readsBackN d hwf hmax (fun q hq => (hobjs q hq).toN.1) p hp len base rest
  rwa [(hobjs p hp).toN.2] at this

theorem WFD_iff (es : List (Bytes × Obj)) : WFD (fun _ => True) es ↔ ∀ p ∈ es, WF (fun _ => True) p.2 := by
  induction es with
  | nil => simp [WFD]
  | cons p rest ih => obtain ⟨k, v⟩ := p; simp [WFD, ih]

theorem heightD_le_iff (es : List (Bytes × Obj)) (hgt : Nat) : heightD es ≤ hgt ↔ ∀ p ∈ es, height p.2 ≤ hgt := by
  induction es with
  | nil => simp [heightD]
  | cons p rest ih =>
    obtain ⟨k, v⟩ := p
    simp only [heightD, List.mem_cons, forall_eq_or_imp, ← ih]
    omega

theorem NoRealD_iff (es : List (Bytes × Obj)) : NoRealD es ↔ ∀ p ∈ es, NoReal p.2 := by
  induction es with
  | nil => simp [NoRealD]
  | cons p rest ih => obtain ⟨k, v⟩ := p; simp [NoRealD, ih]

/-- a value is fine for the composed theorem -/
def ValOK (o : Obj) : Prop := WF (fun _ => True) o ∧ height o ≤ MAX_NESTING - 1 ∧ NoReal o

/-- a value is fine for the normal-form theorems (reals allowed) -/
def ValOKN (o : Obj) : Prop := WF (fun _ => True) o ∧ height o ≤ MAX_NESTING - 1

theorem ValOK.toN {o : Obj} (h : ValOK o) : ValOKN o := ⟨h.1, h.2.1⟩

theorem dictOK_iff (es : List (Bytes × Obj)) :
    (WFObj (.dict es) ∧ height (.dict es) ≤ MAX_NESTING) ↔ ((es.map (·.1)).Nodup ∧ ∀ p ∈ es, ValOKN p.2) := by
  have hm : 2 ≤ MAX_NESTING := by decide
  simp only [WFObj, WF, height, WFD_iff, ValOKN, forall_and, ← heightD_le_iff]
  constructor
  · rintro ⟨⟨h1, h2⟩, h3⟩; exact ⟨h1, h2, by omega⟩
  · rintro ⟨h1, h2, h3⟩; exact ⟨⟨h1, h2⟩, by omega⟩

theorem dict_nodup {d : Dict} (h : WFObj (.dict d)) : d.keys.Nodup := h.1

theorem forall_set {P : Obj → Prop} {d : Dict} (h : ∀ p ∈ d, P p.2) (k : Bytes) {v : Obj} (hv : P v) :
    ∀ p ∈ d.set k v, P p.2 := by
  intro p hp
  rcases Dict.mem_set hp with hp | rfl
  · exact h p hp
  · exact hv

theorem dictOK_set_int (tr : Dict) (k : Bytes) (i : Int) (hi : -(I64_MAX : Int) - 1 ≤ i ∧ i ≤ I64_MAX)
    (htr : WFObj (.dict tr) ∧ height (.dict tr) ≤ MAX_NESTING) :
    WFObj (.dict (tr.set k (.int i))) ∧ height (.dict (tr.set k (.int i))) ≤ MAX_NESTING := by
  obtain ⟨hnd, hv⟩ := (dictOK_iff tr).mp htr
  exact (dictOK_iff _).mpr ⟨Dict.nodup_set hnd k _, forall_set hv k ⟨by simpa only [WF] using hi, by simp [height]⟩⟩

theorem NoRealD_set_int (es : List (Bytes × Obj)) (k : Bytes) (i : Int) (h : NoRealD es) :
    NoRealD (Dict.set es k (.int i)) :=
  (NoRealD_iff _).mpr (forall_set ((NoRealD_iff es).mp h) k trivial)

theorem setSize_readsBackN (tr : Dict) (n : Nat) (hn : n ≤ 4294967296)
    (htr : WFObj (.dict tr) ∧ height (.dict tr) ≤ MAX_NESTING) (rest : Bytes) :
    DictReadsBackN (tr.set SIZE (.int ((n : Int) + 1))) (normD (tr.set SIZE (.int ((n : Int) + 1)))) rest := by
  have hi : -(I64_MAX : Int) - 1 ≤ ((n : Int) + 1) ∧ ((n : Int) + 1) ≤ I64_MAX := by
    simp only [I64_MAX]; omega
  obtain ⟨h1, h2⟩ := dictOK_set_int tr SIZE _ hi htr
  exact pDictionary_rt _ _ h1 h2

theorem setSize_readsBack (tr : Dict) (n : Nat) (hn : n ≤ 4294967296)
    (htr : WFObj (.dict tr) ∧ height (.dict tr) ≤ MAX_NESTING ∧ NoRealD tr) :
    ∀ rest, DictReadsBack (tr.set SIZE (.int ((n : Int) + 1))) rest := by
  intro rest
  have := setSize_readsBackN tr n hn ⟨htr.1, htr.2.1⟩ rest
  rwa [normD_noReal _ (NoRealD_set_int _ _ _ htr.2.2)] at this

/-- arrays of small non-negative integers: what the writer puts under `W` and `Index` -/
def IntArr (l : List Obj) : Prop := ∀ o ∈ l, ∃ n : Nat, o = .int (n : Int) ∧ n ≤ 4294967296

theorem intArr_ok : ∀ (l : List Obj), IntArr l → ValOK (.arr l) := by
  have key : ∀ l, IntArr l → WFL (fun _ => True) l ∧ heightL l = 0 ∧ NoRealL l := by
    intro l
    induction l with
    | nil => exact fun _ => ⟨trivial, rfl, trivial⟩
    | cons o r ih =>
      intro h
      obtain ⟨n, rfl, hn⟩ := h o List.mem_cons_self
      obtain ⟨a, b, c⟩ := ih fun o ho => h o (List.mem_cons_of_mem _ ho)
      exact ⟨⟨by simp only [WF, I64_MAX]; omega, a⟩, by rw [heightL, b]; rfl, trivial, c⟩
  intro l h
  obtain ⟨a, b, c⟩ := key l h
  exact ⟨a, by rw [height, b]; decide, c⟩

theorem int_ok (n : Nat) (hn : n ≤ 4294967296) : ValOK (.int (n : Int)) := by
  refine ⟨by simp only [WF, I64_MAX]; omega, by simp [height], by simp [NoReal]⟩

theorem w_intArr : IntArr (XREF_W.map fun (w : Nat) => Obj.int (Int.ofNat w)) := by
  intro o ho
  simp only [XREF_W, List.map_cons, List.map_nil, List.mem_cons, List.mem_nil_iff, or_false] at ho
  rcases ho with h | h | h <;> subst h
  · exact ⟨1, rfl, by omega⟩
  · exact ⟨4, rfl, by omega⟩
  · exact ⟨2, rfl, by omega⟩

theorem index_intArr (pre : Bytes) (d : SDoc) (hmax : d.maxId + 2 ≤ 4294967295) (hg : GensOk d) :
    ∃ l, xrefStreamIndex (streamSecs (xmapStream pre d) (d.maxId + 1)) = .arr l ∧ IntArr l := by
  refine ⟨_, rfl, fun o ho => ?_⟩
  simp only [List.mem_flatten, List.mem_map] at ho
  obtain ⟨l, ⟨sec, hsec, rfl⟩, ho⟩ := ho
  obtain ⟨hb, _⟩ := streamSecs_ok (xmapStream pre d) (d.maxId + 1) (xmapStream_ok pre d hg) (by omega) sec hsec
  simp only [List.mem_cons, List.mem_nil_iff, or_false] at ho
  rcases ho with h | h <;> subst h
  · exact ⟨sec.1, rfl, by omega⟩
  · exact ⟨sec.2.length, rfl, by omega⟩

/-- every entry of the dictionary `create_xref_steam` builds comes from the trailer or is one of
the five values the writer sets: a name, two small integers, two arrays of small integers -/
theorem streamTrailer_values (P : Obj → Prop) (hname : P (.name XREF_NAME))
    (hint : ∀ n : Nat, n ≤ 4294967296 → P (.int (n : Int))) (harr : ∀ l, IntArr l → P (.arr l))
    (pre : Bytes) (d : SDoc) (hmax : d.maxId + 2 ≤ 4294967295) (hg : GensOk d)
    (hlen : (xrefStreamContent (streamSecs (xmapStream pre d) (d.maxId + 1))).length ≤ 4294967296)
    (htr : ∀ p ∈ d.trailer, P p.2) : ∀ p ∈ streamTrailer pre d, P p.2 := by
  intro p hp
  obtain ⟨l, hl, hli⟩ := index_intArr pre d hmax hg
  unfold streamTrailer at hp
  simp only at hp
  rcases Dict.mem_set hp with hp | rfl
  · rcases Dict.mem_set (Dict.mem_remove hp) with hp | rfl
    · rcases Dict.mem_set hp with hp | rfl
      · rcases Dict.mem_set hp with hp | rfl
        · rcases Dict.mem_set hp with hp | rfl
          · exact htr p hp
          · exact hname
        · exact hint (d.maxId + 1 + 1) (by omega)
      · exact harr _ w_intArr
    · rw [hl]; exact harr l hli
  · exact hint _ hlen

theorem xrefContent_le_out (pre : Bytes) (d : SDoc) (out : Bytes) (d' : SDoc) (hk : d.xrefKind = .stream)
    (h : saveFrom pre d = some (out, d')) :
    (xrefStreamContent (streamSecs (xmapStream pre d) (d.maxId + 1))).length ≤ out.length := by
  rw [(saveFrom_stream_eq pre d out d' hk h).1]
  simp only [List.length_append, writeIndirect, writeObj]
  omega

theorem xrefObjP_okN (pre : Bytes) (d : SDoc) (out : Bytes) (d' : SDoc) (hk : d.xrefKind = .stream)
    (h : saveFrom pre d = some (out, d')) (hlen : out.length < 4294967296) (hmax : d.maxId + 2 ≤ 4294967295)
    (hg : GensOk d) (htr : WFObj (.dict d.trailer) ∧ height (.dict d.trailer) ≤ MAX_NESTING) :
    ObjOKN (xrefObjP pre d) := by
  obtain ⟨hnd, hvals⟩ := (dictOK_iff d.trailer).mp htr
  have hclen := xrefContent_le_out pre d out d' hk h
  have hsv := streamTrailer_values ValOKN ⟨by simp [WF], by simp [height]⟩
    (fun n hn => (int_ok n hn).toN) (fun l hl => (intArr_ok l hl).toN)
    pre d hmax hg (by omega) hvals
  obtain ⟨x1, x2⟩ := (dictOK_iff _).mpr ⟨streamTrailer_nodup pre d hnd, hsv⟩
  exact ⟨x1, x2, streamTrailer_get_length pre d hnd⟩

theorem xrefObjP_ok (pre : Bytes) (d : SDoc) (out : Bytes) (d' : SDoc) (hk : d.xrefKind = .stream)
    (h : saveFrom pre d = some (out, d')) (hlen : out.length < 4294967296) (hmax : d.maxId + 2 ≤ 4294967295)
    (hg : GensOk d)
    (htr : WFObj (.dict d.trailer) ∧ height (.dict d.trailer) ≤ MAX_NESTING ∧ NoRealD d.trailer) :
    ObjOK (xrefObjP pre d) := by
  obtain ⟨x1, x2, x4⟩ := xrefObjP_okN pre d out d' hk h hlen hmax hg ⟨htr.1, htr.2.1⟩
  refine ⟨x1, x2, (NoRealD_iff _).mpr ?_, x4⟩
  exact streamTrailer_values NoReal (by simp [NoReal]) (fun n _ => by simp [NoReal])
    (fun l hl => (intArr_ok l hl).2.2) pre d hmax hg (by have := xrefContent_le_out pre d out d' hk h; omega)
    ((NoRealD_iff _).mp htr.2.2)

/-- **C01, classic table, real numbers included.** For EVERY well-formed document
within the nesting limit — no restriction on real numbers — `load (save d)` succeeds and returns
the same version and binary mark, the trailer in normal form (`normD`), and for every object id
the NORMAL FORM of the object `d` holds: identical except that a real whose `Display` text is
integral (e.g. `3`) is read back as the integer the text denotes — the only place where lopdf's
own writer/reader pair is not the identity. No parsing hypothesis is left. -/
theorem file_rt_table_norm (order : Option (List Nat)) (d : SDoc) (out : Bytes) (d' : SDoc)
    (hk : d.xrefKind = .table) (h : saveFrom [] d = some (out, d')) (hlen : out.length < 4294967296)
    (hmax : d.maxId + 1 ≤ 4294967295) (hwf : DocWF d)
    (hobjs : ∀ p ∈ d.objects, ObjOKN p.2)
    (htr : WFObj (.dict d.trailer) ∧ height (.dict d.trailer) ≤ MAX_NESTING)
    (hv1 : ∀ b ∈ d.version, notEol b = true) (hv2 : validUtf8 d.version = true)
    (hprev : d.trailer.get PREV = none) (henc : d.trailer.has ENCRYPT = false) :
    ∃ L : Loaded, loadDocOrd order out = .ok L ∧ L.version = d.version ∧ L.binaryMark = d.binaryMark ∧
      L.trailer = normD d'.trailer ∧ L.xrefStart = (bodyOf [] d).length ∧ L.maxId ≤ d.maxId ∧
      (∀ id, L.objects.get id = (d.objects.get id).map nfObj) ∧ SortedO L.objects := by
  have hget := table_trailer_get [] d out d' hk h
  have hD := setSize_readsBackN d.trailer d.maxId (by omega) htr
  rw [← (saveFrom_table_eq [] d out d' hk h).2] at hD
  refine load_of_save_table_withN _ id (loadDocOrd_arr_nil order) rfl nfObj nfObj_notObjStm d out d' (normD d'.trailer)
    hk h hlen hmax hwf (hD _) ?_ (docWF_readsBackN d hwf hmax hobjs) hv1 hv2 ?_ ?_
  · rw [normD_get, hget]; rfl
  · rw [normD_get, hget, if_neg (by decide), hprev]; rfl
  · rw [Dict.has_eq, normD_get, hget, if_neg (by decide), Option.isSome_map]; exact henc

/-- **C01, classic cross-reference table.** For EVERY well-formed document — one
object per number within `1..max_id`, `u16` generations, no ObjStm/XRef/Linearized object,
every object a direct object within the nesting limit without real numbers or a stream with such
a dictionary and a direct consistent `Length`, a trailer of that kind without `Prev`/`Encrypt`,
a version text without line breaks in valid UTF-8 — whose save stays below 4 GiB with
`max_id + 1 ≤ u32::MAX`: `load (save d)` succeeds and returns the same version, binary mark,
trailer (with the `Size` that `save` stored), the writer's `startxref` offset, and for every
object id exactly the object `d` holds (nothing for other ids). No hypothesis about parsing is
left: the model of `Reader::read` applied to the model of `Document::save`. -/
theorem file_rt_table (order : Option (List Nat)) (d : SDoc) (out : Bytes) (d' : SDoc)
    (hk : d.xrefKind = .table) (h : saveFrom [] d = some (out, d')) (hlen : out.length < 4294967296)
    (hmax : d.maxId + 1 ≤ 4294967295) (hwf : DocWF d)
    (hobjs : ∀ p ∈ d.objects, ObjOK p.2)
    (htr : WFObj (.dict d.trailer) ∧ height (.dict d.trailer) ≤ MAX_NESTING ∧ NoRealD d.trailer)
    (hv1 : ∀ b ∈ d.version, notEol b = true) (hv2 : validUtf8 d.version = true)
    (hprev : d.trailer.get PREV = none) (henc : d.trailer.has ENCRYPT = false) :
    ∃ L : Loaded, loadDocOrd order out = .ok L ∧ L.version = d.version ∧ L.binaryMark = d.binaryMark ∧
      L.trailer = d'.trailer ∧ L.xrefStart = (bodyOf [] d).length ∧ L.maxId ≤ d.maxId ∧
      (∀ id, L.objects.get id = d.objects.get id) ∧ SortedO L.objects := by
  -- the normal form of a document without real numbers is the document
  obtain ⟨L, h1, h2, h3, h4, h5, h6, h7, h8⟩ := file_rt_table_norm order d out d' hk h hlen hmax hwf
    (fun p hp => (hobjs p hp).toN.1) ⟨htr.1, htr.2.1⟩ hv1 hv2 hprev henc
  refine ⟨L, h1, h2, h3, ?_, h5, h6, fun id => ?_, h8⟩
  · rw [h4, (saveFrom_table_eq [] d out d' hk h).2, normD_noReal _ (NoRealD_set_int _ _ _ htr.2.2)]
  · rw [h7 id]
    cases hd : d.objects.get id with
    | none => rfl
    | some o => rw [Option.map_some, (hobjs _ (Objects.get_mem hd)).toN.2]

/-- **`file_rt_table` as an equation on the object list.** If moreover `d.objects` is in `BTreeMap`
order (strictly ascending ids — what `lopdf` iterates), the loaded object list IS `d.objects`. -/
theorem file_rt_table_eq (order : Option (List Nat)) (d : SDoc) (out : Bytes) (d' : SDoc)
    (hk : d.xrefKind = .table) (h : saveFrom [] d = some (out, d')) (hlen : out.length < 4294967296)
    (hmax : d.maxId + 1 ≤ 4294967295) (hwf : DocWF d) (hsorted : SortedO d.objects)
    (hobjs : ∀ p ∈ d.objects, ObjOK p.2)
    (htr : WFObj (.dict d.trailer) ∧ height (.dict d.trailer) ≤ MAX_NESTING ∧ NoRealD d.trailer)
    (hv1 : ∀ b ∈ d.version, notEol b = true) (hv2 : validUtf8 d.version = true)
    (hprev : d.trailer.get PREV = none) (henc : d.trailer.has ENCRYPT = false) :
    ∃ L : Loaded, loadDocOrd order out = .ok L ∧ L.version = d.version ∧ L.binaryMark = d.binaryMark ∧
      L.trailer = d'.trailer ∧ L.xrefStart = (bodyOf [] d).length ∧ L.maxId ≤ d.maxId ∧
      L.objects = d.objects := by
  obtain ⟨L, h1, h2, h3, h4, h5, h6, h7, h8⟩ :=
    file_rt_table order d out d' hk h hlen hmax hwf hobjs htr hv1 hv2 hprev henc
  exact ⟨L, h1, h2, h3, h4, h5, h6, sorted_ext _ _ h8 hsorted h7⟩

/-- non-vacuity of the hypothesis `SortedO` of `file_rt_table_eq` -/
example : SortedO [((1, 0), Obj.null), ((3, 2), .int 5), ((3, 4), .null)] := by
  simp [SortedO, idLt]

/-- **C01, cross-reference stream.** As `file_rt_table` for documents saved with a
cross-reference stream (`Size = max_id + 2 ≤ u32::MAX`): `load (save d)` returns the same version
and binary mark, the stream dictionary minus `Length`/`W`/`Index` as trailer, the writer's
`startxref`, and for every object id the object `d` holds — plus the cross-reference stream
object itself under `(max_id + 1, 0)`. No parsing hypothesis is left. -/
theorem file_rt_stream (order : Option (List Nat)) (d : SDoc) (out : Bytes) (d' : SDoc)
    (hk : d.xrefKind = .stream) (h : saveFrom [] d = some (out, d')) (hlen : out.length < 4294967296)
    (hmax : d.maxId + 2 ≤ 4294967295) (hwf : DocWF d)
    (hobjs : ∀ p ∈ d.objects, ObjOK p.2)
    (htr : WFObj (.dict d.trailer) ∧ height (.dict d.trailer) ≤ MAX_NESTING ∧ NoRealD d.trailer)
    (hv1 : ∀ b ∈ d.version, notEol b = true) (hv2 : validUtf8 d.version = true)
    (hprev : d.trailer.get PREV = none) (henc : d.trailer.has ENCRYPT = false) :
    ∃ L : Loaded, loadDocOrd order out = .ok L ∧ L.version = d.version ∧ L.binaryMark = d.binaryMark ∧
      L.trailer = streamTrailerRead [] d ∧ L.xrefStart = (bodyOf [] d).length ∧ L.maxId ≤ d.maxId + 1 ∧
      ∀ id, L.objects.get id = (objectsWithXref d).get id := by
  -- the stream dictionary is itself an object the dictionary round trip covers
  obtain ⟨x1, x2, x3, _⟩ := xrefObjP_ok [] d out d' hk h hlen hmax hwf.gens htr
  have hD : ∀ rest, DictReadsBack d'.trailer rest := fun rest => by
    rw [(saveFrom_stream_eq [] d out d' hk h).2]; exact pDictionary_rt_noReal _ _ x1 x2 x3
  exact load_of_save_stream_with _ id (loadDocOrd_arr_nil order) rfl d out d' hk h hlen hmax hwf
    (dict_nodup htr.1) (hD _) (docWF_readsBack d hwf (by omega) hobjs) hv1 hv2 hprev henc

/-- **Loading an incremental save (C07), no parsing hypothesis left.** `d1` saved
plainly (classic table), then the revision `d2` saved on top by `IncrementalDocument::save` with
`Prev` = offset of the first cross-reference section; both well-formed and real-free, an object
of the new revision that re-uses a number keeps its generation; file < 4 GiB. Then `Reader::read`
on the two-revision file succeeds with the header of the first revision, the new trailer (minus
`Prev`), and for EVERY object id the object of the newest revision that holds it: new objects
override previous ones, untouched previous objects are still there, nothing else appears. -/
theorem file_rt_incr (order : Option (List Nat))
    (d1 d2 : SDoc) (out1 out2 : Bytes) (d1' d2' : SDoc)
    (hk1 : d1.xrefKind = .table) (hk2 : d2.xrefKind = .table)
    (h1 : saveFrom [] d1 = some (out1, d1')) (h2 : saveIncr out1 d2 = some (out2, d2'))
    (hlen : out2.length < 4294967296)
    (hmax1 : d1.maxId + 1 ≤ 4294967295) (hmax2 : d2.maxId + 1 ≤ 4294967295)
    (hwf1 : DocWF d1) (hwf2 : DocWF d2)
    (hobjs1 : ∀ p ∈ d1.objects, ObjOK p.2) (hobjs2 : ∀ p ∈ d2.objects, ObjOK p.2)
    (htr1 : WFObj (.dict d1.trailer) ∧ height (.dict d1.trailer) ≤ MAX_NESTING ∧ NoRealD d1.trailer)
    (htr2 : WFObj (.dict d2.trailer) ∧ height (.dict d2.trailer) ≤ MAX_NESTING ∧ NoRealD d2.trailer)
    (hgen : ∀ p2 ∈ d2.objects, ∀ p1 ∈ d1.objects, p2.1.1 = p1.1.1 → p2.1.2 = p1.1.2)
    (hprev : d2.trailer.get PREV = some (.int ((bodyOf [] d1).length : Int)))
    (hnoprev : d1.trailer.get PREV = none) (hstm : d2.trailer.get XREFSTM = none)
    (henc : d2.trailer.has ENCRYPT = false)
    (hv1 : ∀ b ∈ d1.version, notEol b = true) (hv2 : validUtf8 d1.version = true) :
    ∃ L : Loaded, loadDocOrd order out2 = .ok L ∧ L.version = d1.version ∧ L.binaryMark = d1.binaryMark ∧
      L.trailer = d2'.trailer.remove PREV ∧
      ∀ id, L.objects.get id = (d2.objects.get id).orElse (fun _ => d1.objects.get id) := by
  have e1 := (saveFrom_table_eq [] d1 out1 d1' hk1 h1).2
  have e2 := (saveFrom_table_eq (incrPre out1) d2 out2 d2' hk2 h2).2
  exact load_of_incr_save_with _ id (loadDocOrd_arr_nil order) rfl d1 d2 out1 out2 d1' d2' hk1 hk2 h1 h2 hlen hmax1 hmax2
    hwf1 hwf2 (dict_nodup htr2.1) hgen hprev hnoprev hstm henc
    (fun rest => by rw [e1]; exact setSize_readsBack d1.trailer d1.maxId (by omega) htr1 _)
    (fun rest => by rw [e2]; exact setSize_readsBack d2.trailer d2.maxId (by omega) htr2 _)
    (docWF_readsBack d1 hwf1 hmax1 hobjs1) (docWF_readsBack d2 hwf2 hmax2 hobjs2) hv1 hv2

/-- a real with an integral text comes back as an integer, a decimal one as itself -/
example : nfObj (.arr [.real [51], .real [51, 46, 53]]) = .arr [.int 3, .real [51, 46, 53]] := by
  rfl

/-- non-vacuity of `ObjOKN` on an object with a real number -/
example : ObjOKN (.arr [.real [51, 46, 53], .int 2]) := by
  refine ⟨?_, ?_⟩
  · simp only [WFObj, WF, WFL, and_true]
    refine ⟨Or.inl ⟨⟨false, [51], [53], rfl, by simp, ?_, ?_⟩⟩, by simp [I64_MAX]⟩
    · intro b hb; simp at hb; subst hb; decide
    · intro b hb; simp at hb; subst hb; decide
  · simp [height, heightL, MAX_NESTING]

def exDoc : SDoc := SDoc.mk [49, 46, 53] [187, 173, 192, 222] [] [] 0 .table

theorem nd_le (n : Nat) (h : n < 10000000000) : (natDigits n).length ≤ 10 := natDigits_length_le 10 n (by omega) (by omega)

theorem exDoc_saves : ∃ out d', saveFrom [] exDoc = some (out, d') ∧ out.length < 4294967296 := by
  obtain ⟨out, d', h⟩ := saveFrom_some [] exDoc (by decide)
  refine ⟨out, d', h, ?_⟩
  obtain ⟨hout, _⟩ := saveFrom_table_eq [] exDoc out d' rfl h
  have hb : (bodyOf [] exDoc).length = 15 := rfl
  have hname : writeName SIZE = [47, 83, 105, 122, 101] := rfl
  have hi : ((exDoc.maxId : Int) + 1) = Int.ofNat 1 := rfl
  have hw : (writeObj (.dict (exDoc.trailer.set SIZE (.int ((exDoc.maxId : Int) + 1))))).length ≤ 30 := by
    have h1 := nd_le 1 (by omega)
    rw [hi]
    simp [exDoc, Dict.set, writeObj, writeDictBody, hname, needSeparator, writeInt]
    omega
  have hx : (writeXrefTable (xmapOf [] exDoc) (exDoc.maxId + 1)).length ≤ 60 := by
    have := xrefEntryLine_length_none
    have h0 := nd_le 0 (by omega)
    have h1 := nd_le 1 (by omega)
    simp [writeXrefTable, exDoc, xrefTableLoop, xrefSectionBytes, XREF_KW, this]
    omega
  have hn := nd_le 15 (by omega)
  rw [hout, hb]
  simp only [List.length_append, hb, TRAILER_KW, STARTXREF_KW, EOF_KW, List.length_cons, List.length_nil]
  omega

/-- the hypotheses of `file_rt_table` are jointly satisfiable (the empty document), so its
conclusion is obtained outright -/
example : ∃ out d' L, saveFrom [] exDoc = some (out, d') ∧ loadDocOrd none out = .ok L ∧
    L.version = [49, 46, 53] ∧ L.binaryMark = [187, 173, 192, 222] := by
  obtain ⟨out, d', h, hlen⟩ := exDoc_saves
  have hno : ∀ p : ObjId × Obj, p ∈ exDoc.objects → False := fun _ h => absurd h List.not_mem_nil
  obtain ⟨L, h1, h2, h3, _⟩ := file_rt_table none exDoc out d' rfl h hlen (by decide)
    ⟨List.nodup_nil, fun p h => (hno p h).elim, fun p h => (hno p h).elim, fun p h => (hno p h).elim⟩
    (fun p h => (hno p h).elim) ⟨⟨List.nodup_nil, trivial⟩, by decide, trivial⟩
    (by decide : ∀ b ∈ [49, 46, 53], notEol b = true) (by decide) rfl rfl
  exact ⟨out, d', L, h, h1, h2, h3⟩

/-- object-side hypotheses are satisfiable by non-trivial objects: a nested dictionary with a
reference and a string, and a stream with its direct `Length` -/
example : ObjOK (.dict [(TYPE, .name [67, 97, 116]), ([75], .arr [.ref 3 0, .str [40, 92] .lit, .int (-7)])]) := by
  refine ⟨?_, ?_, ?_⟩
  · simp [WFObj, WF, WFD, WFL, TYPE, U32_MAX, U16_MAX, I64_MAX]
  · simp [height, heightD, heightL, MAX_NESTING]
  · simp [NoReal, NoRealD, NoRealL]
example : ObjOK (.stream [(LENGTH, .int 2)] [1, 2]) := by
  refine ⟨?_, ?_, ?_, ?_⟩
  · simp [WFObj, WF, WFD, I64_MAX]
  · simp [height, heightD, MAX_NESTING]
  · simp [NoRealD, NoReal]
  · simp [Dict.get]
example : DocWF (SDoc.mk [49, 46, 53] [187] [] [((1, 0), .null), ((3, 2), .int 5)] 4 .table) := by
  refine ⟨by simp, ?_, ?_, ?_⟩
  · intro p hp; simp at hp; rcases hp with h | h <;> subst h <;> simp
  · intro p hp; simp at hp; rcases hp with h | h <;> subst h <;> simp
  · intro p hp; simp at hp; rcases hp with h | h <;> subst h <;> rfl

end Lopdf.FileRT
