import LopdfModel.Thm.C11Distinct
import LopdfModel.Model.Parse
import LopdfModel.Model.Read
/-
  What the PARSER returns is distinct-keyed at every depth: `inner_dictionary` folds the entries
  with `Dictionary::set` (an `IndexMap` insert — a repeated key overwrites), so every dictionary
  inside a parsed object has pairwise distinct keys. Together with `distinct_run`
  (Thm/C11Distinct) this discharges the `DistinctKeys` hypothesis of the `delete_object`
  theorems for objects that come out of `parser::direct_object`.
-/
namespace Lopdf.Ed
open Lopdf Lopdf.DictL

theorem pReference_nd (inp : Bytes) (o : Obj) (r : Bytes) (h : pReference inp = some (o, r)) : DeepND o := by
  simp only [pReference, Option.bind_eq_some_iff] at h
  obtain ⟨p1, -, p2, -, h⟩ := h
  split at h
  · cases h; simp [DeepND]
  · cases h

/- `directObject`, `manyObjects` and `dictEntries` at some fuel return distinct-keyed values as soon
as `directObjects` at that fuel does. -/

theorem directObject_nd {fuel : Nat} (H : ∀ depth inp o r, directObjects fuel depth inp = .ok o r → DeepND o)
    (depth : Nat) (inp : Bytes) (o : Obj) (r : Bytes) (h : directObject fuel depth inp = .ok o r) : DeepND o := by
  simp only [directObject] at h
  split at h
  · rename_i o' r' ho; cases h; exact H _ _ _ _ ho
  · cases h
  · cases h

theorem manyObjects_nd {fuel : Nat} (H : ∀ depth inp o r, directObject fuel depth inp = .ok o r → DeepND o)
    (depth n : Nat) (inp : Bytes) (os : List Obj) (r : Bytes) (h : manyObjects fuel depth n inp = some (os, r)) :
    ∀ x ∈ os, DeepND x := by
  induction n generalizing inp os r with
  | zero => simp only [manyObjects, Option.some.injEq, Prod.mk.injEq] at h; rw [← h.1]; nofun
  | succ n ih =>
    simp only [manyObjects] at h
    split at h
    · rename_i o r' ho
      simp only [Option.map_eq_some_iff] at h
      obtain ⟨⟨os', r''⟩, hm, he⟩ := h
      cases he
      intro x hx
      rcases List.mem_cons.mp hx with rfl | hx
      · exact H _ _ _ _ ho
      · exact ih _ _ _ hm x hx
    · cases h; nofun
    · cases h

theorem dictEntries_nd {fuel : Nat} (H : ∀ depth inp o r, directObject fuel depth inp = .ok o r → DeepND o)
    (depth n : Nat) (inp : Bytes) (acc es : Dict) (r : Bytes) (ha : DictND acc)
    (h : dictEntries fuel depth n inp acc = some (es, r)) : DictND es := by
  induction n generalizing inp acc with
  | zero => simp only [dictEntries, Option.some.injEq, Prod.mk.injEq] at h; rw [← h.1]; exact ha
  | succ n ih =>
    simp only [dictEntries] at h
    split at h
    · split at h
      · exact ih _ _ (dictND_set ha _ _ (H _ _ _ _ ‹_›)) h
      · cases h; exact ha
      · cases h
    · cases h; exact ha

theorem parse_nd : ∀ (fuel : Nat),
    (∀ depth inp o r, directObjects fuel depth inp = .ok o r → DeepND o) ∧
    (∀ depth inp o r, directObject fuel depth inp = .ok o r → DeepND o) ∧
    (∀ depth n inp os r, manyObjects fuel depth n inp = some (os, r) → ∀ x ∈ os, DeepND x) ∧
    (∀ depth n inp acc es r, DictND acc → dictEntries fuel depth n inp acc = some (es, r) → DictND es) := by
  intro fuel
  -- everything follows from the first part at the same fuel
  suffices h1 : ∀ depth inp o r, directObjects fuel depth inp = .ok o r → DeepND o by
    have h2 := directObject_nd h1
    exact ⟨h1, h2, manyObjects_nd h2, fun depth n inp acc es r => dictEntries_nd h2 depth n inp acc es r⟩
  induction fuel with
  | zero => intro depth inp o r h; simp [directObjects] at h
  | succ f ih =>
    have h2 := directObject_nd ih
    intro depth inp o r h
    unfold directObjects at h
    repeat' split at h
    -- the alternatives that fail, and those that return an object without a dictionary inside
    all_goals (first | (cases h; done) | (cases h; simp [DeepND]; done) | skip)
    · cases h; exact pReference_nd _ _ _ ‹_›
    · cases h; exact (deepND_arr _).mpr (manyObjects_nd h2 _ _ _ _ _ ‹_›)
    · cases h; exact (deepND_dict _).mpr (dictEntries_nd h2 _ _ _ _ _ _ dictND_nil ‹_›)

/-- **`parser::direct_object` returns distinct-keyed objects**, for every input. -/
theorem parseDirect_nd (inp : Bytes) (o : Obj) (r : Bytes) (h : parseDirect inp = some (o, r)) : DeepND o := by
  unfold parseDirect at h
  split at h
  · rename_i o' r' ho; cases h; exact (parse_nd _).2.1 _ _ _ _ ho
  · cases h

/-- non-vacuity: `Dictionary::set` on a key that is already there overwrites (so `<</A 1/A 2>>` parses to the ONE entry
`/A 2`; `#eval parseDirect [60,60,47,65,32,49,47,65,32,50,62,62]` = `some (dict [([65], int 2)], [])`) -/
example : Dict.set (Dict.set [] [65] (.int 1)) [65] (.int 2) = [([65], Obj.int 2)] := by rfl

theorem pairs_nd (content : Bytes) (first : Nat) (nums : List (Option Nat)) (seen : List Nat) :
    ∀ p ∈ objStmObjects.pairs content first nums seen, DeepND p.2 := by
  fun_induction objStmObjects.pairs content first nums seen
  -- the one branch that adds a member: it comes out of `parseDirect`
  case case5 hpd ih =>
    intro p hp
    rcases List.mem_cons.mp hp with rfl | hp
    · exact parseDirect_nd _ _ _ hpd
    · exact ih p hp
  case case7 => nofun
  all_goals assumption

theorem dedupLast_vals (P : Obj → Prop) (l : List (ObjId × Obj)) (h : ∀ p ∈ l, P p.2) : ∀ p ∈ dedupLast l, P p.2 := by
  unfold dedupLast
  refine List.foldlRecOn l _ (motive := fun acc : List (ObjId × Obj) => ∀ p ∈ acc, P p.2) (by simp)
    fun acc ha x hx => ?_
  split
  · intro p hp
    obtain ⟨q, hq, rfl⟩ := List.mem_map.mp hp
    split
    · exact h x hx
    · exact ha q hq
  · intro p hp
    rcases List.mem_append.mp hp with hp | hp
    · exact ha p hp
    · rw [List.mem_singleton.mp hp]; exact h x hx

/-- **every member an object stream contributes is distinct-keyed** -/
theorem objStmObjects_nd (d : Dict) (content : Bytes) (l : List (ObjId × Obj)) (h : objStmObjects d content = .ok l) :
    ∀ p ∈ l, DeepND p.2 := by
  revert h
  fun_cases objStmObjects d content <;> intro h <;> cases h
  · nofun
  · exact dedupLast_vals DeepND _ (pairs_nd content _ _ _)

theorem pDictionary_nd (inp : Bytes) (d : Dict) (r : Bytes) (h : pDictionary inp = some (d, r)) : DictND d := by
  unfold pDictionary at h
  split at h
  · simp only at h
    split at h
    · rename_i es r1 he
      split at h
      · cases h; exact (parse_nd _).2.2.2 _ _ _ _ _ _ dictND_nil he
      · cases h
    · cases h
  · cases h

/-- **the trailer dictionary the parser returns is distinct-keyed** -/
theorem pTrailer_nd (inp : Bytes) (d : Dict) (r : Bytes) (h : pTrailer inp = some (d, r)) : DictND d := by
  simp only [pTrailer, Option.bind_eq_some_iff, Option.map_eq_some_iff] at h
  obtain ⟨r0, -, ⟨d0, r1⟩, hd, he⟩ := h
  cases he
  exact pDictionary_nd _ _ _ hd

/-- what an indirect object may be while loading: a finished object, or a stream whose content is still to be read -/
def LObjND : LObj → Prop
  | .plain o => DeepND o
  | .pending d _ => DictND d

theorem lobjND_stream (d : Dict) (c : Bytes) : LObjND (.plain (.stream d c)) ↔ DictND d :=
  deepND_stream d c

theorem pStream_nd (len : ObjId → Option Int) (inp : Bytes) (lo : LObj) (r : Bytes) (h : pStream len inp = .ok lo r) : LObjND lo := by
  revert h
  fun_cases pStream len inp <;> intro h <;> cases h
  -- a stream read in full: its dictionary is the parsed one with `Length` set; a deferred one keeps it
  case case6 =>
    exact (lobjND_stream _ _).mpr (dictND_set (pDictionary_nd inp _ _ ‹_›) _ _ (by simp [DeepND]))
  case case8 => exact pDictionary_nd inp _ _ ‹_›

/-- **`_indirect_object` returns a distinct-keyed object** (or a pending stream with a distinct-keyed dictionary) -/
theorem pIndirect_nd (len : ObjId → Option Int) (expected : Option ObjId) (base : Nat) (inp : Bytes) (id : ObjId) (lo : LObj)
    (h : pIndirect len expected base inp = some (id, lo)) : LObjND lo := by
  simp only [pIndirect, Option.bind_eq_some_iff, Option.ite_none_left_eq_some] at h
  obtain ⟨p1, -, p2, -, r3, -, -, h⟩ := h
  split at h
  · cases h; exact pStream_nd _ _ _ _ ‹_›
  · cases h; rename_i hs; exact (pStream_nd _ _ _ _ hs :)
  · cases h
  · split at h
    · cases h; exact (parse_nd _).1 _ _ _ _ ‹_›
    · cases h

end Lopdf.Ed
