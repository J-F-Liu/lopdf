import LopdfModel.Thm.C02Obj
import LopdfModel.Thm.C02Xref
import LopdfModel.Spec.GrammarObj
import LopdfModel.Lemmas.ObjRtCore
/-
  C02 — COMPOSITE direct objects: every spelling the object grammar allows (`DerivesObj`:
  arrays and dictionaries nested up to MAX_NESTING, arbitrary white space / comments between the
  tokens, empty separators wherever a delimiter separates) is read by `_direct_objects` /
  `direct_object` to the object it denotes.  This includes `int int` NOT followed by `R`
  (two integers), by the soundness direction of the `reference` look-ahead: inside a derivable
  array the text after an integer never continues to `space u16 space R` (`items_stop`).
-/
namespace Lopdf.Grammar
open Lopdf Gen
open Lopdf.ObjRt (StopCtx refTail refTailS)

/-- first byte of the spelling of an object -/
def isItemHead (c : UInt8) : Bool :=
  isDigit c || c == 43 || c == 45 || c == 46 || c == 110 || c == 116 || c == 102 || c == 47 || c == 40 ||
    c == 60 || c == 91

theorem itemHead_facts {c : UInt8} (h : isItemHead c = true) : isWhitespace c = false ∧ c ≠ 37 ∧ c ≠ 82 :=
  ⟨not_ws_of isItemHead (by decide) h, ne_of_class h (by decide), ne_of_class h (by decide)⟩

theorem numhead_item {c : UInt8} (h : NumHead c) : isItemHead c = true := by
  rcases h with h | rfl | rfl | rfl
  · simp [isItemHead, h]
  all_goals decide

theorem obj_starts {d : Nat} {o : Obj} {b : Bytes} (h : DerivesObj d o b) : Starts (isItemHead · = true) b := by
  cases h with
  | int _ i bs hi => exact (int_starts hi).mono fun _ => numhead_item
  | real _ bs hr => exact (real_starts hr).mono fun _ => numhead_item
  | ref _ n g d1 sp1 d2 sp2 h1 =>
    exact ((((nat_starts h1).append _).append _).append _).append _ |>.mono fun _ hc => numhead_item (Or.inl hc)
  | _ => exact starts_cons (by decide)

theorem itemHead_spaceStop {t : Bytes} (h : Starts (isItemHead · = true) t) : SpaceStop t :=
  h.ahead fun _ hc => ⟨(itemHead_facts hc).1, (itemHead_facts hc).2.1⟩

theorem obj_spaceStop {d : Nat} {o : Obj} {b : Bytes} (h : DerivesObj d o b) (z : Bytes) : SpaceStop (b ++ z) :=
  itemHead_spaceStop ((obj_starts h).append z)

theorem space_head_stop {sp : Bytes} (h : DerivesSpace sp) (hne : sp ≠ []) (t : Bytes) : StopHead (sp ++ t) :=
  ((space_starts h hne).append t).ahead fun c hc => by
    rcases hc with hc | rfl
    · exact ws_not_regular hc
    · decide

theorem stopHead_sep {sp : Bytes} (h : DerivesSpace sp) {t : Bytes} (ht : StopHead t) : StopHead (sp ++ t) := by
  by_cases hne : sp = []
  · subst hne; exact ht
  · exact space_head_stop h hne t

theorem refTailS_none {s : Bytes} (h : NoDigitAhead s) : refTailS s = none := by
  rw [refTailS, ObjRt.pUnsigned_none _ s h]; rfl

theorem stopCtx_tok (sp t : Bytes) (hsp : DerivesSpace sp) (hstop : StopHead (sp ++ t)) (ht : SpaceStop t)
    (h82 : Ahead (· ≠ 82) t) (hrt : refTailS t = none) : StopCtx (sp ++ t) := by
  have hs : space (sp ++ t) = t := space_complete sp t hsp ht
  refine ⟨hstop, ?_, ?_⟩
  · unfold refTail; rw [hs]; exact hrt
  · intro r e; rw [hs] at e; exact h82 82 r e rfl

/-- what an object needs from the text that follows it -/
def After (o : Obj) (rest : Bytes) : Prop := NeedsStop o = true → StopCtx rest

theorem refTailS_digits {n : Nat} {ds : Bytes} (hd : DerivesNat n ds) (Y : Bytes) (hnd : NoDigitAhead Y)
    (hsp : ∀ r, space Y ≠ 82 :: r) : refTailS (ds ++ Y) = none := by
  rw [refTailS, unsigned_eq hd U16_MAX Y hnd]
  split
  · simp only [Option.bind]  -- `hsp` rules out the `82 :: r` arm of the match on `space Y`: the catch-all arm answers `none`
  · rfl

/-- **soundness of the reference look-ahead, one object**: the look-ahead `u16 space R` fails on
the spelling of any object followed by its stop context -/
theorem obj_refTailS {d : Nat} {o : Obj} {b : Bytes} (h : DerivesObj d o b) (Y : Bytes) (hY : After o Y) :
    refTailS (b ++ Y) = none := by
  cases h with
  | int _ i _ hi =>
    have hst : StopCtx Y := hY rfl
    cases hi with
    | unsigned n _ hd hn => exact refTailS_digits hd Y (ObjRt.nameStop_noDigit hst.1) hst.2.2
    | plus n ds hd hn => exact refTailS_none (ahead_cons (by decide))
    | minus n ds hd hn => exact refTailS_none (ahead_cons (by decide))
  | real _ _ hr =>
    cases hr with
    | mk sign d1 d2 hs h1 h2 hne =>
      cases hs with
      | plus => exact refTailS_none (ahead_cons (by decide))
      | minus => exact refTailS_none (ahead_cons (by decide))
      | none =>
        cases d1 with
        | nil => exact refTailS_none (ahead_cons (by decide))
        | cons a as =>
          -- the digits before the point, then the point: no `R`
          have hsp : space (46 :: (d2 ++ Y)) = 46 :: (d2 ++ Y) := ObjRt.space_stop _ (ahead_cons (by decide))
          simp only [List.append_assoc, List.cons_append, List.nil_append]
          exact refTailS_digits (derivesNat_of_digits as.length (a :: as) rfl h1) _ (ahead_cons (by decide))
            (fun r e => by rw [hsp] at e; injection e with e _; cases e)
  | ref _ n g d1 sp1 d2 sp2 h1 hn h2 hg hs1 hs2 =>
    -- after the object number and the gap stands the generation number, not `R`
    have hsp : space (sp1 ++ (d2 ++ (sp2 ++ 82 :: Y))) = d2 ++ (sp2 ++ 82 :: Y) :=
      space_complete sp1 _ hs1.1 (nat_spaceStop h2 _)
    simp only [List.append_assoc, List.cons_append, List.nil_append]
    exact refTailS_digits h1 _ (gap_head sp1 _ hs1)
      (fun r e => ((nat_starts h2).append _).ahead (fun _ hc => ne_of_class hc (by decide)) 82 r (hsp ▸ e) rfl)
  | _ => exact refTailS_none (ahead_cons (by decide))

theorem stopCtx_obj {d : Nat} {o : Obj} {b : Bytes} (ho : DerivesObj d o b) (sp Y : Bytes) (hsp : DerivesSpace sp)
    (hstop : StopHead (sp ++ (b ++ Y))) (hY : After o Y) : StopCtx (sp ++ (b ++ Y)) :=
  stopCtx_tok sp _ hsp hstop (obj_spaceStop ho Y)
    (((obj_starts ho).append Y).ahead fun _ hc => (itemHead_facts hc).2.2) (obj_refTailS ho Y hY)

theorem stopCtx_close (sp : Bytes) (c : UInt8) (r : Bytes) (hsp : DerivesSpace sp)
    (hc : isRegular c = false ∧ isWhitespace c = false ∧ c ≠ 37 ∧ c ≠ 82 ∧ isDigit c = false) :
    StopCtx (sp ++ c :: r) :=
  stopCtx_tok sp _ hsp (stopHead_sep hsp (ahead_cons hc.1)) (ahead_cons ⟨hc.2.1, hc.2.2.1⟩)
    (ahead_cons hc.2.2.2.1) (refTailS_none (ahead_cons hc.2.2.2.2))

theorem entries_stop {d : Nat} {es : List (Bytes × Obj)} {bs : Bytes} (h : DerivesEntries d es bs)
    (sp rest : Bytes) (hsp : DerivesSpace sp) : StopCtx (sp ++ (bs ++ 62 :: 62 :: rest)) := by
  cases h with
  | nil => exact stopCtx_close sp 62 _ hsp (by decide)
  | cons => exact stopCtx_close sp 47 _ hsp (by decide)

theorem entries_spaceStop {d : Nat} {es : List (Bytes × Obj)} {bs : Bytes} (h : DerivesEntries d es bs)
    (rest : Bytes) : SpaceStop (bs ++ 62 :: 62 :: rest) := by
  cases h with
  | nil => exact ahead_cons (by decide)
  | cons => exact ahead_cons (by decide)

theorem items_spaceStop {d : Nat} {os : List Obj} {bs : Bytes} (h : DerivesItems d os bs) (rest : Bytes) :
    SpaceStop (bs ++ 93 :: rest) := by
  cases h with
  | nil => exact ahead_cons (by decide)
  | cons _ o os b sp' bs' ho => exact itemHead_spaceStop ((((obj_starts ho).append _).append _).append _)

theorem pReference_int_stop (i : Int) (bs rest : Bytes) (h : DerivesInt i bs) (hst : StopCtx rest) :
    pReference (bs ++ rest) = none := by
  cases h with
  | unsigned n _ hd hn =>
    rw [ObjRt.pReference_eq, unsigned_eq hd U32_MAX rest (ObjRt.nameStop_noDigit hst.1)]
    split <;> simp [hst.2.1]
  | plus n ds hd hn => exact pReference_none (ahead_cons (by decide))
  | minus n ds hd hn => exact pReference_none (ahead_cons (by decide))

/-- **Integers as direct objects, every spelling, in any stop context** — in particular in
front of another integer that is not followed by `R`. -/
theorem direct_int_stop (i : Int) (bs rest : Bytes) (fuel depth : Nat) (h : DerivesInt i bs)
    (hst : StopCtx rest) : directObjects (fuel + 1) depth (bs ++ rest) = .ok (.int i) rest :=
  direct_int_of i bs rest fuel depth h (ObjRt.nameStop_noDigit hst.1) (ObjRt.nameStop_noDot hst.1)
    (pReference_int_stop i bs rest h hst)

theorem setEntries_eq (acc : Dict) (es : List (Bytes × Obj)) (k : Bytes) (v : Obj) :
    setEntries acc ((k, v) :: es) = setEntries (acc.set k v) es := rfl

/-- a spelling of an object is read back, at any sufficient fuel, in front of any text that ends it -/
def ObjComplete (d : Nat) (o : Obj) (bs : Bytes) : Prop :=
  ∀ (fuel depth : Nat) (rest : Bytes), depth + d ≤ MAX_NESTING → bs.length < fuel → After o rest →
    directObjects fuel depth (bs ++ rest) = .ok o rest

/-- what the induction carries for the items of an array: there are no more items than bytes, the
text after an item is a stop context, `many0(_direct_object)` reads the items up to the bracket -/
structure ItemsOk (d : Nat) (os : List Obj) (bs : Bytes) : Prop where
  length : os.length ≤ bs.length
  stop : ∀ (sp rest : Bytes), DerivesSpace sp → StopHead (sp ++ bs) → StopCtx (sp ++ (bs ++ 93 :: rest))
  complete : ∀ (fuel depth n : Nat) (rest : Bytes), depth + d ≤ MAX_NESTING → bs.length < fuel → os.length ≤ n →
    manyObjects fuel depth n (bs ++ 93 :: rest) = some (os, 93 :: rest)

/-- the same for the pairs of a dictionary (the text after a value is always a stop context:
`entries_stop`) -/
structure EntriesOk (d : Nat) (es : List (Bytes × Obj)) (bs : Bytes) : Prop where
  length : es.length ≤ bs.length
  complete : ∀ (fuel depth n : Nat) (rest : Bytes) (acc : Dict), depth + d ≤ MAX_NESTING → bs.length < fuel →
    es.length ≤ n →
    dictEntries fuel depth n (bs ++ 62 :: 62 :: rest) acc = some (setEntries acc es, 62 :: 62 :: rest)

theorem atom_complete {d : Nat} {o : Obj} {bs : Bytes}
    (h : ∀ (f depth : Nat) (rest : Bytes), After o rest → directObjects (f + 1) depth (bs ++ rest) = .ok o rest) :
    ObjComplete d o bs := by
  intro fuel depth rest _ hf ha
  match fuel, hf with
  | f + 1, _ => exact h f depth rest ha

theorem nest_step {depth d m : Nat} (h : depth + (d + 1) ≤ m) : ¬ depth ≥ m ∧ depth + 1 + d ≤ m := by omega

theorem arr_complete {d : Nat} {items : List Obj} {sp bs : Bytes} (hsp : DerivesSpace sp)
    (hi : DerivesItems d items bs) (ih : ItemsOk d items bs) :
    ObjComplete (d + 1) (.arr items) (91 :: sp ++ bs ++ [93]) := by
  intro fuel depth rest hd hf _
  match fuel, hf with
  | f + 1, hf =>
    have hbs : bs.length < f := length_lt_right (length_lt_left (Nat.lt_of_succ_lt_succ hf))
    simp only [List.append_assoc, List.cons_append, List.nil_append]
    rw [ObjRt.directObjects_compound f depth _ (ObjRt.scalars_arr_none true _)]
    simp only [ObjRt.compound, (nest_step hd).1, if_false, space_complete sp _ hsp (items_spaceStop hi rest),
      ih.complete f (depth + 1) f rest (nest_step hd).2 hbs (Nat.le_of_lt (Nat.lt_of_le_of_lt ih.length hbs))]

theorem dict_complete {d : Nat} {es : List (Bytes × Obj)} {sp bs : Bytes} (hsp : DerivesSpace sp)
    (he : DerivesEntries d es bs) (ih : EntriesOk d es bs) :
    ObjComplete (d + 1) (.dict (setEntries [] es)) (60 :: 60 :: sp ++ bs ++ [62, 62]) := by
  intro fuel depth rest hd hf _
  match fuel, hf with
  | f + 1, hf =>
    have hbs : bs.length < f :=
      length_lt_right (length_lt_left (Nat.lt_of_succ_lt (Nat.lt_of_succ_lt_succ hf)))
    simp only [List.append_assoc, List.cons_append, List.nil_append]
    rw [ObjRt.directObjects_compound f depth _ (ObjRt.scalars_dict_none true _)]
    simp only [ObjRt.compound, (nest_step hd).1, if_false, space_complete sp _ hsp (entries_spaceStop he rest),
      ih.complete f (depth + 1) f rest [] (nest_step hd).2 hbs (Nat.le_of_lt (Nat.lt_of_le_of_lt ih.length hbs))]

theorem items_nil_ok (d : Nat) : ItemsOk d [] [] where
  length := Nat.le_refl _
  stop sp rest hsp _ := stopCtx_close sp 93 rest hsp (by decide)
  complete fuel depth n rest _ _ _ :=
    ObjRt.manyObjects_error fuel depth n (93 :: rest) (ObjRt.directObject_close fuel depth 93 rest (Or.inl rfl))

theorem items_cons_ok {d : Nat} {o : Obj} {os : List Obj} {b sp bs : Bytes} (ho : DerivesObj d o b)
    (hsp : DerivesSpace sp) (hitems : DerivesItems d os bs) (hsep : NeedsStop o = true → StopHead (sp ++ bs))
    (iho : ObjComplete d o b) (ih : ItemsOk d os bs) : ItemsOk d (o :: os) (b ++ sp ++ bs) := by
  have hb := (obj_starts ho).append sp
  have hY : ∀ rest, After o (sp ++ (bs ++ 93 :: rest)) := fun rest h => ih.stop sp rest hsp (hsep h)
  refine ⟨?_, ?_, ?_⟩
  · rw [List.length_cons, List.length_append, Nat.add_comm]
    exact Nat.add_le_add hb.length_pos ih.length
  · intro sp0 rest hsp0 hstop
    have := ahead_extend hstop (hb.append bs).ne_nil (93 :: rest)
    simp only [List.append_assoc] at this ⊢
    exact stopCtx_obj ho sp0 _ hsp0 this (hY rest)
  · intro fuel depth n rest hd hf hn
    match n, hn with
    | n + 1, hn =>
      simp only [List.append_assoc]
      rw [ObjRt.manyObjects_succ_ok fuel depth n _ _ _
          (ObjRt.directObject_of _ _ _ _ _ (iho fuel depth _ hd (length_lt_left (length_lt_left hf)) (hY rest))),
        space_complete sp _ hsp (items_spaceStop hitems rest),
        ih.complete fuel depth n rest hd (length_lt_right hf) (Nat.le_of_succ_le_succ hn)]
      rfl

theorem entries_nil_ok (d : Nat) : EntriesOk d [] [] where
  length := Nat.le_refl _
  complete fuel depth n rest acc _ _ _ :=
    ObjRt.dictEntries_noname fuel depth n (62 :: 62 :: rest) acc (pName_none (ahead_cons (by decide)))

theorem entries_cons_ok {d : Nat} {k kbs : Bytes} {v : Obj} {es : List (Bytes × Obj)} {sp1 vb sp2 bs : Bytes}
    (hk : DerivesName k kbs) (hsp1 : DerivesSpace sp1) (hst1 : StopHead (sp1 ++ vb)) (hv : DerivesObj d v vb)
    (hsp2 : DerivesSpace sp2) (hes : DerivesEntries d es bs) (ihv : ObjComplete d v vb) (ih : EntriesOk d es bs) :
    EntriesOk d ((k, v) :: es) (47 :: kbs ++ sp1 ++ vb ++ sp2 ++ bs) := by
  refine ⟨?_, ?_⟩
  · rw [List.length_cons, List.length_append, Nat.add_comm]
    exact Nat.add_le_add (Starts.length_pos (P := fun _ => True) ((((starts_cons trivial).append _).append _).append _))
      ih.length
  intro fuel depth n rest acc hd hf hn
  match n, hn with
  | n + 1, hn =>
    -- the key ends where the separating text or the value begins
    have hX : StopHead (sp1 ++ (vb ++ (sp2 ++ (bs ++ 62 :: 62 :: rest)))) :=
      ahead_extend hst1 (obj_starts hv).ne_nil _
    have hsv : space (sp1 ++ (vb ++ (sp2 ++ (bs ++ 62 :: 62 :: rest)))) = vb ++ (sp2 ++ (bs ++ 62 :: 62 :: rest)) :=
      space_complete sp1 _ hsp1 (obj_spaceStop hv _)
    have hv' := ihv fuel depth (sp2 ++ (bs ++ 62 :: 62 :: rest)) hd
      (length_lt_right (length_lt_left (length_lt_left hf))) (fun _ => entries_stop hes sp2 rest hsp2)
    simp only [List.append_assoc]
    rw [ObjRt.dictEntries_succ_ok fuel depth n _ acc k _ _ v (name_complete k kbs _ hk hX)
        (by rw [hsv]; exact ObjRt.directObject_of _ _ _ _ _ hv'),
      space_complete sp2 _ hsp2 (entries_spaceStop hes rest),
      ih.complete fuel depth n rest (acc.set k v) hd (length_lt_right hf) (Nat.le_of_succ_le_succ hn)]
    rfl

/-! `induction` does not do a mutual family: the recursor, with the claims above as its three motives
and the productions in the order of the grammar. -/

theorem obj_complete : ∀ {d : Nat} {o : Obj} {bs : Bytes}, DerivesObj d o bs →
    ∀ (fuel depth : Nat) (rest : Bytes), depth + d ≤ MAX_NESTING → bs.length < fuel → After o rest →
    directObjects fuel depth (bs ++ rest) = .ok o rest :=
  fun h => DerivesObj.rec (motive_1 := fun d o bs _ => ObjComplete d o bs)
    (motive_2 := fun d os bs _ => ItemsOk d os bs) (motive_3 := fun d es bs _ => EntriesOk d es bs)
    (fun _ => atom_complete fun f depth rest _ => direct_null rest f depth)
    (fun _ => atom_complete fun f depth rest _ => direct_true rest f depth)
    (fun _ => atom_complete fun f depth rest _ => direct_false rest f depth)
    (fun _ i bs hi => atom_complete fun f depth rest ha => direct_int_stop i bs rest f depth hi (ha rfl))
    (fun _ bs hr => atom_complete fun f depth rest ha =>
      direct_real_complete bs rest f depth hr (ObjRt.nameStop_noDigit (ha rfl).1))
    (fun _ n bs hn => atom_complete fun f depth rest ha => direct_name_complete n bs rest f depth hn (ha rfl).1)
    (fun _ s bs hl => atom_complete fun f depth rest _ => by simpa using direct_lit_complete s bs rest f depth hl)
    (fun _ s bs hh => atom_complete fun f depth rest _ => by simpa using direct_hex_complete s bs rest f depth hh)
    (fun _ n g d1 sp1 d2 sp2 h1 hn h2 hg hs1 hs2 => atom_complete fun f depth rest _ => by
      simpa using direct_reference_complete n g d1 sp1 d2 sp2 rest f depth h1 hn h2 hg hs1 hs2)
    (fun _ _ _ _ hsp hi ih => arr_complete hsp hi ih)
    (fun _ _ _ _ hsp he ih => dict_complete hsp he ih)
    items_nil_ok
    (fun _ _ _ _ _ _ ho hsp hi hsep iho ih => items_cons_ok ho hsp hi hsep iho ih)
    entries_nil_ok
    (fun _ _ _ _ _ _ _ _ _ hk hsp1 hst1 hv hsp2 hes ihv ih => entries_cons_ok hk hsp1 hst1 hv hsp2 hes ihv ih)
    h

theorem items_ok {d : Nat} {os : List Obj} : ∀ {bs : Bytes}, DerivesItems d os bs → ItemsOk d os bs := by
  induction os with
  | nil => intro bs h; cases h; exact items_nil_ok d
  | cons o os ih =>
    intro bs h
    cases h with
    | cons _ _ _ b sp bs ho hsp hi hsep => exact items_cons_ok ho hsp hi hsep (obj_complete ho) (ih hi)

theorem entries_ok {d : Nat} {es : List (Bytes × Obj)} : ∀ {bs : Bytes}, DerivesEntries d es bs →
    EntriesOk d es bs := by
  induction es with
  | nil => intro bs h; cases h; exact entries_nil_ok d
  | cons e es ih =>
    intro bs h
    cases h with
    | cons _ k kbs v _ sp1 vb sp2 bs hk hsp1 hst1 hv hsp2 hes =>
      exact entries_cons_ok hk hsp1 hst1 hv hsp2 hes (obj_complete hv) (ih hes)

/-- **soundness of the reference look-ahead, inside an array**: the text after an item — the
separating text, the remaining items and the closing bracket — is a stop context -/
theorem items_stop : ∀ {d : Nat} {os : List Obj} {bs : Bytes}, DerivesItems d os bs →
    ∀ (sp rest : Bytes), DerivesSpace sp → StopHead (sp ++ bs) → StopCtx (sp ++ (bs ++ 93 :: rest)) :=
  fun h => (items_ok h).stop

theorem items_complete : ∀ {d : Nat} {os : List Obj} {bs : Bytes}, DerivesItems d os bs →
    ∀ (fuel depth n : Nat) (rest : Bytes), depth + d ≤ MAX_NESTING → bs.length < fuel → os.length ≤ n →
    manyObjects fuel depth n (bs ++ 93 :: rest) = some (os, 93 :: rest) :=
  fun h => (items_ok h).complete

theorem entries_complete : ∀ {d : Nat} {es : List (Bytes × Obj)} {bs : Bytes}, DerivesEntries d es bs →
    ∀ (fuel depth n : Nat) (rest : Bytes) (acc : Dict), depth + d ≤ MAX_NESTING → bs.length < fuel →
    es.length ≤ n →
    dictEntries fuel depth n (bs ++ 62 :: 62 :: rest) acc = some (setEntries acc es, 62 :: 62 :: rest) :=
  fun h => (entries_ok h).complete

theorem objEntries_length {d : Nat} {es : List (Bytes × Obj)} {bs : Bytes} (h : DerivesEntries d es bs) :
    es.length ≤ bs.length := (entries_ok h).length

theorem stopCtx_of_head (sp rest : Bytes) (hsp : DerivesSpace sp) (hstop : StopHead (sp ++ rest))
    (hr : ∀ b r, rest = b :: r → isWhitespace b = false ∧ b ≠ 37 ∧ b ≠ 82 ∧ isDigit b = false) :
    StopCtx (sp ++ rest) :=
  stopCtx_tok sp rest hsp hstop (fun b r e => ⟨(hr b r e).1, (hr b r e).2.1⟩) (fun b r e => (hr b r e).2.2.1)
    (refTailS_none fun b r e => (hr b r e).2.2.2)

/-- **`_direct_object` (object + the white space / comments after it), every spelling.** -/
theorem directObject_complete {d : Nat} {o : Obj} {bs : Bytes} (h : DerivesObj d o bs) (fuel depth : Nat)
    (sp rest : Bytes) (hd : depth + d ≤ MAX_NESTING) (hf : bs.length < fuel) (hsp : DerivesSpace sp)
    (hst : SpaceStop rest) (ha : After o (sp ++ rest)) :
    directObject fuel depth (bs ++ (sp ++ rest)) = .ok o rest := by
  rw [ObjRt.directObject_of _ _ _ _ _ (obj_complete h fuel depth (sp ++ rest) hd hf ha),
    space_complete sp rest hsp hst]

/-- **`parser::direct_object`, every spelling of every direct object**: arrays and dictionaries
nested up to MAX_NESTING, any white space / comments between the tokens and after the object. -/
theorem parseDirect_complete {d : Nat} {o : Obj} {bs : Bytes} (h : DerivesObj d o bs) (sp rest : Bytes)
    (hd : d ≤ MAX_NESTING) (hsp : DerivesSpace sp) (hst : SpaceStop rest) (ha : After o (sp ++ rest)) :
    parseDirect (bs ++ (sp ++ rest)) = some (o, rest) := by
  unfold parseDirect
  rw [directObject_complete h _ 0 sp rest (by rw [Nat.zero_add]; exact hd)
    (Nat.lt_succ_of_le (le_length_append (Nat.le_refl _) _)) hsp hst ha]

/-! ### non-vacuity -/

theorem stopHead_sp (t : Bytes) : StopHead (32 :: t) := ahead_cons (by decide)

/-- `[1 2 3]`: three integers, the second one preceded by an integer and not followed by `R` -/
theorem exArr : DerivesObj 1 (.arr [.int 1, .int 2, .int 3]) (91 :: [] ++ ([49] ++ [32] ++ ([50] ++ [32] ++ ([51] ++ [] ++ []))) ++ [93]) :=
  .arr 0 _ [] _ .nil
    (.cons 0 _ _ [49] [32] _ (.int 0 1 _ (.unsigned 1 _ (.one 49 (by decide)) (by decide))) (.ws 32 _ (by decide) .nil)
      (.cons 0 _ _ [50] [32] _ (.int 0 2 _ (.unsigned 2 _ (.one 50 (by decide)) (by decide))) (.ws 32 _ (by decide) .nil)
        (.cons 0 _ _ [51] [] _ (.int 0 3 _ (.unsigned 3 _ (.one 51 (by decide)) (by decide))) .nil (.nil 0)
          (fun _ => ahead_nil))
        (fun _ => stopHead_sp _))
      (fun _ => stopHead_sp _))

example : parseDirect ([91, 49, 32, 50, 32, 51, 93] ++ ([10] ++ [101, 110, 100])) =
    some (.arr [.int 1, .int 2, .int 3], [101, 110, 100]) :=
  parseDirect_complete exArr [10] [101, 110, 100] (by decide) (.ws 10 _ (by decide) .nil)
    (ahead_cons (by decide)) (fun h => by cases h)

/-- `<</K 7 0 R/L[/A(x)]>>`: a reference value, no space before the next key, a nested array
whose items are separated by delimiters only -/
theorem exDict : DerivesObj 2 (.dict (setEntries [] [([75], .ref 7 0), ([76], .arr [.name [65], .str [120] .lit])]))
    (60 :: 60 :: [] ++ ((47 :: [75] ++ [32] ++ ([55] ++ [32] ++ [48] ++ [32] ++ [82]) ++ [] ++
      (47 :: [76] ++ [] ++ (91 :: [] ++ ((47 :: [65]) ++ [] ++ ((40 :: [120] ++ [41]) ++ [] ++ [])) ++ [93]) ++ [] ++ []))) ++ [62, 62]) :=
  .dict 1 _ [] _ .nil
    (.cons 1 [75] [75] _ _ [32] _ [] _ (.raw 75 _ _ (by decide) (by decide) .nil) (.ws 32 _ (by decide) .nil)
      (stopHead_sp _)
      (.ref 1 7 0 [55] [32] [48] [32] (.one 55 (by decide)) (by decide) (.one 48 (by decide)) (by decide)
        ⟨.ws 32 _ (by decide) .nil, by simp⟩ (.ws 32 _ (by decide) .nil))
      .nil
      (.cons 1 [76] [76] _ _ [] _ [] _ (.raw 76 _ _ (by decide) (by decide) .nil) .nil
        (ahead_cons (by decide))
        (.arr 0 _ [] _ .nil
          (.cons 0 _ _ (47 :: [65]) [] _ (.name 0 [65] [65] (.raw 65 _ _ (by decide) (by decide) .nil)) .nil
            (.cons 0 _ _ (40 :: [120] ++ [41]) [] _
              (.lit 0 [120] [120] (.raw _ 120 _ _ (by decide) (by decide) (by decide) (by decide) (.nil _))) .nil (.nil 0)
              (fun h => by cases h))
            (fun _ => ahead_cons (by decide))))
        .nil (.nil 1)))

example : setEntries [] [([75], Obj.ref 7 0), ([76], .arr [.name [65], .str [120] .lit])] =
    [([75], .ref 7 0), ([76], .arr [.name [65], .str [120] .lit])] := rfl

end Lopdf.Grammar
