import LopdfModel.Model.Outline
import LopdfModel.Spec.Outline
import LopdfModel.Lemmas.Dict
import LopdfModel.Thm.C12
/-
  C17 — property theorems.
-/
namespace Lopdf
open Gen

namespace Proc

theorem get_put (p : Proc) (k q : ObjId) (d : Dict) :
    (p.put k d).get q = if k = q then some d else p.get q := rfl

theorem get_put_ne (p : Proc) {k q : ObjId} (d : Dict) (h : k.1 ≠ q.1) : (p.put k d).get q = p.get q :=
  if_neg fun e => h (congrArg Prod.fst e)

theorem get_modify (p : Proc) (x q : ObjId) (f : Dict → Dict) :
    (p.modify x f).get q = if q = x then (p.get x).map f else p.get q := by
  induction p with
  | nil => simp [Proc.modify, Proc.get]
  | cons e r ih =>
    obtain ⟨k, d⟩ := e
    by_cases hk : k = x
    · subst hk
      by_cases hq : q = k
      · subst hq; simp [Proc.modify, Proc.get]
      · have : ¬ k = q := fun h => hq h.symm
        simp [Proc.modify, Proc.get, hq, this]
    · by_cases hq : q = x
      · subst hq; simp [Proc.modify, Proc.get, hk, ih]
      · simp only [Proc.modify, hk, if_false, Proc.get, ih, hq]

end Proc

/-! ## the abstract outline an embedded forest must look like -/

def firstId (ts : List BT) (m : Nat) : Option ObjId :=
  match ts with
  | [] => none
  | _ :: _ => some (m + 1, 0)

/-- object id of the last tree of a sibling list whose first tree has number `m + 1` -/
def lastId : List BT → Nat → Option ObjId
  | [], _ => none
  | t :: ts, m =>
    match lastId ts (m + 2 * t.size) with
    | some l => some l
    | none => some (m + 1, 0)

/-- the item dictionary of bookmark `t` whose object number is `m + 1`: exactly the keys the
links require — `Parent`, the previous sibling (if any), first/last child and their number (if any),
the next sibling (if any) — in the order the code sets them. -/
def itemDictOf (parent : ObjId) (t : BT) (m : Nat) (prev next : Option ObjId) : Dict :=
  match t with
  | .node _ title f c _ kids =>
    let d1 := setOpt (baseItem parent title f c (m + 2, 0)) OL_PREV prev
    let d2 := if kids.isEmpty then d1
      else (setOpt (setOpt d1 OL_FIRST (firstId kids (m + 2))) OL_LAST (lastId kids (m + 2))).set OL_COUNT
        (.int kids.length)
    setOpt d2 OL_NEXT next

/- `EmbL g m parent prev ts`: the object lookup `g` holds the forest `ts` as a sibling chain under
`parent`, the first tree having object number `m + 1` and previous sibling `prev`; every bookmark
takes two consecutive numbers (item, action), children follow their parent (preorder numbering). -/
mutual
def EmbN (g : ObjId → Option Dict) (m : Nat) (parent : ObjId) (prev next : Option ObjId) : BT → Prop
  | .node id title f c page kids =>
    g (m + 1, 0) = some (itemDictOf parent (.node id title f c page kids) m prev next) ∧
    g (m + 2, 0) = some (infoDict page) ∧
    EmbL g (m + 2) (m + 1, 0) none kids
def EmbL (g : ObjId → Option Dict) (m : Nat) (parent : ObjId) (prev : Option ObjId) : List BT → Prop
  | [] => True
  | t :: ts =>
    EmbN g m parent prev (firstId ts (m + 2 * t.size)) t ∧
    EmbL g (m + 2 * t.size) parent (some (m + 1, 0)) ts
end

namespace BT

theorem forest_ind {P : List BT → Prop} (nil : P [])
    (cons : ∀ id title f c page kids r, P kids → P r → P (.node id title f c page kids :: r)) :
    ∀ ts, P ts :=
  BT.rec_1 (motive_1 := fun t => ∀ r, P r → P (t :: r)) (motive_2 := P)
    (fun id title f c page kids ih r hr => cons id title f c page kids r ih hr) nil
    (fun _ r iht ihr => iht r ihr)

theorem fuel_cons {id : Nat} {title : List Nat} {f : Nat} {c : List Bytes} {page : ObjId} {kids r : List BT}
    {fuel : Nat} (h : sizeL (.node id title f c page kids :: r) ≤ fuel) :
    ∃ n, fuel = n + 1 ∧ sizeL kids ≤ n ∧ sizeL r ≤ n := by
  rw [sizeL, size, Nat.add_comm 1, Nat.add_right_comm] at h
  cases fuel with
  | zero => cases h
  | succ n =>
    have h' := Nat.le_of_succ_le_succ h
    exact ⟨n, rfl, Nat.le_trans (Nat.le_add_right _ _) h', Nat.le_trans (Nat.le_add_left _ _) h'⟩

end BT

/-- `EmbL` reads the object numbers `m+1 … m+2·size` and nothing else: it passes to every lookup
that has at least the same dictionaries at these numbers. -/
theorem EmbL_imp {g g' : ObjId → Option Dict} (ts : List BT) :
    ∀ (m hi : Nat) (parent : ObjId) (prev : Option ObjId), m + 2 * BT.sizeL ts ≤ hi →
      (∀ k d, m < k → k ≤ hi → g (k, 0) = some d → g' (k, 0) = some d) →
      EmbL g m parent prev ts → EmbL g' m parent prev ts := by
  induction ts using BT.forest_ind with
  | nil => intros; trivial
  | cons id title f c page kids r ihk ihr =>
    intro m hi parent prev hhi hg hE
    simp only [EmbL, EmbN, BT.sizeL, BT.size] at hE hhi ⊢
    obtain ⟨⟨h1, h2, h3⟩, h4⟩ := hE
    have ⟨a1, a2, a3, a4⟩ : m + 1 ≤ hi ∧ m + 2 ≤ hi ∧ m + 2 + 2 * BT.sizeL kids ≤ hi ∧
        m + 2 * (1 + BT.sizeL kids) + 2 * BT.sizeL r ≤ hi := by omega
    exact ⟨⟨hg _ _ (Nat.lt_succ_self m) a1 h1, hg _ _ (Nat.lt_add_of_pos_right (by decide)) a2 h2,
        ihk _ hi _ _ a3 (fun k d a => hg k d (Nat.lt_trans (Nat.lt_add_of_pos_right (by decide)) a)) h3⟩,
      ihr _ hi _ _ a4 (fun k d a => hg k d (Nat.lt_of_le_of_lt (Nat.le_add_right _ _) a)) h4⟩

theorem EmbL_congr : ∀ (n : Nat) (ts : List BT), BT.sizeL ts ≤ n →
    ∀ (g g' : ObjId → Option Dict) (m : Nat) (parent : ObjId) (prev : Option ObjId),
      (∀ k, m < k → k ≤ m + 2 * BT.sizeL ts → g' (k, 0) = g (k, 0)) →
      EmbL g m parent prev ts → EmbL g' m parent prev ts :=
  fun _ ts _ _ _ m parent prev hg =>
    EmbL_imp ts m _ parent prev (Nat.le_refl _) fun k d a b h => (hg k a b).trans h

theorem repL_nil_right {t : BmTable} {ids : List Nat} (h : repL t ids [] = true) : ids = [] := by
  cases ids with
  | nil => rfl
  | cons a b => simp [repL] at h

theorem repL_cons_inv {t : BmTable} {ids : List Nat} {id : Nat} {title : List Nat} {f : Nat}
    {c : List Bytes} {page : ObjId} {kids ns : List BT}
    (h : repL t ids (.node id title f c page kids :: ns) = true) :
    ∃ is b, ids = id :: is ∧ t.get id = some b ∧ b.title = title ∧ b.format = f ∧ b.color = c ∧
      b.page = page ∧ repL t b.children kids = true ∧ repL t is ns = true := by
  cases ids with
  | nil => simp [repL] at h
  | cons i is =>
    simp only [repL, repN, Bool.and_eq_true] at h
    obtain ⟨h1, h2⟩ := h
    cases hb : t.get i with
    | none => simp [hb] at h1
    | some b =>
      simp only [hb, Bool.and_eq_true, decide_eq_true_eq] at h1
      obtain ⟨⟨⟨⟨⟨rfl, a2⟩, a3⟩, a4⟩, a5⟩, a6⟩ := h1
      exact ⟨is, b, rfl, hb, a2, a3, a4, a5, a6, h2⟩

theorem repL_cons_intro {t : BmTable} {is : List Nat} {id : Nat} {title : List Nat} {f : Nat}
    {c : List Bytes} {page : ObjId} {kids ns : List BT} {b : Bm}
    (hb : t.get id = some b) (h1 : b.title = title) (h2 : b.format = f) (h3 : b.color = c) (h4 : b.page = page)
    (h5 : repL t b.children kids = true) (h6 : repL t is ns = true) :
    repL t (id :: is) (.node id title f c page kids :: ns) = true := by
  simp [repL, repN, hb, h1, h2, h3, h4, h5, h6]

theorem repL_length {t : BmTable} : ∀ {ts : List BT} {ids : List Nat}, repL t ids ts = true → ids.length = ts.length := by
  intro ts
  induction ts with
  | nil => intro ids h; simp [repL_nil_right h]
  | cons n ns ih =>
    intro ids h
    cases ids with
    | nil => simp [repL] at h
    | cons i is =>
      simp only [repL, Bool.and_eq_true] at h
      simp [ih h.2]

theorem repL_isEmpty {t : BmTable} {ts : List BT} {ids : List Nat} (h : repL t ids ts = true) :
    ids.isEmpty = ts.isEmpty := by
  have := repL_length h
  cases ids <;> cases ts <;> simp at this ⊢

/-! ## `outline_child` on a represented forest -/

/-- `processed` after the link step -/
def patched (last : Option ObjId) (pr : Proc) (id : ObjId) : Proc :=
  match last with
  | some x => pr.modify x (fun d => d.set OL_NEXT (oref id))
  | none => pr

theorem linkStep_eq (first last : Option ObjId) (pr : Proc) (child : Dict) (id : ObjId)
    (hfl : first.isSome = last.isSome) (hl : ∀ x, last = some x → (pr.get x).isSome = true) :
    linkStep first last pr child id =
      some ((if first.isSome then first else some id),
            patched last pr id,
            setOpt child OL_PREV last) := by
  cases first with
  | none =>
    cases last with
    | none => simp [linkStep, setOpt, patched]
    | some x => simp at hfl
  | some y =>
    cases last with
    | none => simp at hfl
    | some x =>
      have := hl x rfl
      cases hx : pr.get x with
      | none => simp [hx] at this
      | some d => simp [linkStep, hx, setOpt, patched]

theorem patched_get (last : Option ObjId) (pr : Proc) (id q : ObjId) :
    (patched last pr id).get q =
      if last = some q then (pr.get q).map (fun d => d.set OL_NEXT (oref id)) else pr.get q := by
  cases last with
  | none => simp [patched]
  | some x =>
    simp only [patched, Proc.get_modify]
    by_cases h : q = x
    · subst h; simp
    · have : ¬ x = q := fun e => h e.symm
      simp [h, this]

theorem lastId_none_iff (ts : List BT) (m : Nat) : lastId ts m = none ↔ ts = [] := by
  cases ts with
  | nil => simp [lastId]
  | cons t r => simp only [lastId]; split <;> simp

theorem match_some_none (o : Option ObjId) : (match o with | some l => some l | none => none) = o := by
  cases o <;> rfl

theorem lastId_cons_or (t : BT) (r : List BT) (m : Nat) (last : Option ObjId) :
    (match lastId (t :: r) m with | some l => some l | none => last) =
      match lastId r (m + 2 * t.size) with | some l => some l | none => some (m + 1, 0) := by
  rw [lastId]; cases lastId r (m + 2 * t.size) <;> rfl

theorem ocLoop_nil (t : BmTable) (fuel m : Nat) (parent : ObjId) (first last : Option ObjId) (pr : Proc) :
    ocLoop t fuel m parent [] first last pr = some (m, first, last, pr) := by
  cases fuel <;> rfl

/-- Main invariant of the `outline_child` loop.  For a table that represents the forest `ts`
at the ids `ids`, any fuel ≥ the forest's size, any counter `m`, parent, and any loop state whose
`last` (if present) is an already inserted object with number ≤ m:
the loop finishes, advances the counter by two per bookmark, returns the first and last sibling ids,
leaves every older object alone except that it patches `Next` into `last`, and the objects it
created embed the forest (`EmbL`). -/
theorem ocLoop_spec (t : BmTable) : ∀ (fuel : Nat) (ts : List BT) (ids : List Nat) (m : Nat) (parent : ObjId)
    (first last : Option ObjId) (pr : Proc),
    repL t ids ts = true → BT.sizeL ts ≤ fuel → first.isSome = last.isSome →
    (∀ x, last = some x → x.1 ≤ m ∧ (pr.get x).isSome = true) →
    ∃ pr', ocLoop t fuel m parent ids first last pr =
        some (m + 2 * BT.sizeL ts, (if first.isSome then first else firstId ts m),
              (match lastId ts m with | some l => some l | none => last), pr') ∧
      (∀ q, q.1 ≤ m → last ≠ some q → pr'.get q = pr.get q) ∧
      (∀ x, last = some x → pr'.get x = (pr.get x).map (fun d => setOpt d OL_NEXT (firstId ts m))) ∧
      EmbL pr'.get m parent last ts := by
  intro fuel ts
  induction ts using BT.forest_ind generalizing fuel with
  | nil =>
    intro ids m parent first last pr hrep _ _ _
    cases repL_nil_right hrep
    refine ⟨pr, ?_, fun _ _ _ => rfl, fun x _ => ?_, trivial⟩
    · cases first <;> simp [ocLoop_nil, BT.sizeL, firstId, lastId]
    · cases pr.get x <;> rfl
  | cons bid title fm col page kids r ihk ihr =>
    intro ids m parent first last pr hrep hsz hfl hl
    obtain ⟨is, b, rfl, hget, rfl, rfl, rfl, rfl, hrk, hrr⟩ := repL_cons_inv hrep
    obtain ⟨f, rfl, hfk, hfr⟩ := BT.fuel_cons hsz
    -- the link step and the subtree: what remains is the loop over the later siblings, on a `processed`
    -- that embeds `kids` and is otherwise the patched old one, with the item still lacking its `Next`
    obtain ⟨pr2, child2, hstep, hchild, hfr2, hek⟩ : ∃ (pr2 : Proc) (child2 : Dict),
        ocLoop t (f + 1) m parent (bid :: is) first last pr =
          ocLoop t f (m + 2 + 2 * BT.sizeL kids) parent is (if first.isSome then first else some (m + 1, 0))
            (some (m + 1, 0)) ((pr2.put (m + 1, 0) child2).put (m + 2, 0) (infoDict b.page)) ∧
        (∀ nx, setOpt child2 OL_NEXT nx = itemDictOf parent (.node bid b.title b.format b.color b.page kids) m last nx) ∧
        (∀ q, q.1 ≤ m + 2 → pr2.get q = (patched last pr (m + 1, 0)).get q) ∧
        EmbL pr2.get (m + 2) (m + 1, 0) none kids := by
      rw [ocLoop, hget]
      simp only [linkStep_eq first last pr _ (m + 1, 0) hfl (fun x hx => (hl x hx).2),
        repL_isEmpty hrk]
      cases kids with
      | nil => exact ⟨_, _, rfl, fun _ => rfl, fun _ _ => rfl, trivial⟩
      | cons k ks =>
        obtain ⟨pr2, hrun2, hframe2, -, hemb2⟩ := ihk f b.children (m + 2) (m + 1, 0) none none
          (patched last pr (m + 1, 0)) hrk hfk rfl (by rintro _ ⟨⟩)
        simp only [List.isEmpty_cons, Bool.false_eq_true, if_false, hrun2]
        refine ⟨pr2, _, rfl, fun nx => ?_, fun q hq => hframe2 q hq (by simp), hemb2⟩
        rw [match_some_none, repL_length hrk]
        rfl
    have e : m + 2 * (1 + BT.sizeL kids) = m + 2 + 2 * BT.sizeL kids := by rw [Nat.mul_add, Nat.add_assoc]
    have hle : m + 2 ≤ m + 2 + 2 * BT.sizeL kids := Nat.le_add_right _ _
    obtain ⟨pr', hrun, hframe, hpatch, hemb⟩ := ihr f is _ parent
      (if first.isSome then first else some (m + 1, 0)) (some (m + 1, 0))
      ((pr2.put (m + 1, 0) child2).put (m + 2, 0) (infoDict b.page)) hrr hfr
      (by cases first <;> rfl)
      (by rintro _ ⟨⟩
          exact ⟨Nat.le_of_succ_le hle, by rw [Proc.get_put_ne _ _ (by simp), Proc.get_put, if_pos rfl]; rfl⟩)
    -- apart from the two new objects, `pr'` is `pr2` up to the counter
    have hold : ∀ q : ObjId, q.1 ≤ m + 2 + 2 * BT.sizeL kids → q.1 ≠ m + 1 → q.1 ≠ m + 2 →
        pr'.get q = pr2.get q := by
      intro q h0 h1 h2
      rw [hframe q h0 (fun e => h1 (by cases e; rfl)),
        Proc.get_put_ne _ _ (Ne.symm h2), Proc.get_put_ne _ _ (Ne.symm h1)]
    have hold_old : ∀ q : ObjId, q.1 ≤ m → pr'.get q = (patched last pr (m + 1, 0)).get q := by
      intro q hq
      have h1 : q.1 < m + 1 := Nat.lt_succ_of_le hq
      have h2 : q.1 < m + 2 := Nat.lt_succ_of_lt h1
      rw [hold q (Nat.le_trans (Nat.le_of_lt h2) hle) (Nat.ne_of_lt h1) (Nat.ne_of_lt h2),
        hfr2 q (Nat.le_of_lt h2)]
    refine ⟨pr', ?_, ?_, ?_, ⟨?_, ?_, ?_⟩, ?_⟩
    · rw [hstep, hrun, lastId_cons_or, BT.sizeL, BT.size, Nat.mul_add _ _ (BT.sizeL r), ← Nat.add_assoc, e]
      cases first <;> rfl
    · intro q hq hne
      rw [hold_old q hq, patched_get, if_neg hne]
    · intro x hx
      rw [hold_old x (hl x hx).1, patched_get, if_pos hx]
      cases pr.get x <;> rfl
    · rw [hpatch _ rfl, Proc.get_put_ne _ _ (by simp), Proc.get_put, if_pos rfl, Option.map_some, hchild,
        BT.size, e]
    · rw [hframe (m + 2, 0) hle (by simp), Proc.get_put, if_pos rfl]
    · refine EmbL_imp kids _ _ _ _ (Nat.le_refl _) (fun k d a c h => ?_) hek
      rw [hold (k, 0) c (Nat.ne_of_gt (Nat.lt_of_succ_lt a)) (Nat.ne_of_gt a)]; exact h
    · rw [BT.size, e]
      exact hemb

/-- the outline root dictionary `build_outline` creates -/
def rootDict (ts : List BT) (m : Nat) : Dict :=
  (setOpt (setOpt [] OLR_FIRST (firstId ts m)) OLR_LAST (lastId ts m)).set OLR_COUNT (.int ts.length)

/-- **outline_links.** For every bookmark table that represents a forest `ts` (any depth, fan-out;
`rep_of_ops` in `Thm/C17Rep` shows every sequence of `add_bookmark` calls yields such a table), every old
`max_id` and all sufficient fuel, `build_outline` succeeds, the root gets number `max_id + 1`,
`max_id` advances by `1 + 2·#bookmarks`, the root dictionary has First/Last/Count of the top level,
and the created objects embed the forest: `EmbL` states for every bookmark — at every depth — that its
item dictionary is exactly {Parent = its parent, Title, A → its action [page /Fit] /GoTo, F, C,
Prev = previous sibling iff one exists, First/Last/Count = first/last/number of children iff it has
children, Next = next sibling iff one exists}, siblings in insertion order, preorder numbering. -/
theorem outline_links (s : BmState) (ts : List BT) (maxId fuel : Nat)
    (hrep : repL s.table s.roots ts = true) (hne : ts ≠ []) (hfuel : BT.sizeL ts ≤ fuel) :
    ∃ b, buildOutline fuel s maxId = some (some b) ∧ b.root = (maxId + 1, 0) ∧
      b.maxId = maxId + 1 + 2 * BT.sizeL ts ∧
      b.objs.get (maxId + 1, 0) = some (rootDict ts (maxId + 1)) ∧
      EmbL b.objs.get (maxId + 1) (maxId + 1, 0) none ts := by
  obtain ⟨pr', hrun, -, -, hemb⟩ := ocLoop_spec s.table fuel ts s.roots (maxId + 1) (maxId + 1, 0) none none []
    hrep hfuel rfl (by rintro _ ⟨⟩)
  have hroots : s.roots.isEmpty = false := by
    rw [repL_isEmpty hrep]
    cases ts with
    | nil => exact absurd rfl hne
    | cons _ _ => rfl
  rw [match_some_none] at hrun
  refine ⟨{ root := (maxId + 1, 0), maxId := maxId + 1 + 2 * BT.sizeL ts,
             objs := pr'.put (maxId + 1, 0) (rootDict ts (maxId + 1)) }, ?_, rfl, rfl, if_pos rfl, ?_⟩
  · simp only [buildOutline, hroots, Bool.false_eq_true, if_false, hrun, rootDict, repL_length hrep]
    rfl
  · -- the root object has a number below those of the forest
    refine EmbL_imp ts _ _ _ _ (Nat.le_refl _) (fun k d a _ h => ?_) hemb
    rw [Proc.get_put_ne _ _ (Nat.ne_of_lt a)]; exact h

/-! ## fresh, pairwise distinct identifiers -/

def Proc.keys (p : Proc) : List ObjId := p.map (·.1)

namespace Proc

theorem keys_modify (p : Proc) (x : ObjId) (f : Dict → Dict) : (p.modify x f).keys = p.keys := by
  induction p with
  | nil => rfl
  | cons e r ih =>
    obtain ⟨k, d⟩ := e
    simp only [Proc.modify]
    split
    · rfl
    · exact congrArg (k :: ·) ih

theorem get_mem_keys {p : Proc} {q : ObjId} {d : Dict} (h : p.get q = some d) : q ∈ p.keys := by
  induction p with
  | nil => cases h
  | cons e r ih =>
    obtain ⟨k, v⟩ := e
    rw [Proc.get] at h
    split at h
    · rename_i hk; exact hk ▸ List.mem_cons_self
    · exact List.mem_cons_of_mem _ (ih h)

end Proc

theorem Proc.keys_put (p : Proc) (k : ObjId) (d : Dict) : (p.put k d).keys = k :: p.keys := rfl

theorem linkStep_keys {first last : Option ObjId} {pr pr1 : Proc} {child c1 : Dict} {id : ObjId}
    {f' : Option ObjId} (h : linkStep first last pr child id = some (f', pr1, c1)) : pr1.keys = pr.keys := by
  unfold linkStep at h
  split at h
  · cases h; rfl
  · split at h
    · split at h
      · cases h
      · cases h; exact Proc.keys_modify _ _ _
    · cases h; rfl

/-- what the loop does to the keys of `processed` between the counters `m` and `m'`: every key is
an old one or a generation-0 id with a number in `(m, m']`, and keys that were distinct and not above
`m` stay distinct -/
def KeysGrow (ks ks' : List ObjId) (m m' : Nat) : Prop :=
  m ≤ m' ∧ (∀ k ∈ ks', k ∈ ks ∨ (k.2 = 0 ∧ m < k.1 ∧ k.1 ≤ m')) ∧
    ((∀ k ∈ ks, k.1 ≤ m) → ks.Nodup → ks'.Nodup)

namespace KeysGrow

theorem refl (ks : List ObjId) (m : Nat) : KeysGrow ks ks m m :=
  ⟨Nat.le_refl _, fun _ hk => Or.inl hk, fun _ hn => hn⟩

theorem trans {ks ks₁ ks₂ : List ObjId} {m m₁ m₂ : Nat} (h₁ : KeysGrow ks ks₁ m m₁)
    (h₂ : KeysGrow ks₁ ks₂ m₁ m₂) : KeysGrow ks ks₂ m m₂ := by
  obtain ⟨a1, a2, a3⟩ := h₁
  obtain ⟨b1, b2, b3⟩ := h₂
  refine ⟨Nat.le_trans a1 b1, fun k hk => ?_, fun hle hn => b3 (fun k hk => ?_) (a3 hle hn)⟩
  · rcases b2 k hk with h | ⟨h0, h1, h2⟩
    · rcases a2 k h with h | ⟨h0, h1, h2⟩
      · exact Or.inl h
      · exact Or.inr ⟨h0, h1, Nat.le_trans h2 b1⟩
    · exact Or.inr ⟨h0, Nat.lt_of_le_of_lt a1 h1, h2⟩
  · rcases a2 k hk with h | ⟨_, _, h2⟩
    · exact Nat.le_trans (hle k h) a1
    · exact h2

/-- the subtree took the numbers in `(m + 2, m₁]`; item and action take `m + 1` and `m + 2` -/
theorem put_put {ks ks₂ : List ObjId} {m m₁ : Nat} (h : KeysGrow ks ks₂ (m + 2) m₁) :
    KeysGrow ks ((m + 2, 0) :: (m + 1, 0) :: ks₂) m m₁ := by
  obtain ⟨a1, a2, a3⟩ := h
  -- a key of the subtree is old or above `m + 2`
  have far : ∀ n, n ≤ m + 2 → (n, 0) ∈ ks₂ → (n, 0) ∈ ks := fun n hn hk =>
    (a2 _ hk).resolve_right fun ⟨_, h1, _⟩ => absurd hn (Nat.not_le_of_lt h1)
  have h1 : m < m + 1 := Nat.lt_succ_self m
  have h2 : m < m + 2 := Nat.lt_succ_of_lt h1
  refine ⟨Nat.le_trans (Nat.le_of_lt h2) a1, fun k hk => ?_, fun hle hn => ?_⟩
  · simp only [List.mem_cons] at hk
    rcases hk with rfl | rfl | hk
    · exact Or.inr ⟨rfl, h2, a1⟩
    · exact Or.inr ⟨rfl, h1, Nat.le_of_succ_le a1⟩
    · exact (a2 k hk).imp_right fun ⟨g, lo, hi⟩ => ⟨g, Nat.lt_trans h2 lo, hi⟩
  · have old : ∀ n, m < n → (n, 0) ∉ ks := fun n hn hk => absurd (hle _ hk) (Nat.not_le_of_lt hn)
    simp only [List.nodup_cons, List.mem_cons, Prod.mk.injEq, and_true]
    exact ⟨fun h => h.elim (Nat.succ_ne_self _) fun h => old _ h2 (far _ (Nat.le_refl _) h),
      fun h => old _ h1 (far _ (Nat.le_succ _) h),
      a3 (fun k hk => Nat.le_trans (hle k hk) (Nat.le_of_lt h2)) hn⟩

end KeysGrow

/-- Whatever the table: if the `outline_child` loop finishes, the counter only grows, every key of
`processed` is an old key or a generation-0 id with a number in `(m, m']`, and distinct keys stay
distinct (no identifier is handed out twice, none collides with an existing one). -/
theorem ocLoop_keys (t : BmTable) : ∀ (fuel m : Nat) (parent : ObjId) (ids : List Nat) (first last : Option ObjId)
    (pr : Proc) (m' : Nat) (f' l' : Option ObjId) (pr' : Proc),
    ocLoop t fuel m parent ids first last pr = some (m', f', l', pr') →
    m ≤ m' ∧ (∀ k ∈ pr'.keys, k ∈ pr.keys ∨ (k.2 = 0 ∧ m < k.1 ∧ k.1 ≤ m')) ∧
    ((∀ k ∈ pr.keys, k.1 ≤ m) → pr.keys.Nodup → pr'.keys.Nodup) := by
  intro fuel
  induction fuel with
  | zero =>
    intro m parent ids first last pr m' f' l' pr' h
    cases ids with
    | nil => cases h; exact KeysGrow.refl _ _
    | cons i rest => cases h
  | succ f ih =>
    intro m parent ids first last pr m' f' l' pr' h
    cases ids with
    | nil => cases h; exact KeysGrow.refl _ _
    | cons i rest =>
      rw [ocLoop] at h
      cases hb : t.get i with
      | none => rw [hb] at h; cases h
      | some b =>
        cases hls : linkStep first last pr (baseItem parent b.title b.format b.color (m + 2, 0)) (m + 1, 0) with
        | none => simp only [hb, hls] at h; cases h
        | some res =>
          obtain ⟨first', pr1, child1⟩ := res
          simp only [hb, hls] at h
          -- the subtree (numbers above `m + 2`), then item and action, then the later siblings
          have tail : ∀ (pr2 : Proc) (m1 : Nat) (child2 : Dict), KeysGrow pr1.keys pr2.keys (m + 2) m1 →
              ocLoop t f m1 parent rest first' (some (m + 1, 0))
                ((pr2.put (m + 1, 0) child2).put (m + 2, 0) (infoDict b.page)) = some (m', f', l', pr') →
              KeysGrow pr.keys pr'.keys m m' := fun pr2 m1 child2 hk hrun =>
            linkStep_keys hls ▸ hk.put_put.trans (ih _ _ _ _ _ _ _ _ _ _ hrun)
          split at h
          · exact tail pr1 (m + 2) child1 (KeysGrow.refl _ _) h
          · cases hin : ocLoop t f (m + 2) (m + 1, 0) b.children none none pr1 with
            | none => rw [hin] at h; cases h
            | some res2 =>
              obtain ⟨m1, cf, cl, pr2⟩ := res2
              rw [hin] at h
              exact tail pr2 m1 _ (ih _ _ _ _ _ _ _ _ _ _ hin) h

/-- **fresh identifiers.** Every object `build_outline` creates has generation 0 and a number in
`(max_id, new max_id]`, and no identifier is used twice. -/
theorem outline_ids_fresh (s : BmState) (maxId fuel : Nat) (b : Built)
    (h : buildOutline fuel s maxId = some (some b)) :
    maxId < b.maxId ∧ b.objs.keys.Nodup ∧ ∀ k ∈ b.objs.keys, k.2 = 0 ∧ maxId < k.1 ∧ k.1 ≤ b.maxId := by
  unfold buildOutline at h
  split at h
  · cases h
  · cases hrun : ocLoop s.table fuel (maxId + 1) (maxId + 1, 0) s.roots none none [] with
    | none => simp [hrun] at h
    | some res =>
      obtain ⟨m', f', l', pr'⟩ := res
      simp only [hrun, Option.some.injEq] at h
      subst h
      obtain ⟨a1, a2, a3⟩ := ocLoop_keys _ _ _ _ _ _ _ _ _ _ _ _ hrun
      have new : ∀ k ∈ pr'.keys, k.2 = 0 ∧ maxId + 1 < k.1 ∧ k.1 ≤ m' := fun k hk =>
        (a2 k hk).resolve_left (by rintro ⟨⟩)
      refine ⟨Nat.lt_of_succ_le a1, List.nodup_cons.mpr ⟨fun hmem => ?_, a3 (by rintro _ ⟨⟩) List.nodup_nil⟩, ?_⟩
      · exact Nat.lt_irrefl _ (new _ hmem).2.1
      · intro k hk
        rcases List.mem_cons.mp hk with rfl | hk
        · exact ⟨rfl, Nat.lt_succ_self _, a1⟩
        · exact ⟨(new k hk).1, Nat.lt_of_succ_lt (new k hk).2.1, (new k hk).2.2⟩

theorem installObjs_get (os : Objects) (new : Proc) (q : ObjId) :
    (installObjs os new).get q = match new.get q with
      | some d => some (.dict d)
      | none => os.get q := by
  induction new with
  | nil => simp [installObjs, Proc.get]
  | cons e r ih =>
    obtain ⟨k, d⟩ := e
    simp only [installObjs, List.map_cons, List.cons_append, Objects.get, Proc.get] at ih ⊢
    by_cases hk : k = q
    · simp [hk]
    · simp only [hk, if_false]; exact ih

/-! ## titles: encode in `outline_child`, decode in `get_toc` -/

/-- Unicode scalar value = what a Rust `char` can hold -/
def IsScalar (c : Nat) : Prop := c < 0xD800 ∨ (0xDFFF < c ∧ c < 0x110000)

theorem utf16Lossy_cons_plain (u : Nat) (X : List Nat) (h : u < 0xD800 ∨ 0xDFFF < u) :
    utf16Lossy (u :: X) = u :: utf16Lossy X := by
  cases X <;> simp [utf16Lossy, h]

theorem utf16Lossy_cons_pair (d r : Nat) (X : List Nat) (hd : d < 1024) (hr : r < 1024) :
    utf16Lossy ((0xD800 + d) :: (0xDC00 + r) :: X) = (0x10000 + d * 1024 + r) :: utf16Lossy X := by
  have ⟨a, b, c⟩ : ¬ (0xD800 + d < 0xD800 ∨ 0xDFFF < 0xD800 + d) ∧ ¬ 0xDC00 ≤ 0xD800 + d ∧
      0xDC00 + r ≤ 0xDFFF := by omega
  simp only [utf16Lossy, a, b, c, if_false, Nat.le_add_right, and_self, if_true, Nat.add_sub_cancel_left]

theorem astral_split {c : Nat} (hc : IsScalar c) (h : ¬ c < 0x10000) :
    (c - 0x10000) / 1024 < 1024 ∧ (c - 0x10000) % 1024 < 1024 ∧
      0x10000 + (c - 0x10000) / 1024 * 1024 + (c - 0x10000) % 1024 = c := by
  have hx : c - 0x10000 < 1024 * 1024 := by unfold IsScalar at hc; omega
  refine ⟨Nat.div_lt_of_lt_mul hx, Nat.mod_lt _ (by decide), ?_⟩
  rw [Nat.add_assoc, Nat.div_add_mod', Nat.add_sub_cancel' (Nat.le_of_not_lt h)]

/-- `from_utf16_lossy (encode_utf16 s) = s` for every string (list of scalar values) -/
theorem utf16_roundtrip : ∀ (cs : List Nat), (∀ c ∈ cs, IsScalar c) → utf16Lossy (utf16Units cs) = cs := by
  intro cs
  induction cs with
  | nil => intro _; rfl
  | cons c cs ih =>
    intro h
    have hc := h c List.mem_cons_self
    rw [utf16Units]
    split
    · rw [utf16Lossy_cons_plain c _ (by unfold IsScalar at hc; omega), ih fun x hx => h x (List.mem_cons_of_mem _ hx)]
    · rename_i hlt
      obtain ⟨hd, hr, e⟩ := astral_split hc hlt
      rw [utf16Lossy_cons_pair _ _ _ hd hr, e, ih fun x hx => h x (List.mem_cons_of_mem _ hx)]

theorem utf16Units_lt : ∀ (cs : List Nat), (∀ c ∈ cs, IsScalar c) → ∀ u ∈ utf16Units cs, u < 65536 := by
  intro cs
  induction cs with
  | nil => intro _ u hu; cases hu
  | cons c cs ih =>
    intro h
    obtain ⟨hc, h⟩ := List.forall_mem_cons.mp h
    rw [utf16Units]
    split
    · exact List.forall_mem_cons.mpr ⟨‹_›, ih h⟩
    · obtain ⟨hd, hr, -⟩ := astral_split hc ‹_›
      exact List.forall_mem_cons.mpr ⟨Nat.lt_of_lt_of_le (Nat.add_lt_add_left hd _) (by decide),
        List.forall_mem_cons.mpr ⟨Nat.lt_of_lt_of_le (Nat.add_lt_add_left hr _) (by decide), ih h⟩⟩

theorem pairsBE_unitsBE : ∀ (us : List Nat), (∀ u ∈ us, u < 65536) → pairsBE (unitsBE us) = us := by
  intro us
  induction us with
  | nil => intro _; rfl
  | cons u us ih =>
    intro h
    have hu : u < 256 * 256 := h u List.mem_cons_self
    rw [unitsBE, pairsBE, ih fun x hx => h x (List.mem_cons_of_mem _ hx),
      UInt8.toNat_ofNat_of_lt' (Nat.div_lt_of_lt_mul hu), UInt8.toNat_ofNat_of_lt' (Nat.mod_lt _ (by decide)), Nat.div_add_mod']

theorem unitsBE_length (us : List Nat) : (unitsBE us).length = 2 * us.length := by
  induction us with
  | nil => rfl
  | cons u us ih => rw [unitsBE, List.length_cons, List.length_cons, ih, List.length_cons, Nat.mul_succ]

theorem ascii_bytes_all (t : List Nat) (h : ∀ c ∈ t, c < 128) :
    (t.map Nat.toUInt8).all (fun (x : UInt8) => x < 128) = true := by
  simp only [List.all_map, List.all_eq_true, Function.comp_apply, decide_eq_true_eq]
  intro c hc
  rw [UInt8.lt_iff_toNat_lt, UInt8.toNat_ofNat_of_lt' (Nat.lt_trans (h c hc) (by decide))]
  exact h c hc

theorem ascii_bytes_back (t : List Nat) (h : ∀ c ∈ t, c < 128) :
    (t.map Nat.toUInt8).map UInt8.toNat = t := by
  rw [List.map_map]
  exact (List.map_congr_left fun c hc => UInt8.toNat_ofNat_of_lt' (Nat.lt_trans (h c hc) (by decide))).trans (List.map_id _)

/-- bytes below 128 carry no byte-order mark: `get_toc` takes them as they are -/
theorem decodeTitle_ascii : ∀ (b : Bytes), b.all (fun (x : UInt8) => x < 128) = true →
    decodeTitle b = .ok (b.map UInt8.toNat)
  | [], h => by unfold decodeTitle; exact if_pos h
  | [_], h => by unfold decodeTitle; exact if_pos h
  | a :: c :: rest, h => by
    have ha : ¬ a = 254 ∧ ¬ a = 255 := by
      have : a < 128 := by simpa using (List.all_eq_true.mp h) a List.mem_cons_self
      constructor <;> (rintro rfl; exact absurd this (by decide))
    have e1 : ¬ [a, c] = TOC_BOM_BE := fun e => ha.1 (List.cons.inj e).1
    have e2 : ¬ [a, c] = TOC_BOM_LE := fun e => ha.2 (List.cons.inj e).1
    exact (if_neg e1).trans ((if_neg e2).trans (if_pos h))

/-- the byte-order mark the builder writes is the one the reader tests first -/
theorem bom_agree : OUTLINE_BOM = TOC_BOM_BE := by decide

theorem decodeTitle_be (rest : Bytes) (h : rest.length % 2 = 0) :
    decodeTitle (OUTLINE_BOM ++ rest) = .ok (utf16Lossy (pairsBE rest)) := by
  have hlen : ¬ (OUTLINE_BOM ++ rest).length % 2 ≠ 0 := by
    rw [List.length_append, Nat.add_comm, show OUTLINE_BOM.length = 2 from rfl, Nat.add_mod_right, h]; decide
  unfold decodeTitle
  exact (if_pos bom_agree).trans (if_neg hlen)

/-- **title round trip.** Whatever string a bookmark carries (every Unicode scalar value, any
length, including C0 controls, U+FEFF, astral planes), the bytes `outline_child` stores in `Title`
decode in `get_toc` to the same string. -/
theorem title_roundtrip (t : List Nat) (h : ∀ c ∈ t, IsScalar c) : decodeTitle (titleBytes t) = .ok t := by
  unfold titleBytes
  split
  · rename_i ha
    have hlt : ∀ c ∈ t, c < 128 := by simpa [isAsciiTitle] using ha
    rw [decodeTitle_ascii _ (ascii_bytes_all t hlt), ascii_bytes_back t hlt]
  · rw [decodeTitle_be _ (by rw [unitsBE_length, Nat.mul_mod_right]), pairsBE_unitsBE _ (utf16Units_lt t h),
      utf16_roundtrip t h]

/-- distinct titles are stored as distinct byte strings (what `get_toc`'s title-keyed table needs) -/
theorem titleBytes_injective (t1 t2 : List Nat) (h1 : ∀ c ∈ t1, IsScalar c) (h2 : ∀ c ∈ t2, IsScalar c)
    (e : titleBytes t1 = titleBytes t2) : t1 = t2 := by
  have a := title_roundtrip t1 h1
  have b := title_roundtrip t2 h2
  rw [e, b] at a
  cases a; rfl

example : decodeTitle (titleBytes [0x41, 0x0A, 0xE9, 0x1F600, 0xFEFF]) = .ok [0x41, 0x0A, 0xE9, 0x1F600, 0xFEFF] :=
  title_roundtrip _ (by intro c hc; simp at hc; rcases hc with rfl | rfl | rfl | rfl | rfl <;> simp [IsScalar])

/-! ## reading back: `get_outlines` on an embedded forest -/

/-- dictionary stored directly at an id -/
def dictAt (os : Objects) (q : ObjId) : Option Dict :=
  match os.get q with
  | some (.dict d) => some d
  | _ => none

theorem getDictionary_of_dictAt {os : Objects} {q : ObjId} {d : Dict} (h : dictAt os q = some d) :
    getDictionary os q = some d := by
  unfold dictAt at h
  split at h
  · cases h; exact getDictionary_of_get ‹_›
  · cases h

theorem setOpt_get_ne (d : Dict) (k k' : Bytes) (v : Option ObjId) (h : k ≠ k') : (setOpt d k v).get k' = d.get k' := by
  cases v <;> simp [setOpt, Dict.get_set_ne _ _ _ _ h]

theorem setOpt_get_eq (d : Dict) (k : Bytes) (v : Option ObjId) :
    (setOpt d k v).get k = match v with | some n => some (oref n) | none => d.get k := by
  cases v <;> simp [setOpt, Dict.get_set_same]

section
variable (parent : ObjId) (id : Nat) (title : List Nat) (f : Nat) (c : List Bytes) (page : ObjId)
  (kids : List BT) (m : Nat) (prev next : Option ObjId)

theorem itemDict_get_A :
    (itemDictOf parent (.node id title f c page kids) m prev next).get Q13.K_A = some (.ref (m + 2) 0) := by
  rw [show Q13.K_A = OL_A from rfl]
  simp only [itemDictOf]
  split <;>
    simp (disch := decide) only [setOpt_get_ne, Dict.get_set_ne, Dict.get_set_same, baseItem, oref]

theorem itemDict_get_title :
    (itemDictOf parent (.node id title f c page kids) m prev next).get Q13.K_Title =
      some (.str (titleBytes title) .lit) := by
  rw [show Q13.K_Title = OL_TITLE from rfl]
  simp only [itemDictOf]
  split <;>
    simp (disch := decide) only [setOpt_get_ne, Dict.get_set_ne, Dict.get_set_same, baseItem, oref]

theorem itemDict_get_first :
    (itemDictOf parent (.node id title f c page kids) m prev next).get Q13.K_First =
      (firstId kids (m + 2)).map oref := by
  rw [show Q13.K_First = OL_FIRST from rfl]
  simp only [itemDictOf]
  cases kids with
  | nil =>
    simp (disch := decide) only [List.isEmpty_nil, if_true, setOpt_get_ne, Dict.get_set_ne, baseItem, Dict.get_nil,
      firstId, Option.map]
  | cons k ks =>
    simp (disch := decide) only [List.isEmpty_cons, Bool.false_eq_true, if_false, setOpt_get_ne, Dict.get_set_ne,
      setOpt_get_eq, firstId, Option.map]

theorem itemDict_get_next :
    (itemDictOf parent (.node id title f c page kids) m prev next).get Q13.K_Next = next.map oref := by
  rw [show Q13.K_Next = OL_NEXT from rfl]
  simp only [itemDictOf, setOpt_get_eq]
  cases next with
  | some n => rfl
  | none =>
    simp only [Option.map]
    split <;>
      simp (disch := decide) only [setOpt_get_ne, Dict.get_set_ne, baseItem, Dict.get_nil]

end

/-- the reader's key constants (regenerated from src/outlines.rs by the translator) are the ones the
shared `get_outlines` model (`Model/Outlines.lean`, namespace `Q13`) is written with -/
theorem reader_keys_agree :
    RD_A = Q13.K_A ∧ RD_DEST = Q13.K_Dest ∧ RD_TITLE = Q13.K_Title ∧ RD_S = Q13.K_S ∧ RD_GOTO = Q13.K_GoTo ∧
    RD_GOTOR = Q13.K_GoToR ∧ RD_D = Q13.K_D ∧ RD_OUTLINES = Q13.K_Outlines ∧ RD_FIRST = Q13.K_First ∧
    RD_NEXT = Q13.K_Next ∧ RD_DESTS = Q13.K_Dests ∧ RD_NAMES = Q13.K_Names :=
  ⟨rfl, rfl, rfl, rfl, rfl, rfl, rfl, rfl, rfl, rfl, rfl, rfl⟩

/-- `Destination::new(title, page, /Fit)` of a bookmark -/
def destOf (title : List Nat) (page : ObjId) : Q13.Outline :=
  .dest (Q13.mkDest (.str (titleBytes title) .lit) (oref page) (.name OL_FIT))

/- the outline tree `get_outlines` is expected to return for a forest -/
mutual
def outN : BT → List Q13.Outline
  | .node _ title _ _ page kids =>
    destOf title page :: (if kids.isEmpty then [] else [Q13.Outline.sub (outL kids)])
def outL : List BT → List Q13.Outline
  | [] => []
  | t :: ts => outN t ++ outL ts
end

theorem firstId_nil (m : Nat) : firstId [] m = none := rfl
theorem firstId_cons (t : BT) (r : List BT) (m : Nat) : firstId (t :: r) m = some (m + 1, 0) := rfl

theorem outL_cons_isEmpty (t : BT) (r : List BT) : (outL (t :: r)).isEmpty = false := by
  cases t; simp [outL, outN]

theorem EmbL_head {g : ObjId → Option Dict} {m : Nat} {parent : ObjId} {prev : Option ObjId} {t : BT} {r : List BT}
    (h : EmbL g m parent prev (t :: r)) :
    g (m + 1, 0) = some (itemDictOf parent t m prev (firstId r (m + 2 * t.size))) := by
  cases t; simp only [EmbL, EmbN] at h; exact h.1.1

theorem getOutline_item (os : Objects) (parent : ObjId) (id : Nat) (title : List Nat) (f : Nat) (c : List Bytes)
    (page : ObjId) (kids : List BT) (m : Nat) (prev next : Option ObjId) (named : Q13.Named)
    (hinfo : dictAt os (m + 2, 0) = some (infoDict page)) :
    Q13.getOutline os (itemDictOf parent (.node id title f c page kids) m prev next) named =
      .ok (some (destOf title page), named) := by
  have hA := itemDict_get_A parent id title f c page kids m prev next
  have hT := itemDict_get_title parent id title f c page kids m prev next
  have hgd := getDictionary_of_dictAt hinfo
  have hS : (infoDict page).get Q13.K_S = some (.name OL_GOTO) := by
    simp [infoDict, Dict.get, OL_D, OL_S, Q13.K_S]
  have hD : (infoDict page).get Q13.K_D = some (.arr [oref page, .name OL_FIT]) := by
    simp [infoDict, Dict.get, OL_D, Q13.K_D]
  have hgoto : ¬ (OL_GOTO ≠ Q13.K_GoTo ∧ OL_GOTO ≠ Q13.K_GoToR) := by decide
  simp only [Q13.getOutline, Q13.getDictInDict, hA, hgd, hS, Option.bind, Obj.asName, hgoto, if_false, hT, hD]
  simp [Q13.buildOutlineResult, Q13.buildDirect, oref, destOf]

/-- what the `First` phase of an item does when the item is well formed: no children, or a child list
behind a reference not yet in `seen` whose own walk succeeds with a non-empty result -/
inductive FirstPhase (os : Objects) (node : Dict) (acc : List Q13.Outline) (o : Q13.Outline) (named : Q13.Named)
    (seen : List ObjId) : List Q13.Outline → List ObjId → Prop where
  | none (h : node.get Q13.K_First = none) : FirstPhase os node acc o named seen (acc ++ [o]) seen
  | sub (a b : Nat) (d : Dict) (subs : List Q13.Outline) (seen2 : List ObjId)
      (h : node.get Q13.K_First = some (.ref a b)) (hs : (a, b) ∉ seen) (hd : getDictionary os (a, b) = some d)
      (hw : (Q13.walkG os d [] named ((a, b) :: seen)).val = (.ok (subs, named), seen2))
      (hne : subs.isEmpty = false) :
      FirstPhase os node acc o named seen (acc ++ [o] ++ [.sub subs]) seen2

theorem FirstPhase.firstPart_eq {os : Objects} {node : Dict} {acc : List Q13.Outline} {o : Q13.Outline}
    {named : Q13.Named} {seen : List ObjId} {acc2 : List Q13.Outline} {seen2 : List ObjId}
    (hF : FirstPhase os node acc o named seen acc2 seen2) :
    Q13.firstPart os node (acc ++ [o], named) seen = (.ok (acc2, named), seen2) := by
  cases hF with
  | none h => rw [Q13.firstPart, h]
  | sub a b d subs seen2 h hs hd hw hne =>
    rw [Q13.firstPart, h]
    simp only [if_neg hs, hd, Q13.wrapSub, hw, hne, Bool.false_eq_true, if_false]

theorem walkG_first (os : Objects) (node : Dict) (acc : List Q13.Outline) (named : Q13.Named) (seen : List ObjId)
    (o : Q13.Outline) (acc2 : List Q13.Outline) (seen2 : List ObjId)
    (hgo : Q13.getOutline os node named = .ok (some o, named))
    (hF : FirstPhase os node acc o named seen acc2 seen2) :
    (node.get Q13.K_Next = none → (Q13.walkG os node acc named seen).val = (.ok (acc2, named), seen2)) ∧
    (∀ a b nd, node.get Q13.K_Next = some (.ref a b) → (a, b) ∉ seen2 → getDictionary os (a, b) = some nd →
      (Q13.walkG os node acc named seen).val = (Q13.walkG os nd acc2 named ((a, b) :: seen2)).val) := by
  rw [Q13.walkG_val os node acc named seen (fun s => by rw [hgo]; nofun), hgo, Q13.pushOutline, hF.firstPart_eq,
    Q13.nextPart]
  exact ⟨fun hn => by rw [hn], fun a b nd hn hs hnd => by simp only [hn, if_neg hs, hnd]⟩

theorem walk_forest (os : Objects) (ts : List BT) : ∀ t r, ts = t :: r →
    ∀ (m : Nat) (parent : ObjId) (prev : Option ObjId) (acc : List Q13.Outline) (named : Q13.Named) (seen : List ObjId),
    EmbL (dictAt os) m parent prev (t :: r) → (∀ q ∈ seen, q.1 ≤ m + 1) →
    ∃ seen', (Q13.walkG os (itemDictOf parent t m prev (firstId r (m + 2 * t.size))) acc named seen).val =
        (.ok (acc ++ outL (t :: r), named), seen') ∧ ∀ q ∈ seen', q.1 ≤ m + 2 * BT.sizeL (t :: r) := by
  induction ts using BT.forest_ind with
  | nil => intro _ _ e; cases e
  | cons id title f c page kids r ihk ihr =>
    rintro _ _ ⟨⟩ m parent prev acc named seen hE hseen
    obtain ⟨⟨-, h2, h3⟩, h4⟩ := hE
    -- the `First` phase appends the bookmark and its subtree; it has seen numbers up to the next sibling's
    obtain ⟨acc2, seen2, hFP, rfl, hb2⟩ : ∃ acc2 seen2,
        FirstPhase os (itemDictOf parent (.node id title f c page kids) m prev
          (firstId r (m + 2 * (BT.node id title f c page kids).size))) acc (destOf title page) named seen acc2 seen2 ∧
        acc2 = acc ++ outN (.node id title f c page kids) ∧
        ∀ q ∈ seen2, q.1 ≤ m + 2 * (BT.node id title f c page kids).size := by
      cases kids with
      | nil =>
        refine ⟨_, _, FirstPhase.none ?_, rfl, fun q hq => Nat.le_trans (hseen q hq) (Nat.le_succ _)⟩
        rw [itemDict_get_first]; rfl
      | cons k ks =>
        obtain ⟨seen2, hw, hb⟩ := ihk k ks rfl (m + 2) (m + 1, 0) none [] named ((m + 2 + 1, 0) :: seen) h3
          (List.forall_mem_cons.mpr ⟨Nat.le_refl _, fun q hq => Nat.le_succ_of_le (Nat.le_succ_of_le (hseen q hq))⟩)
        refine ⟨_, seen2, FirstPhase.sub (m + 2 + 1) 0 _ (outL (k :: ks)) seen2 ?_ ?_
          (getDictionary_of_dictAt (EmbL_head h3)) ?_ (outL_cons_isEmpty k ks), ?_, ?_⟩
        · rw [itemDict_get_first]; rfl
        · exact fun hin => absurd (hseen _ hin) (by simp)
        · simpa using hw
        · simp [outN]
        · intro q hq
          rw [BT.size, Nat.mul_add, ← Nat.add_assoc]
          exact hb q hq
    have hstep := walkG_first os _ acc named seen (destOf title page) _ seen2
      (getOutline_item os parent id title f c page kids m prev _ named h2) hFP
    cases r with
    | nil =>
      refine ⟨seen2, ?_, ?_⟩
      · rw [hstep.1 (by rw [itemDict_get_next]; rfl)]
        simp [outL]
      · rw [BT.sizeL, BT.sizeL, Nat.add_zero]; exact hb2
    | cons t2 r' =>
      rw [hstep.2 _ _ _ (by rw [itemDict_get_next]; rfl)
        (fun hin => Nat.not_succ_le_self _ (hb2 _ hin)) (getDictionary_of_dictAt (EmbL_head h4))]
      obtain ⟨seen3, hw3, hb3⟩ := ihr t2 r' rfl _ parent (some (m + 1, 0))
        (acc ++ outN (.node id title f c page kids)) named
        ((m + 2 * (BT.node id title f c page kids).size + 1, 0) :: seen2) h4
        (List.forall_mem_cons.mpr ⟨Nat.le_refl _, fun q hq => Nat.le_succ_of_le (hb2 q hq)⟩)
      refine ⟨seen3, ?_, ?_⟩
      · rw [hw3]; simp [outL, List.append_assoc]
      · intro q hq
        rw [BT.sizeL, Nat.mul_add, ← Nat.add_assoc]
        exact hb3 q hq

/-- **walk.** On any document whose objects embed the sibling list `t :: r` (whatever else the
document holds), started with a `seen` set that only contains earlier object numbers, the guarded
`get_outlines` walk (no fuel: it terminates by its own `seen` guard) never trips the guard — every
item of a built outline is entered exactly once — and appends exactly the outline tree of the
forest: one destination per bookmark, in order, each followed by the sub-list of its children. -/
theorem walk_emb (os : Objects) : ∀ (n : Nat) (t : BT) (r : List BT), BT.sizeL (t :: r) ≤ n →
    ∀ (m : Nat) (parent : ObjId) (prev : Option ObjId) (acc : List Q13.Outline) (named : Q13.Named) (seen : List ObjId),
    EmbL (dictAt os) m parent prev (t :: r) → (∀ q ∈ seen, q.1 ≤ m + 1) →
    ∃ seen', (Q13.walkG os (itemDictOf parent t m prev (firstId r (m + 2 * t.size))) acc named seen).val =
        (.ok (acc ++ outL (t :: r), named), seen') ∧ ∀ q ∈ seen', q.1 ≤ m + 2 * BT.sizeL (t :: r) :=
  fun _ t r _ => walk_forest os (t :: r) t r rfl

/-! ## non-vacuity and the duplicate-title witness -/

def exBm (title : List Nat) (page : ObjId) : Bm :=
  { children := [], title := title, format := 0, color := [], page := page, id := 0 }

/-- four `add_bookmark` calls, the second child of bookmark 1 arriving after bookmark 3 was started -/
def exOps : List (Bm × Option Nat) :=
  [(exBm [65] (3, 0), none), (exBm [66] (3, 0), some 1), (exBm [0xE9, 0x1F600] (4, 0), none), (exBm [67] (4, 0), some 1),
   (exBm [68] (4, 0), some 9)]

/-- the table built by `add_bookmark` represents the forest the calls denote (hypothesis of
`outline_links` / `ocLoop_spec`), here with an interleaved attach and an orphan -/
example : repL (addAll BmState.empty exOps).table (addAll BmState.empty exOps).roots (forestOfOps exOps) = true := by
  decide

example : BT.sizeL (forestOfOps exOps) = 4 := by decide

/-- F-C17-a on the model: two bookmarks titled "I" under different parents; the title-keyed table of
`setup_outline_page_ids` keeps three entries, the duplicate at the FIRST position with the page
and level of the LAST. -/
def dupForest : List BT :=
  [.node 1 [65] 0 [] (3, 0) [.node 2 [73] 0 [] (3, 0) []], .node 3 [66] 0 [] (4, 0) [.node 4 [73] 0 [] (4, 0) []]]

theorem toc_duplicate_titles_collapse :
    Q13.tocIdsList 1 (outL dupForest) [] = some [([65], (3, 0), 1), ([73], (4, 0), 2), ([66], (4, 0), 1)] := by
  decide

end Lopdf
