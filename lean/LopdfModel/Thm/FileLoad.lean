import LopdfModel.Thm.FileXrefTable
import LopdfModel.Thm.FileStart
import LopdfModel.Thm.FileLoadFront
import LopdfModel.Lemmas.ObjRtBase
/-
  C01/C03 (file level) — the bytes of a save and what stands where in them: the shape of the
  output of `saveFrom` (both kinds), `startxref` is found, the writer records every kept object
  under its number at the offset of its text (`Recorded`), and **loading a table save
  reconstructs the cross-reference table the writer recorded** (`xref_table_rt`,
  `getXrefStart_tail`); with `writeObjects_offsets` every entry the READER holds points at its
  object's `n g obj` header.
-/
namespace Lopdf.FileRT
open Lopdf Gen

/-- both kinds: header and objects, then a cross-reference section of at least 13 bytes, then
`startxref` with the offset of that section -/
theorem saveFrom_shape (pre : Bytes) (d : SDoc) (out : Bytes) (d' : SDoc) (h : saveFrom pre d = some (out, d')) :
    ∃ sec, 13 ≤ sec.length ∧
      out = bodyOf pre d ++ sec ++ STARTXREF_KW ++ natDigits (bodyOf pre d).length ++ EOF_KW := by
  cases hk : d.xrefKind with
  | table =>
    refine ⟨writeXrefTable (xmapOf pre d) (d.maxId + 1) ++ TRAILER_KW
      ++ writeObj (.dict (d.trailer.set SIZE (.int (d.maxId + 1)))), ?_, ?_⟩
    · simp only [List.length_append, writeXrefTable, XREF_KW, TRAILER_KW, List.length_cons, List.length_nil]
      omega
    · rw [(saveFrom_table_eq pre d out d' hk h).1]; simp only [List.append_assoc]
  | stream =>
    refine ⟨writeIndirect (d.maxId + 1) 0
      (.stream (streamTrailer pre d) (xrefStreamContent (streamSecs (xmapStream pre d) (d.maxId + 1)))), ?_, ?_⟩
    · simp only [writeIndirect, List.length_append, List.length_cons, List.length_nil]
      omega
    · exact (saveFrom_stream_eq pre d out d' hk h).1

theorem body_lt_out (pre : Bytes) (d : SDoc) (out : Bytes) (d' : SDoc)
    (h : saveFrom pre d = some (out, d')) : (bodyOf pre d).length < out.length := by
  obtain ⟨sec, hsec, rfl⟩ := saveFrom_shape pre d out d' h
  simp only [List.length_append]; omega

theorem body_le_out (pre : Bytes) (d : SDoc) (out : Bytes) (d' : SDoc)
    (h : saveFrom pre d = some (out, d')) : (bodyOf pre d).length ≤ out.length :=
  Nat.le_of_lt (body_lt_out pre d out d' h)

/-- **`startxref` is found (C01/C03).** For every document and every prefix `pre` (`[]` for a
plain save, the previous revisions for an incremental one): on the bytes `save` wrote,
`Reader::get_xref_start` returns exactly the length of the body — the offset at which the
writer put the cross-reference section. Hypothesis: the file is shorter than 4 GiB (lopdf's
offsets are `u32`; what is actually used is |body| < 10^14, so that `startxref` lies within the
25 bytes before `%%EOF` that the reader searches). Nothing follows the final `%%EOF` because it
is the suffix of the output, so "last occurrence" is the real marker. -/
theorem startxref_found (pre : Bytes) (d : SDoc) (out : Bytes) (d' : SDoc)
    (h : saveFrom pre d = some (out, d')) (hlen : out.length < 4294967296) :
    getXrefStart out = some (bodyOf pre d).length := by
  have hb := body_le_out pre d out d' h
  obtain ⟨sec, hsec, rfl⟩ := saveFrom_shape pre d out d' h
  exact getXrefStart_tail _ _ (by simp only [List.length_append]; omega) (by omega)

theorem pre_le_body (pre : Bytes) (d : SDoc) : pre.length ≤ (bodyOf pre d).length := by
  have h := (writeObjects_prefix d.objects (hdrOf pre d) []).length_le
  simp only [hdrOf, List.length_append] at h
  exact Nat.le_trans (by omega) h

theorem saveFrom_header (d : SDoc) (out : Bytes) (d' : SDoc) (h : saveFrom [] d = some (out, d')) :
    ∃ R, out = PDF_KW ++ (d.version ++ 10 :: 37 :: (d.binaryMark ++ 10 :: R)) := by
  obtain ⟨sec, _, rfl⟩ := saveFrom_shape [] d out d' h
  obtain ⟨R, hR⟩ : hdrOf [] d <+: bodyOf [] d := writeObjects_prefix _ _ _
  exact ⟨R ++ sec ++ STARTXREF_KW ++ natDigits (bodyOf [] d).length ++ EOF_KW, by rw [← hR]; simp [hdrOf]⟩

theorem saveFrom_mark (pre : Bytes) (d : SDoc) (out : Bytes) (d' : SDoc) (h : saveFrom pre d = some (out, d')) :
    (d.binaryMark.all fun b => b ≥ 128) = true := by
  unfold saveFrom at h
  split at h
  · cases h
  · rename_i hm; simpa using hm

/-- `save` only fails on an invalid binary mark -/
theorem saveFrom_some (pre : Bytes) (d : SDoc) (hm : (d.binaryMark.all fun b => b ≥ 128) = true) :
    ∃ out d', saveFrom pre d = some (out, d') := by
  unfold saveFrom
  simp only [hm, Bool.not_true, Bool.false_eq_true, if_false]
  cases d.xrefKind <;> exact ⟨_, _, rfl⟩

/-- non-vacuity of `startxref_found` / `load_xref_of_save_*`: a document with a valid mark is saved
(here: the default mark, no objects, a classic table; `saveFrom_some` has either kind) -/
example : ∃ out d', saveFrom [] (SDoc.mk [49, 46, 55] [187, 173, 192, 222] [] [] 0 .table) = some (out, d') :=
  saveFrom_some _ _ (by decide)

/-- the bytes an incremental save starts from: the previous file and a newline if it lacks one -/
def incrPre (prev : Bytes) : Bytes :=
  prev ++ (match prev.getLast? with | none => [] | some b => if b = 10 then [] else [10])

theorem saveIncr_eq (prev : Bytes) (d : SDoc) : saveIncr prev d = saveFrom (incrPre prev) d := rfl

/-- generations are `u16` (`ObjectId = (u32, u16)`) -/
def GensOk (d : SDoc) : Prop := ∀ p ∈ d.objects, p.1.2 < 65536

theorem writeObjects_mapOk : ∀ (os : Objects) (out : Bytes) (x : XrefMap),
    XrefMapOk x → (∀ p ∈ os, p.1.2 < 65536) → XrefMapOk (writeObjects os out x).2 := by
  intro os
  induction os with
  | nil => intro out x hx _; exact hx
  | cons p rest ih =>
    intro out x hx hg
    have hrest := fun q hq => hg q (List.mem_cons_of_mem _ hq)
    simp only [writeObjects]
    split
    · exact ih out x hx hrest
    · exact ih _ _ (XrefMapOk_insert hx _ _ _ (Nat.mod_lt _ (by omega)) (hg p List.mem_cons_self)) hrest

theorem xmapOf_ok (pre : Bytes) (d : SDoc) (hg : GensOk d) : XrefMapOk (xmapOf pre d) :=
  writeObjects_mapOk _ _ [] XrefMapOk_nil hg

theorem xmapStream_ok (pre : Bytes) (d : SDoc) (hg : GensOk d) : XrefMapOk (xmapStream pre d) :=
  XrefMapOk_insert (xmapOf_ok pre d hg) _ _ _ (Nat.mod_lt _ (by omega)) (by omega)

def ObjAt (out : Bytes) (off n g : Nat) (o : Obj) : Prop := writeIndirect n g o <+: out.drop off

theorem ObjAt_append (out w : Bytes) (off n g : Nat) (o : Obj) (h : ObjAt out off n g o) :
    ObjAt (out ++ w) off n g o := by
  unfold ObjAt at *
  rw [List.drop_append]
  exact List.IsPrefix.trans h (List.prefix_append _ _)

/-- every recorded entry lies inside the output and names a kept object of `all` whose complete
text `n g obj … endobj` stands at the recorded offset -/
def Recorded (out : Bytes) (x : XrefMap) (all : Objects) : Prop :=
  ∀ n off g, x.get n = some (off, g) →
    off ≤ out.length ∧ ∃ o, all.get (n, g) = some o ∧ NotObjStm o ∧ ObjAt out off n g o

theorem Recorded_append (out w : Bytes) (x : XrefMap) (all : Objects) (h : Recorded out x all) :
    Recorded (out ++ w) x all := by
  intro n off g hg
  obtain ⟨h1, o, h2, h3, h4⟩ := h n off g hg
  exact ⟨by simp only [List.length_append]; omega, o, h2, h3, ObjAt_append _ _ _ _ _ _ h4⟩

theorem notObjStm_of_kept (o : Obj) (h : skippedOnSave o = false) : NotObjStm o := by
  cases o with
  | stream d c =>
    show Dict.getTypeIs d OBJSTM = false
    unfold Dict.getTypeIs
    unfold skippedOnSave Dict.getType at h
    cases hn : (Dict.get d TYPE).bind Obj.asName with
    | none => rfl
    | some n =>
      simp only [hn] at h
      simp only
      cases hb : (n == OBJSTM) with
      | false => rfl
      | true => rw [eq_of_beq hb] at h; simp at h
  | _ => trivial

theorem Recorded.insert {out : Bytes} {x : XrefMap} {all : Objects} (h : Recorded out x all)
    (hl : out.length < 4294967296) {n g : Nat} {o : Obj} (hp : all.get (n, g) = some o) (hno : NotObjStm o)
    (w : Bytes) :
    Recorded (out ++ (writeIndirect n g o ++ w)) (x.insert n (out.length % 4294967296, g)) all := by
  intro m off g' hget
  by_cases hm : m = n
  · subst hm
    rw [XrefMap.get_insert_same, Nat.mod_eq_of_lt hl] at hget
    cases hget
    refine ⟨by simp only [List.length_append]; omega, o, hp, hno, ?_⟩
    unfold ObjAt
    rw [List.drop_left]
    exact List.prefix_append _ _
  · rw [XrefMap.get_insert_other _ _ _ _ hm] at hget
    exact Recorded_append _ _ _ _ h m off g' hget

theorem writeObjects_recorded (all : Objects) : ∀ (os : Objects) (out : Bytes) (x : XrefMap),
    Recorded out x all → (∀ p ∈ os, all.get p.1 = some p.2) →
    (writeObjects os out x).1.length < 4294967296 →
    Recorded (writeObjects os out x).1 (writeObjects os out x).2 all := by
  intro os
  induction os with
  | nil => intro out x h _ _; simpa [writeObjects] using h
  | cons p rest ih =>
    intro out x h hall hlen
    obtain ⟨⟨n, g⟩, o⟩ := p
    have hp : all.get (n, g) = some o := hall ((n, g), o) (by simp)
    have hrest := fun q hq => hall q (List.mem_cons_of_mem _ hq)
    simp only [writeObjects] at hlen ⊢
    split
    · rename_i hs; simp only [hs, if_true] at hlen
      exact ih out x h hrest hlen
    · rename_i hs
      simp only [hs, Bool.false_eq_true, if_false] at hlen
      have hl : out.length < 4294967296 := by
        have := (writeObjects_prefix rest (out ++ writeIndirect n g o)
          (x.insert n (out.length % 4294967296, g))).length_le
        simp only [List.length_append] at this
        omega
      exact ih _ _ (by simpa only [List.append_nil] using h.insert hl hp (notObjStm_of_kept o (by simpa using hs)) [])
        hrest hlen

theorem writeObjects_get_other : ∀ (os : Objects) (out : Bytes) (x : XrefMap) (n : Nat),
    n ∉ os.map (·.1.1) → (writeObjects os out x).2.get n = x.get n := by
  intro os
  induction os with
  | nil => intro out x n _; rfl
  | cons p rest ih =>
    intro out x n hn
    simp only [List.map_cons, List.mem_cons, not_or] at hn
    simp only [writeObjects]
    split
    · exact ih out x n hn.2
    · rw [ih _ _ n hn.2, XrefMap.get_insert_other _ _ _ _ hn.1]

theorem writeObjects_complete : ∀ (os : Objects) (out : Bytes) (x : XrefMap),
    (os.map (·.1.1)).Nodup → ∀ p ∈ os, skippedOnSave p.2 = false →
    ∃ off, (writeObjects os out x).2.get p.1.1 = some (off, p.1.2) := by
  intro os
  induction os with
  | nil => intro out x _ p hp; cases hp
  | cons q rest ih =>
    intro out x hn p hp hs
    obtain ⟨hq, hn⟩ := List.nodup_cons.mp hn
    rcases List.mem_cons.mp hp with rfl | hp
    · simp only [writeObjects, hs, Bool.false_eq_true, if_false]
      rw [writeObjects_get_other rest _ _ _ hq, XrefMap.get_insert_same]
      exact ⟨_, rfl⟩
    · simp only [writeObjects]
      split
      · exact ih out x hn p hp hs
      · exact ih _ _ hn p hp hs

/-- documents as `lopdf` holds them: one object per number (BTreeMap keyed by id; `save` records
one entry per NUMBER), numbers within `1..max_id`, `u16` generations, no object of a kind that
`save` drops (ObjStm / XRef / Linearized) -/
structure DocWF (d : SDoc) : Prop where
  nodup : (d.objects.map (·.1.1)).Nodup
  range : ∀ p ∈ d.objects, 1 ≤ p.1.1 ∧ p.1.1 ≤ d.maxId
  gens : GensOk d
  kept : ∀ p ∈ d.objects, skippedOnSave p.2 = false

theorem bodyOf_recorded (pre : Bytes) (d : SDoc) (hn : (d.objects.map (·.1.1)).Nodup)
    (hlen : (bodyOf pre d).length < 4294967296) : Recorded (bodyOf pre d) (xmapOf pre d) d.objects :=
  writeObjects_recorded d.objects d.objects (hdrOf pre d) [] (fun _ _ _ hg => by cases hg)
    (fun p hp => Objects_get_of_mem d.objects hn p hp) hlen

theorem saveFrom_recorded (pre : Bytes) (d : SDoc) (out : Bytes) (d' : SDoc) (h : saveFrom pre d = some (out, d'))
    (hn : (d.objects.map (·.1.1)).Nodup) (hlen : out.length < 4294967296) (R : Bytes) :
    Recorded (out ++ R) (xmapOf pre d) d.objects := by
  have hb := body_le_out pre d out d' h
  obtain ⟨sec, _, rfl⟩ := saveFrom_shape pre d out d' h
  simp only [List.append_assoc]
  exact Recorded_append _ _ _ _ (bodyOf_recorded pre d hn (by omega))

theorem xmapOf_complete (pre : Bytes) (d : SDoc) (hwf : DocWF d) (id : ObjId) (o : Obj)
    (h : d.objects.get id = some o) :
    1 ≤ id.1 ∧ id.1 ≤ d.maxId ∧ ∃ off, (xmapOf pre d).get id.1 = some (off, id.2) := by
  have hm := Objects.get_mem h
  exact ⟨(hwf.range _ hm).1, (hwf.range _ hm).2,
    writeObjects_complete d.objects (hdrOf pre d) [] hwf.nodup (id, o) hm (hwf.kept _ hm)⟩

/-- the object-level fact the file theorems are composed with (C01 `obj_rt` for dictionaries):
the dictionary `tr` written by `write_dictionary` is read back by `dictionary` as `tr` when
followed by `rest` -/
def DictReadsBack (tr : Dict) (rest : Bytes) : Prop :=
  pDictionary (writeObj (.dict tr) ++ rest) = some (tr, rest)

/-- general form: the written dictionary `tr` is read back as `tr'` (e.g. with reals normalised) -/
def DictReadsBackN (tr tr' : Dict) (rest : Bytes) : Prop :=
  pDictionary (writeObj (.dict tr) ++ rest) = some (tr', rest)

theorem writeObj_dict_cons (tr : Dict) : ∃ w, writeObj (.dict tr) = 60 :: 60 :: w :=
  ⟨writeDictBody tr ++ [62, 62], by simp [writeObj]⟩

theorem noDigit_trailer (r : Bytes) : NoDigitAhead (TRAILER_KW ++ r) :=
  noDigitAhead_cons _ (by decide)

theorem xrefAndTrailer_tableN (x : XrefMap) (size : Nat) (tr tr' : Dict) (tail : Bytes)
    (hx : XrefMapOk x) (hs : size ≤ 4294967295) (hD : DictReadsBackN tr tr' tail)
    (hsz : tr'.get SIZE = some (.int (size : Int))) :
    ∃ table, xrefAndTrailer (writeXrefTable x size ++ (TRAILER_KW ++ (writeObj (.dict tr) ++ tail)))
        = .ok (table, size, tr') ∧
      (∀ n, table.get n = if 1 ≤ n ∧ n < size then normalOf x n else none) ∧
      (table.map (·.1)).Nodup := by
  obtain ⟨table, hp, hget, hnodup⟩ := xref_table_read x size (TRAILER_KW ++ (writeObj (.dict tr) ++ tail)) hx hs
    (noDigit_trailer _)
  refine ⟨table, ?_, hget, hnodup⟩
  obtain ⟨w, hw⟩ := writeObj_dict_cons tr
  have hsp : space (TRAILER_KW ++ (writeObj (.dict tr) ++ tail)) = TRAILER_KW ++ (writeObj (.dict tr) ++ tail) :=
    ObjRt.space_head _ ⟨116, _, rfl, by decide, by decide⟩
  have htg : tag TRAILER_WORD (TRAILER_KW ++ (writeObj (.dict tr) ++ tail))
      = some (10 :: (writeObj (.dict tr) ++ tail)) := tag_append TRAILER_WORD _
  have hsp2 : space (10 :: (writeObj (.dict tr) ++ tail)) = writeObj (.dict tr) ++ tail := by
    rw [hw, ObjRt.space_ws 10 _ (by decide)]
    exact ObjRt.space_head _ ⟨60, _, rfl, by decide, by decide⟩
  have hsz' : (tr'.get SIZE).bind Obj.asInt = some (size : Int) := by rw [hsz]; rfl
  have hmod := toNat_emod_U32 size (by omega)
  unfold DictReadsBackN at hD
  unfold xrefAndTrailer
  rw [hp]
  simp only [hsp, pTrailer, htg, Option.bind_some, hsp2, hD, Option.map_some, hsz', hmod]

theorem table_maxId_le {X : XTable} {x : XrefMap} {size : Nat}
    (hget : ∀ n, X.get n = if 1 ≤ n ∧ n < size then normalOf x n else none) : X.maxId ≤ size - 1 :=
  XTable_maxId_le X _ fun p hp => by
    cases hv : X.get p.1 with
    | none => exact absurd (List.mem_map_of_mem (f := (·.1)) hp) ((XTable_get_none_iff X p.1).mp hv)
    | some v => have := (table_get_some hget hv).2.1; omega

theorem headerAt_of_table {X : XTable} {x : XrefMap} {size : Nat} {out : Bytes}
    (hget : ∀ n, X.get n = if 1 ≤ n ∧ n < size then normalOf x n else none) (hoff : OffsetsOk out x)
    (n off g : Nat) (h : X.get n = some (.normal off g)) : HeaderAt out off n g := by
  obtain ⟨_, _, off', g', e, hx⟩ := table_get_some hget h
  cases e
  exact hoff n off g hx

theorem OffsetsOk_append {out : Bytes} {x : XrefMap} (h : OffsetsOk out x) (w : Bytes) : OffsetsOk (out ++ w) x :=
  fun n off g hg => HeaderAt_append _ _ _ _ _ (h n off g hg)

theorem table_section_of_save (pre : Bytes) (d : SDoc) (out : Bytes) (d' : SDoc) (tr' : Dict)
    (hk : d.xrefKind = .table) (h : saveFrom pre d = some (out, d'))
    (hmax : d.maxId + 1 ≤ 4294967295) (hg : GensOk d) (R : Bytes)
    (hD : DictReadsBackN d'.trailer tr' (STARTXREF_KW ++ natDigits (bodyOf pre d).length ++ EOF_KW ++ R))
    (hsz : tr'.get SIZE = some (.int ((d.maxId + 1 : Nat) : Int))) :
    ∃ table, xrefAndTrailer ((out ++ R).drop (bodyOf pre d).length) = .ok (table, d.maxId + 1, tr') ∧
      (∀ n, table.get n = if 1 ≤ n ∧ n < d.maxId + 1 then normalOf (xmapOf pre d) n else none) ∧
      (table.map (·.1)).Nodup := by
  obtain ⟨hout, htr⟩ := saveFrom_table_eq pre d out d' hk h
  obtain ⟨table, hxt, hget, hnodup⟩ := xrefAndTrailer_tableN (xmapOf pre d) (d.maxId + 1) d'.trailer tr' _
    (xmapOf_ok pre d hg) hmax hD hsz
  refine ⟨table, ?_, hget, hnodup⟩
  rw [hout, ← htr]
  simp only [List.append_assoc] at hxt ⊢
  rw [List.drop_left]
  exact hxt

/-- **Loading a table save reconstructs the writer's table (C01/C03).** For every document saved
with a classic table (file < 4 GiB, `max_id + 1 ≤ u32::MAX`, `u16` generations) whose trailer
dictionary reads back (object-level round trip): the reader finds `startxref`, and
`xref_and_trailer` at that offset returns a table that holds `normal off g` for object `n` iff
`1 ≤ n ≤ max_id` and the writer recorded `n ↦ (off, g)`; hence (offset invariant) every entry
the reader holds points at the bytes `n g obj\n` of the file. `Size` read back is `max_id + 1`. -/
theorem load_xref_of_save_table (pre : Bytes) (d : SDoc) (out : Bytes) (d' : SDoc)
    (hk : d.xrefKind = .table) (h : saveFrom pre d = some (out, d')) (hlen : out.length < 4294967296)
    (hmax : d.maxId + 1 ≤ 4294967295) (hg : GensOk d)
    (hD : DictReadsBack d'.trailer (STARTXREF_KW ++ natDigits (bodyOf pre d).length ++ EOF_KW)) :
    ∃ xs table, getXrefStart out = some xs ∧ xs ≤ out.length ∧
      xrefAndTrailer (out.drop xs) = .ok (table, d.maxId + 1, d'.trailer) ∧
      (∀ n, table.get n = if 1 ≤ n ∧ n < d.maxId + 1 then normalOf (xmapOf pre d) n else none) ∧
      (∀ n off g, table.get n = some (.normal off g) → HeaderAt out off n g) ∧
      (table.map (·.1)).Nodup := by
  have hb := body_le_out pre d out d' h
  obtain ⟨table, hxt, hget, hnodup⟩ := table_section_of_save pre d out d' d'.trailer hk h hmax hg []
    (by rwa [List.append_nil]) (by rw [(saveFrom_table_eq pre d out d' hk h).2, Dict.get_set_same]; rfl)
  rw [List.append_nil] at hxt
  have hoff : OffsetsOk (bodyOf pre d) (xmapOf pre d) := save_offsets pre d (by unfold bodyOf hdrOf at hb; omega)
  refine ⟨_, table, startxref_found pre d out d' h hlen, hb, hxt, hget, ?_, hnodup⟩
  obtain ⟨sec, _, rfl⟩ := saveFrom_shape pre d out d' h
  simp only [List.append_assoc]
  exact headerAt_of_table hget (OffsetsOk_append hoff _)

end Lopdf.FileRT
