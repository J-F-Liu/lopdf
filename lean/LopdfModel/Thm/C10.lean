import LopdfModel.Lemmas.Move
import LopdfModel.Lemmas.Edit
/-
  C10 — property theorems (renumbering objects preserves the document graph).
  What holds: the traversal visits each reachable object once (Lemmas/Traverse.lean), the dense pass
  numbers start … start+n-1, and one move+rename pass is an isomorphism under explicit guards; the edges
  of the full statement come with proved witnesses.
  FULL STATEMENT (false of the code, kept visible): for all documents and start values there is a
  bijection rho on ids with objects'(rho id) = rename rho (objects id) for reachable ids, trailer' =
  rename rho trailer, bookmark targets renamed by rho, dangling references still dangling.
-/
namespace Lopdf

def Outcome.toOption {α} : Outcome α → Option α
  | .ok a => some a
  | _ => none

private def nm (s : String) : Bytes := s.toUTF8.toList
/-- ids 1..5: catalog 1, page 2, pages-root 3, page 4, info 5; one bookmark on page (2,0) -/
def wdoc : Doc :=
  { trailer := [(ROOT, .ref 1 0), ([73,110,102,111], .ref 5 0)],
    objects := [((1,0), .dict [(TYPE, .name [67,97,116,97,108,111,103]), (PAGES, .ref 3 0)]),
                ((2,0), .dict [(TYPE, .name PAGE), ([80,97,114,101,110,116], .ref 3 0)]),
                ((3,0), .dict [(TYPE, .name PAGES), (KIDS, .arr [.ref 2 0, .ref 4 0])]),
                ((4,0), .dict [(TYPE, .name PAGE), ([80,97,114,101,110,116], .ref 3 0)]),
                ((5,0), .dict [])],
    maxId := 5, bookmarks := [1], bmTable := [(1, { children := [], page := (2,0) })] }

theorem wdoc_pairs : densePairs (sortBy idLeE wdoc.objects.keys) 2 [] =
    some ([((1,0),(2,0)), ((2,0),(3,0)), ((3,0),(4,0)), ((4,0),(5,0)), ((5,0),(6,0))], 7) := by decide

/-- (F-C10-a fixed) Dense pass with start 2 on ids 1..5: the page object (2,0) moves to (3,0) and the
bookmark that pointed at page (2,0) follows it — targets are renamed once, through the complete map. -/
theorem bookmark_follows_example :
    ((densePass wdoc 2).toOption.bind fun d' => (d'.bmTable.get 1).map (·.page)) = some (3, 0) ∧
    lookupId [((1,0),(2,0)), ((2,0),(3,0)), ((3,0),(4,0)), ((4,0),(5,0)), ((5,0),(6,0))] (2,0) = some (3,0) := by
  constructor
  · unfold densePass
    rw [wdoc_pairs]
    simp only [Outcome.toOption]
    decide
  · decide

/-- **bookmark targets follow the renaming**: after a move pass every bookmark's page is `rho` of what it was -/
theorem bookmarks_follow_rho (bks : List Nat) (os : Objects) (bm : BkTable) (pairs : List (ObjId × ObjId))
    (h1 : (pairs.map (·.1)).Nodup) (h2 : ∀ p ∈ pairs, os.get p.1 ≠ none) :
    (movePass bks os bm pairs).bm = bm.map fun (i, b) => (i, { b with page := (lookupId pairs b.page).getD b.page }) := by
  -- the move loop leaves the table alone; it is renamed once, through `replace = pairs`
  have hbm : ∀ (pairs : List (ObjId × ObjId)) (st : MoveSt), (pairs.foldl (moveStep bks) st).bm = st.bm := by
    intro pairs
    induction pairs with
    | nil => intro st; rfl
    | cons p rest ih => intro st; rw [List.foldl_cons, ih]; unfold moveStep moveObj; split <;> rfl
  show renameBkPages (movePass bks os bm pairs).replace (pairs.foldl (moveStep bks) _).bm = _
  rw [(movePass_get bks os bm pairs h1 h2).2, hbm]; rfl

/-- **C10, dense numbering.** For any document (n objects, distinct keys) and any starting number for which
all new ids fit (`start + n - 1 ≤ u32::MAX`, stated as `start + n ≤ u32::MAX + 1`; no condition when the
document is empty) the dense pass returns; afterwards the object numbers are exactly `start … start+n-1`
(each new id of the assignment holds an object and nothing else does) and `max_id` is the last number
(`start - 1`, or 0, for an empty document). -/
theorem renumber_dense (d1 : Doc) (start : Nat) (hnd : d1.objects.keys.Nodup)
    (hhi : start + d1.objects.length ≤ U32_MAXE + 1) :
    ∃ d', densePass d1 start = .ok d' ∧ d'.maxId = start + d1.objects.length - 1 ∧
      (assign (sortBy idLeE d1.objects.keys) start).map (fun p => p.2.1) = List.range' start d1.objects.length ∧
      ∀ k, (d'.objects.get k).isSome ↔ ∃ p ∈ assign (sortBy idLeE d1.objects.keys) start, p.2 = k := by
  obtain ⟨hn, hk, hlen⟩ := sortedKeys d1.objects hnd
  unfold densePass
  rw [densePairs_eq _ _ _ (by rw [hlen]; exact hhi)]
  simp only [List.nil_append, hlen]
  refine ⟨_, rfl, rfl, by rw [assign_numbers, hlen], fun k => ?_⟩
  rw [← dense_move_isSome d1.bookmarks d1.objects d1.bmTable _ start hn hk k, traverse_isSome]

/-- (F-C10-c fixed) start 0 on an empty document returns, with `max_id = 0` -/
theorem start0_empty_ok (tr : Dict) (bks : List Nat) (bm : BkTable) (m : Nat) :
    ∃ d', densePass ⟨tr, [], m, bks, bm⟩ 0 = .ok d' ∧ d'.maxId = 0 := by
  obtain ⟨d', h1, h2, _⟩ := renumber_dense ⟨tr, [], m, bks, bm⟩ 0 (by simp [Objects.keys]) (by simp)
  exact ⟨d', h1, by simpa using h2⟩

/-- (F-C10-c fixed) 5 objects from `u32::MAX - 4`: every id fits, the call returns and `max_id = u32::MAX` -/
theorem last_id_u32max_ok : ∃ d', densePass wdoc (U32_MAXE - 4) = .ok d' ∧ d'.maxId = U32_MAXE := by
  obtain ⟨d', h1, h2, _⟩ := renumber_dense wdoc (U32_MAXE - 4) (by decide) (by decide)
  exact ⟨d', h1, by rw [h2]; decide⟩

/-- domain boundary: when the ids do NOT fit (`start + n - 1 > u32::MAX`) the addition that computes the
number overflows (overflow checks on) — no correct result exists -/
theorem ids_do_not_fit_panics : densePass wdoc (U32_MAXE - 3) = .panic "add" := by
  have : densePairs (sortBy idLeE wdoc.objects.keys) (U32_MAXE - 3) [] = none := by decide
  simp [densePass, this]

/-- **F-C10-b (counter-witness).** Objects 1,2,3,4,8 and a dangling `5 0 R`: the reference resolves to
nothing before; the rename action leaves it as it is; after the dense pass (start 1) id (5,0) holds an object. -/
def wdoc2 : Doc :=
  { wdoc with objects := [((1,0), .dict [(TYPE, .name [67,97,116,97,108,111,103]), (PAGES, .ref 3 0), ([68], .ref 5 0)]),
                ((2,0), .dict [(TYPE, .name PAGE)]), ((3,0), .dict [(TYPE, .name PAGES), (KIDS, .arr [.ref 2 0, .ref 4 0])]),
                ((4,0), .dict [(TYPE, .name PAGE)]), ((8,0), .dict [])],
              maxId := 8, bookmarks := [], bmTable := [] }

theorem dangling_capture_witness :
    wdoc2.objects.get (5, 0) = none ∧
    (∃ pairs n, densePairs (sortBy idLeE wdoc2.objects.keys) 1 [] = some (pairs, n) ∧
        (renameFn pairs (.ref 5 0)).asRef = some (5, 0)) ∧
    ∃ d', densePass wdoc2 1 = .ok d' ∧ (d'.objects.get (5, 0)).isSome := by
  refine ⟨by decide, ⟨[((8,0),(5,0))], 6, by decide, by decide⟩, ?_⟩
  obtain ⟨d', h1, _, _, h4⟩ := renumber_dense wdoc2 1 (by decide) (by decide)
  exact ⟨d', h1, (h4 (5,0)).mpr (by decide)⟩

/-- what `renumber_bookmarks` called pair by pair does to one bookmark target -/
def seqRename (pairs : List (ObjId × ObjId)) (p : ObjId) : ObjId :=
  pairs.foldl (fun p on => if p = on.1 then on.2 else p) p

/-- what it should do: the renaming itself -/
def rhoFn (pairs : List (ObjId × ObjId)) (p : ObjId) : ObjId := (lookupId pairs p).getD p

/-- no new id is the old id of a later pair -/
def NoChain : List (ObjId × ObjId) → Prop
  | [] => True
  | on :: rest => on.2 ∉ rest.map (·.1) ∧ NoChain rest

def NoChain.dec : (l : List (ObjId × ObjId)) → Decidable (NoChain l)
  | [] => isTrue trivial
  | on :: rest =>
    match NoChain.dec rest with
    | isTrue h2 => if h1 : on.2 ∉ rest.map (·.1) then isTrue ⟨h1, h2⟩ else isFalse (fun h => h1 h.1)
    | isFalse h2 => isFalse (fun h => h2 h.2)
instance : DecidablePred NoChain := NoChain.dec

theorem seqRename_fix (pairs : List (ObjId × ObjId)) (p : ObjId) (h : p ∉ pairs.map (·.1)) : seqRename pairs p = p := by
  induction pairs with
  | nil => rfl
  | cons on rest ih =>
    simp only [List.map_cons, List.mem_cons, not_or] at h
    simp only [seqRename, List.foldl_cons, h.1, if_false]
    exact ih h.2

/-- **C10, bookmarks (partial).** When no new id equals a later old id, renaming pair by pair is the
renaming: a bookmark target `p` ends at `rho p`. (False without the guard: the chain in the examples below.) -/
theorem bookmark_seq_partial (pairs : List (ObjId × ObjId)) (h : NoChain pairs) (p : ObjId) :
    seqRename pairs p = rhoFn pairs p := by
  induction pairs generalizing p with
  | nil => rfl
  | cons on rest ih =>
    obtain ⟨o, n⟩ := on
    simp only [NoChain] at h
    simp only [seqRename, List.foldl_cons, rhoFn, lookupId]
    by_cases e : p = o
    · subst e; simp only [if_true, Option.getD_some]
      exact seqRename_fix rest n h.1
    · have e' : ¬ o = p := fun x => e x.symm
      simp only [e, e', if_false]
      exact ih h.2 p

example : NoChain [((5,0),(2,0)), ((9,0),(3,0))] := by decide
example : ¬ NoChain [((1,0),(2,0)), ((2,0),(3,0))] := by decide
example : seqRename [((1,0),(2,0)), ((2,0),(3,0))] (1,0) = (3,0) ∧ rhoFn [((1,0),(2,0)), ((2,0),(3,0))] (1,0) = (2,0) := by decide

theorem updatePages_single (t : Nat) (pg old new : ObjId) :
    renumberBookmarks [t] [(t, { children := [], page := pg })] old new =
      [(t, { children := [], page := if pg = old then new else pg })] := by
  rw [renumberBookmarks, List.isEmpty_cons, if_neg Bool.false_ne_true, updatePages, List.foldl_cons, List.foldl_nil]
  simp only [Bool.false_eq_true, if_false, BkTable.get, if_true, List.isEmpty_nil]
  split <;> simp [BkTable.setPage]

mutual
def mapRefs (f : ObjId → ObjId) : Obj → Obj
  | .arr items => .arr (mapRefsL f items)
  | .dict es => .dict (mapRefsD f es)
  | .stream es c => .stream (mapRefsD f es) c
  | .ref n g => .ref (f (n, g)).1 (f (n, g)).2
  | o => o
def mapRefsL (f : ObjId → ObjId) : List Obj → List Obj
  | [] => []
  | x :: xs => mapRefs f x :: mapRefsL f xs
def mapRefsD (f : ObjId → ObjId) : List (Bytes × Obj) → List (Bytes × Obj)
  | [] => []
  | (k, v) :: es => (k, mapRefs f v) :: mapRefsD f es
end

theorem renameFn_ref (m : List (ObjId × ObjId)) (n g : Nat) :
    renameFn m (.ref n g) = .ref (rhoFn m (n, g)).1 (rhoFn m (n, g)).2 := by
  simp only [renameFn, rhoFn]
  cases lookupId m (n, g) <;> simp

theorem renameFn_eq_of_asRef_none {m : List (ObjId × ObjId)} {o x : Obj} (hx : x.asRef = none)
    (h : renameFn m o = x) : o = x := by
  cases o with
  | ref n g => rw [renameFn_ref] at h; subst h; cases hx
  | _ => exact h

/-- the traversal with the rename action computes exactly `mapRefs rho` -/
theorem deep_rename (m : List (ObjId × ObjId)) :
    (∀ o, deepObj (renameAct m) o = mapRefs (rhoFn m) o) ∧
    (∀ es, deepDict (renameAct m) es = mapRefsD (rhoFn m) es) ∧
    (∀ items, deepList (renameAct m) items = mapRefsL (rhoFn m) items) := by
  apply deepObj.mutual_induct (renameAct m)
    (motive1 := fun o => deepObj (renameAct m) o = mapRefs (rhoFn m) o)
    (motive2 := fun es => deepDict (renameAct m) es = mapRefsD (rhoFn m) es)
    (motive3 := fun items => deepList (renameAct m) items = mapRefsL (rhoFn m) items)
  · intro o items h ih
    rw [deepObj_arr h, ih, renameFn_eq_of_asRef_none rfl h, mapRefs]
  · intro o es h ih
    rw [deepObj_dict h, ih, renameFn_eq_of_asRef_none rfl h, mapRefs]
  · intro o es c h ih
    rw [deepObj_stream h, ih, renameFn_eq_of_asRef_none rfl h, mapRefs]
  · intro o h1 h2 h3
    rw [deepObj_other (fun i hh => h1 i hh) (fun i hh => h2 i hh) (fun i c hh => h3 i c hh)]
    cases o with
    | arr items => exact (h1 items rfl).elim
    | dict es => exact (h2 es rfl).elim
    | stream es c => exact (h3 es c rfl).elim
    | ref n g => exact renameFn_ref m n g
    | _ => rfl
  · rw [deepDict, mapRefsD]
  · intro k v es ih1 ih2; rw [deepDict, mapRefsD, ih1, ih2]
  · rw [deepList, mapRefsL]
  · intro x xs ih1 ih2; rw [deepList, mapRefsL, ih1, ih2]

theorem lookupId_mem (m : List (ObjId × ObjId)) (k v : ObjId) (h : lookupId m k = some v) : (k, v) ∈ m := by
  induction m with
  | nil => cases h
  | cons p rest ih =>
    obtain ⟨a, b⟩ := p
    rw [lookupId] at h
    by_cases e : a = k
    · rw [if_pos e] at h; cases h; subst e; exact List.mem_cons_self
    · rw [if_neg e] at h; exact List.mem_cons_of_mem _ (ih h)

theorem lookupId_none (m : List (ObjId × ObjId)) (k : ObjId) (h : k ∉ m.map (·.1)) : lookupId m k = none := by
  cases hl : lookupId m k with
  | none => rfl
  | some v => exact absurd (List.mem_map_of_mem (f := (·.1)) (lookupId_mem m k v hl)) h

theorem lookupId_of_mem (m : List (ObjId × ObjId)) (hn : (m.map (·.1)).Nodup) (p : ObjId × ObjId) (hp : p ∈ m) :
    lookupId m p.1 = some p.2 := by
  induction m with
  | nil => cases hp
  | cons q rest ih =>
    obtain ⟨hq, hn⟩ : q.1 ∉ rest.map (·.1) ∧ (rest.map (·.1)).Nodup := List.nodup_cons.mp hn
    rw [lookupId]
    rcases List.mem_cons.mp hp with rfl | hp
    · rw [if_pos rfl]
    · rw [if_neg fun e : q.1 = p.1 => hq (e ▸ List.mem_map_of_mem hp)]
      exact ih hn hp

theorem rhoFn_rel (R : ObjId → ObjId → Prop) (m : List (ObjId × ObjId)) (hr : ∀ x, R x x)
    (hm : ∀ p ∈ m, R p.1 p.2) (x : ObjId) : R x (rhoFn m x) := by
  rw [rhoFn]
  cases h : lookupId m x with
  | none => exact hr x
  | some v => exact hm _ (lookupId_mem m x v h)

theorem rho_fix_of_not_old (pairs : List (ObjId × ObjId)) (k : ObjId) (h : k ∉ pairs.map (·.1)) : rhoFn pairs k = k := by
  rw [rhoFn, lookupId_none pairs k h]; rfl

theorem rho_of_mem (pairs : List (ObjId × ObjId)) (hn : (pairs.map (·.1)).Nodup) (p : ObjId × ObjId) (hp : p ∈ pairs) :
    rhoFn pairs p.1 = p.2 := by
  rw [rhoFn, lookupId_of_mem pairs hn p hp]; rfl

theorem movePass_rho (bks : List Nat) (os : Objects) (bm : BkTable) (pairs : List (ObjId × ObjId))
    (h1 : (pairs.map (·.1)).Nodup) (h2 : ∀ p ∈ pairs, os.get p.1 ≠ none)
    (h3 : (pairs.map (·.2)).Nodup)
    (h4 : ∀ p ∈ pairs, ∀ k, (os.get k).isSome → k ∉ pairs.map (·.1) → p.2 ≠ k)
    (old : ObjId) (o : Obj) (ho : os.get old = some o) :
    (movePass bks os bm pairs).objects.get (rhoFn pairs old) = some o := by
  rw [(movePass_get bks os bm pairs h1 h2).1]
  by_cases hin : old ∈ pairs.map (·.1)
  · obtain ⟨p, hp, rfl⟩ := List.mem_map.mp hin
    rw [rho_of_mem pairs h1 p hp]
    obtain ⟨o', ho'⟩ := srcOf_some_of_mem pairs p.2 p.1 hp
    have : o' = p.1 := congrArg Prod.fst
      (inj_of_nodup_map (·.2) pairs h3 (o', p.2) (srcOf_mem _ _ _ ho') p hp rfl)
    rw [ho', this]
    exact ho
  · rw [rho_fix_of_not_old pairs old hin]
    cases hs : srcOf pairs old with
    | some o' => exact absurd rfl (h4 _ (srcOf_mem _ _ _ hs) old (by rw [ho]; rfl) hin)
    | none => simp only [hin, if_false, ho]

/-- **C10, one renaming pass is an isomorphism (partial: explicit guards).**  For pairs `old ↦ new` with
distinct existing old ids, distinct new ids, and no new id equal to a key that stays: after moving the
objects and traversing with the rename action, the trailer is the original with every reference renamed
by `rho`, and the object of every old id `old` sits at `rho old` — renamed by `rho` when the traversal
reached it, untouched otherwise.  No object is lost, none is duplicated. -/
theorem rename_pass_iso_partial (bks : List Nat) (os : Objects) (bm : BkTable) (tr : Dict) (pairs : List (ObjId × ObjId))
    (h1 : (pairs.map (·.1)).Nodup) (h2 : ∀ p ∈ pairs, os.get p.1 ≠ none)
    (h3 : (pairs.map (·.2)).Nodup)
    (h4 : ∀ p ∈ pairs, ∀ k, (os.get k).isSome → k ∉ pairs.map (·.1) → p.2 ≠ k) :
    (traverse (renameAct (movePass bks os bm pairs).replace) tr (movePass bks os bm pairs).objects).1
        = mapRefsD (rhoFn pairs) tr ∧
    ∀ old o, os.get old = some o →
      (traverse (renameAct (movePass bks os bm pairs).replace) tr (movePass bks os bm pairs).objects).2.1.get (rhoFn pairs old)
        = some (if rhoFn pairs old ∈
                    (traverse (renameAct (movePass bks os bm pairs).replace) tr (movePass bks os bm pairs).objects).2.2
                then mapRefs (rhoFn pairs) o else o) := by
  rw [(movePass_get bks os bm pairs h1 h2).2]
  obtain ⟨v1, -, v3⟩ := traverse_visits_once (renameAct pairs) tr (movePass bks os bm pairs).objects
  refine ⟨by rw [v1, (deep_rename pairs).2.1], fun old o ho => ?_⟩
  rw [v3, movePass_rho bks os bm pairs h1 h2 h3 h4 old o ho]
  split <;> simp [(deep_rename pairs).1]

example : (([((5,0),(2,0))] : List (ObjId × ObjId)).map (·.1)).Nodup ∧ (([((5,0),(2,0))] : List (ObjId × ObjId)).map (·.2)).Nodup := by decide


theorem denseSpec_news_nodup (ids : List ObjId) (s : Nat) : ((denseSpec ids s).map (·.2)).Nodup := by
  refine ((denseSpec_sublist_assign ids s).map _).nodup ?_
  have h : (((assign ids s).map (·.2)).map (·.1)).Nodup := by
    rw [List.map_map]; exact (assign_numbers ids s) ▸ List.nodup_range'
  exact List.Pairwise.of_map (·.1) (fun a b hab e => hab (by rw [e])) h

theorem rho_assign (ids : List ObjId) (s : Nat) (hn : ids.Nodup) : ∀ p ∈ assign ids s, rhoFn (denseSpec ids s) p.1 = p.2 := by
  intro p hp
  by_cases hfix : p.2 = p.1
  · rw [hfix]; exact rho_fix_of_not_old _ _ ((assign_stays_iff hn hp).mpr hfix)
  · exact rho_of_mem _ ((denseSpec_olds_sublist ids s).nodup hn) p (mem_denseSpec.mpr ⟨hp, hfix⟩)

end Lopdf
