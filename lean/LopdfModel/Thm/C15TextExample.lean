import LopdfModel.Thm.C15Text
/-
  C15 — non-vacuity of `parseCMap_complete` (a text with tabs, CR LF, a comment, lower-case hex,
  white space inside a target, an array target, `/Procset`, metadata in the other order) and what
  the frame does NOT tolerate (`parse` answers an error).
-/
namespace Lopdf.CMapText
open Lopdf Lopdf.CMap Lopdf.Gen

theorem blank1_tab : Blank1 [9] := ⟨by simp [Blank0], by simp⟩
theorem ms1_crlf : MS1 [13, 10] := ⟨.ws 13 _ (by simp) ms_lf, by simp⟩

theorem hb (a b : UInt8) (ha : isHexDigit a = true) (hb' : isHexDigit b = true) :
    DHexBytes [(hexVal a).toNat * 16 + (hexVal b).toNat] [a, b] := .cons a b [] [] ha hb' .nil

/-- `<0a>` -/
theorem src_0a : DSrc (10, 1) [60, 48, 97, 62] :=
  .mk [10] [48, 97] (hb 48 97 (by decide) (by decide)) (by decide) (by decide)
/-- `<0B>` -/
theorem src_0B : DSrc (11, 1) [60, 48, 66, 62] :=
  .mk [11] [48, 66] (hb 48 66 (by decide) (by decide)) (by decide) (by decide)
/-- `<0041 0042>` : two units with a blank after the first -/
theorem tgt_AB : DTarget [65, 66] [60, 48, 48, 52, 49, 32, 48, 48, 52, 50, 62] :=
  .mk _ _ (.cons 0 65 [48, 48] [52, 49] [32] _ _ (hb 48 48 (by decide) (by decide)) (hb 52 49 (by decide) (by decide))
      (.ws 32 _ (by simp) .nil)
      (.cons 0 66 [48, 48] [52, 50] [] _ _ (hb 48 48 (by decide) (by decide)) (hb 52 50 (by decide) (by decide)) .nil .nil))
    (by decide) (by decide)
/-- `<0043>` -/
theorem tgt_C : DTarget [67] [60, 48, 48, 52, 51, 62] :=
  .mk _ _ (.cons 0 67 [48, 48] [52, 51] [] _ _ (hb 48 48 (by decide) (by decide)) (hb 52 51 (by decide) (by decide)) .nil .nil)
    (by decide) (by decide)

/-- `<0a>` TAB `<0041 0042>` `% c` CR LF -/
theorem exCharLine : DCharLine ((10, 1), [65, 66])
    [60, 48, 97, 62, 9, 60, 48, 48, 52, 49, 32, 48, 48, 52, 50, 62, 37, 32, 99, 13, 10] :=
  .mk _ _ _ [9] _ _ src_0a blank1_tab.1 tgt_AB
    ⟨.comment [32, 99] 13 [10] (by intro b hb; simp at hb; rcases hb with rfl | rfl <;> decide) (Or.inr rfl) ms_lf, by simp⟩

/-- `<0a><0B> [ <0043> <0043> ]` LF : a range with an array target, no blank between the codes -/
theorem exRangeLine : DRangeLine ((10, 11, 1), [[67], [67]])
    [60, 48, 97, 62, 60, 48, 66, 62, 32, 91, 32, 60, 48, 48, 52, 51, 62, 32, 60, 48, 48, 52, 51, 62, 32, 93, 10] :=
  .mk _ _ _ [32] _ _ (.mk 10 11 1 _ [] _ src_0a blank0_nil src_0B) blank1_sp.1
    (.array [67] [[67]] [32] _ _ [32] blank1_sp.1 tgt_C (.cons [67] [] [32] _ [] blank1_sp tgt_C .nil) blank1_sp.1)
    ms1_lf

def exSecs : List Section := [.bfRange [((10, 11, 1), [[67], [67]])], .bfChar [((10, 1), [65, 66])]]

/-- the whole text: `/Procset`, `/CMapType` before `/CMapName`, the range section before the char
section, counts 7 and 1 -/
theorem exText : ∃ text, DerivesCMapText exSecs text :=
  ⟨_, .mk exSecs [] [32] (strBytes "/Procset") [32] [9] [13, 10] [49, 50] [32] [32] [10] [10] _ _ [10] [32] [32] [32] [32]
    [10] [10] [10, 37, 37, 69, 79, 70] [(), ()]
    .nil blank1_sp.1 (Or.inr rfl) blank1_sp blank1_tab ms1_crlf
    ⟨by intro b hb; simp at hb; rcases hb with rfl | rfl <;> decide, by simp⟩ blank1_sp blank1_sp ms1_lf ms1_lf
    (.cons () [()] _ _ (.type [32] [50] [32] [10] blank1_sp (digits1 50 (by decide)) blank1_sp ms1_lf)
      (.cons () [] _ _ (.name [] [65, 45, 66] [32] [10] blank0_nil (by intro b hb; simp at hb; rcases hb with rfl | rfl | rfl <;> decide)
        blank1_sp ms1_lf) .nil))
    (by decide) (by decide) (by simp [exSecs])
    (.cons _ _ _ _ (.bfRange _ [55] [32] [10] _ [10] (digits1 55 (by decide)) blank1_sp ms1_lf (by simp)
        (.cons _ [] _ [] exRangeLine .nil) ms1_lf)
      (.cons _ [] _ [] (.bfChar _ [49] [32] [10] _ [10] (digits1 49 (by decide)) blank1_sp ms1_lf (by simp)
        (.cons _ [] _ [] exCharLine .nil) ms1_lf) .nil))
    ms1_lf blank1_sp blank1_sp blank1_sp blank1_sp ms1_lf ms1_lf⟩

example : ∃ text, parseCMap text = some exSecs := by
  obtain ⟨text, h⟩ := exText
  exact ⟨text, parseCMap_complete h⟩

/-- `/CIDSystemInfo` LF `<< /Registry (Adobe)/Supplement 0 >> def` LF : a literal value, no space
before the next key, an integer value followed by a blank -/
example : DMeta (strBytes "/CIDSystemInfo" ++ [10] ++ [60, 60] ++ [32] ++
    ((47 :: [82] ++ [32] ++ (40 :: [65, 100] ++ [41]) ++ []) ++ ((47 :: [83] ++ [32] ++ [48] ++ [32]) ++ [])) ++
    [62, 62] ++ [32] ++ strBytes "def" ++ [10]) :=
  .cid [10] [32] _ [32] [10] [(), ()] ms_lf (.ws 32 _ (by simp) .nil)
    (.cons () [()] _ _
      (.mk [82] [32] _ [] (by intro b hb; simp at hb; subst hb; decide) (.ws 32 _ (by simp) .nil)
        (.lit [65, 100] (by intro c hc; simp at hc; rcases hc with rfl | rfl <;> decide)) (Or.inl (by simp)) .nil)
      (.cons () [] _ _
        (.mk [83] [32] [48] [32] (by intro b hb; simp at hb; subst hb; decide) (.ws 32 _ (by simp) .nil)
          (.int [48] (digits1 48 (by decide))) (Or.inl (by simp)) (.ws 32 _ (by simp) .nil)) .nil))
    ⟨.ws 32 _ (by simp) .nil, by simp⟩ ms1_lf

/-- an END-OF-LINE between `/CIDInit` and `/ProcSet` (the parser skips only blanks there):
`parse` fails, whatever follows -/
theorem rejects_eol_after_CIDInit (m0 t : Bytes) (hm0 : MS m0) :
    parseCMap (m0 ++ (strBytes "/CIDInit" ++ 10 :: t)) = none := by
  have e : ∀ k, Head (fun y => y = 47) (strBytes k) → ptagS k (10 :: t) = .error := fun k h =>
    ptagS_head_ne h (head_cons (by decide) t)
  unfold parseCMap pcmapStream pcidinitProcset
  rw [pthen_ok (pms0_tok hm0 (hn_s_CIDInit.append _)), pthen_ok (ptagS_append _ _),
    pthen_ok (show pspace0 (10 :: t) = .ok () (10 :: t) by simp [pspace0, space0]),
    pthen_error (by rw [palt_error (e _ (by decide +kernel))]; exact e _ (by decide +kernel))]
  rfl

/-- NO metadata item between `begincmap` and the first section (at least one of `/CIDSystemInfo`,
`/CMapName`, `/CMapType` is required): `parse` fails -/
theorem rejects_no_metadata (m0 b1 b2 b3 m1 n b4 b5 m2 m3 : Bytes) (y : UInt8) (t : Bytes)
    (hm0 : MS m0) (hb1 : Blank0 b1) (hb2 : Blank1 b2) (hb3 : Blank1 b3) (hm1 : MS1 m1) (hn : AllDigitsC n)
    (hb4 : Blank1 b4) (hb5 : Blank1 b5) (hm2 : MS1 m2) (hm3 : MS1 m3) (hy : NonWs y) (hy47 : y ≠ 47) :
    parseCMap (m0 ++ (strBytes "/CIDInit" ++ (b1 ++ (strBytes "/ProcSet" ++ (b2 ++ (strBytes "findresource" ++ (b3 ++
      (strBytes "begin" ++ (m1 ++ (n ++ (b4 ++ (strBytes "dict" ++ (b5 ++ (strBytes "begin" ++ (m2 ++
        (strBytes "begincmap" ++ (m3 ++ y :: t))))))))))))))))) = none := by
  unfold parseCMap pcmapStream
  rw [frame_procset hm0 hb1 (Or.inl rfl) hb2 hb3 hm1 (digits_headNonWs hn _), PR.ok_bind]
  unfold presourceDict
  rw [frame_dict hn hb4 hb5 hm2 (hn_begincmap.append _), PR.ok_bind]
  unfold pcmapData
  have h0 : pmetaGo 4 (y :: t) = .ok 0 (y :: t) := by
    rw [show (4 : Nat) = 3 + 1 from rfl, pmetaGo, pmetaItem_stop (head_cons (P := fun y => y ≠ 47) hy47 t)]
  rw [pthen_ok (ptagS_append _ _), pthen_ok (pms1_tok hm3 (headNonWs_cons hy t)), pmetadata, h0]
  rfl

end Lopdf.CMapText
