import LopdfModel.Model.SaveIncrJ
import LopdfModel.Thm.C02FileJunk
import LopdfModel.Thm.C07
/-
  C07 / C02 — an incremental update of a file with bytes in front of the `%PDF-` header (since fix
  d1108ac the appended section counts its offsets from the header, as the reader does):
  `saveIncrJ (junk ++ P) d` is `junk ++ saveIncr P d`, and it LOADS EXACTLY AS the update of the
  file without the junk — so every theorem about `saveIncr` histories (C07 `file_rt_history`,
  `prev_view_unchanged`, C03 `strict_of_history` for the part after the junk) carries over.
-/
namespace Lopdf.Grammar
open Lopdf Gen

theorem findFrom_at_head (pat rest : Bytes) (i : Nat) (hp : pat ≠ []) :
    findFrom pat ((pat ++ rest).length + 1) (pat ++ rest) i = some i := by
  cases hpr : pat ++ rest with
  | nil => cases pat with | nil => exact absurd rfl hp | cons a b => simp at hpr
  | cons x xs =>
    simp only [findFrom, List.length_cons]
    have : pat.isPrefixOf (x :: xs) = true := by
      rw [← hpr]
      exact List.isPrefixOf_iff_prefix.mpr (List.prefix_append _ _)
    simp [this]

theorem findFrom_ne_zero : ∀ (b : Bytes) (fuel i : Nat), 1 ≤ i → findFrom PDF_KW fuel b i ≠ some 0 := by
  intro b
  induction b with
  | nil => intro fuel i _; cases fuel <;> simp [findFrom]
  | cons y ys ih =>
    intro fuel i hi
    cases fuel with
    | zero => simp [findFrom]
    | succ f =>
      simp only [findFrom]
      split
      · intro e; injection e with e; omega
      · exact ih f (i + 1) (by omega)

theorem starts_with_of_findFrom_zero (file : Bytes) (h : findFrom PDF_KW (file.length + 1) file 0 = some 0) :
    ∃ rest, file = PDF_KW ++ rest := by
  cases file with
  | nil => simp [findFrom] at h
  | cons x xs =>
    by_cases hp : PDF_KW.isPrefixOf (x :: xs) = true
    · obtain ⟨t, ht⟩ := List.isPrefixOf_iff_prefix.mp hp
      exact ⟨t, ht.symm⟩
    · rw [findFrom] at h
      simp only [hp, Bool.false_eq_true, if_false] at h
      exact absurd h (findFrom_ne_zero xs _ (0 + 1) (by omega))

theorem incr_update_after_junk (junk P : Bytes) (d : SDoc) (out : Bytes) (d' : SDoc)
    (h37 : (37 : UInt8) ∉ junk)
    (hP : findFrom PDF_KW (P.length + 1) P 0 = some 0)
    (h : saveIncr P d = some (out, d')) :
    saveIncrJ (junk ++ P) d = some (junk ++ out, d') ∧ loadDoc (junk ++ out) = loadDoc out := by
  obtain ⟨rest, hrest⟩ := starts_with_of_findFrom_zero P hP
  have hpre : P <+: out := incr_prefix P d out d' h
  obtain ⟨tail, htail⟩ := hpre
  have hout0 : findFrom PDF_KW (out.length + 1) out 0 = some 0 := by
    rw [← htail, hrest, List.append_assoc]
    exact findFrom_at_head PDF_KW (rest ++ tail) 0 (by decide)
  have hoff : headerOffset (junk ++ P) = junk.length := by
    unfold headerOffset
    have hno := no_occurrence_of_first 37 [80, 68, 70, 45] junk P h37
    have hskip := findFrom_skip PDF_KW junk P ((junk ++ P).length + 1) 0 (by simp only [List.length_append]; omega) hno
    rw [hskip]
    have e : (junk ++ P).length + 1 - junk.length = P.length + 1 := by simp only [List.length_append]; omega
    rw [e, hrest]
    have := findFrom_at_head PDF_KW rest (0 + junk.length) (by decide)
    rw [this]; simp
  refine ⟨?_, ?_⟩
  · unfold saveIncrJ
    rw [hoff]
    simp only [List.drop_left, List.take_left, h]
  · exact loadDoc_junk_prefix_nopercent junk out h37 hout0

example : (37 : UInt8) ∉ ([33, 80, 83, 45, 65, 100, 111, 98, 101, 10] : Bytes) := by decide   -- "!PS-Adobe\n" (after a leading byte other than %)

end Lopdf.Grammar
