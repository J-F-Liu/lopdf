import LopdfModel.Thm.C02FileIncr
import LopdfModel.Thm.C02FileExample
/-
  Non-vacuity of `loadDoc_complete_two_revisions`: the 114-byte file of C02FileExample followed by
  an appended revision that redefines object 1.
    … base (object 1 = /A at offset 9, xref at 27, trailer <</Size 2>>) …
    startxref LF 27 LF %%EOF LF
    1 0 obj LF /B LF endobj LF                                   (offset 115)
    xref LF 1 1 LF 0000000115 00000 n SP LF                       (offset 133)
    trailer LF <</Size 2/Prev 27>> LF
    startxref LF 133 LF %%EOF
-/
namespace Lopdf.Grammar
open Lopdf Gen

def iMid : Bytes :=
  STARTXREF ++ [10, 50, 55, 10] ++ EOF_MARK ++ [10] ++
    [49, 32, 48, 32, 111, 98, 106, 10, 47, 66, 10, 101, 110, 100, 111, 98, 106, 10]

def iSecs2 : List TSub := [(1, [(115, 0, true)])]
def iXref2 : Bytes :=
  [120, 114, 101, 102] ++ [10] ++
    ([49] ++ [32] ++ [49] ++ [] ++ [10] ++
      (([48, 48, 48, 48, 48, 48, 48, 49, 49, 53] ++ [32] ++ [48, 48, 48, 48, 48] ++ [32, 110] ++ [32, 10]) ++ []))

theorem iXref2_derives : DerivesXrefTable iSecs2 iXref2 :=
  .mk _ _ _ .lf
    (.one _ _
      (.mk 1 [(115, 0, true)] _ _ _ _ _ (.one 49 (by decide)) (.one 49 (by decide)) (by decide)
        (by decide) .none .lf
        (.cons _ _ _ _ (xrefLine 115 0 true _ _ (by decide) (by decide) (by decide) (by decide)) .nil)))

def kPrev : Bytes := [80, 114, 101, 118]
def iEntries2 : List (Bytes × Obj) := [(kSize, .int 2), (kPrev, .int 27)]
def iEbs2 : Bytes := 47 :: kSize ++ [32] ++ [50] ++ [] ++ (47 :: kPrev ++ [32] ++ [50, 55] ++ [] ++ [])

theorem iEntries2_derive : DerivesEntries 0 iEntries2 iEbs2 :=
  entrySp kSize_name (digitObj 0 2 50 (by decide) (by decide))
    (entrySp (rawName kPrev (by decide +kernel))
      (.int 0 27 _ (.unsigned 27 _ (natLit 27 [50, 55] (by decide)) (by decide))) (.nil 0))

def iTail : Bytes :=
  iXref2 ++ (TRAILER_KW ++ ([10] ++ ((60 :: 60 :: [] ++ iEbs2 ++ [62, 62]) ++ ([10] ++ (STARTXREF ++ ([10] ++ ([] ++
    ([49, 51, 51] ++ ([] ++ ([10] ++ (EOF_MARK ++ [])))))))))))

def iFile : Bytes :=
  (PDF_KW ++ (exVer ++ ([10] ++ exBody))) ++ (exXref ++ (TRAILER_KW ++ ([10] ++
    ((60 :: 60 :: [] ++ exEbs ++ [62, 62]) ++ ([10] ++ (iMid ++ iTail))))))

/-- the updated file loads object 1 as `/B` (the NEWEST definition), with the appended trailer -/
theorem iFile_loads : ∃ L, loadDoc iFile = .ok L ∧ L.version = exVer ∧ L.trailer = [(kSize, .int 2)] ∧
    L.objects.get (1, 0) = some (.name [66]) ∧ L.objects.get (2, 0) = none := by
  -- the newest binding of 1 is the appended one
  have hm : ∀ k, newestEntry (tableOf iSecs2) (tableOf exSecs) k = XTable.get [(1, .normal 115 0)] k := by
    intro k
    rw [← mergeChain2_get, show mergeChain [tableOf iSecs2, tableOf exSecs] = [(1, .normal 115 0)] by decide]
  obtain ⟨L, h1, h2, h3, h4⟩ := loadDoc_complete_two_revisions exVer [10] exBody exSecs exXref [10] [] [10] iMid 2
    iSecs2 iXref2 [10] [] [10] [10] [] [49, 51, 51] [] [10] [] 2 (fun _ => (0, .name [66])) (fun _ => [])
    (by decide) .lf
    exXref_derives spaceLf .nil exEntries_derive (by decide) spaceLf rfl rfl
    (spaceStop_startxref _) (by decide)
    iXref2_derives spaceLf .nil iEntries2_derive (by decide) spaceLf rfl rfl rfl rfl
    .lf allSp_nil allSp_nil .lf .none (by decide)
    (natLit _ [49, 51, 51] (by decide +kernel))
    (by decide) iFile rfl
    (by
      simp only [hm]
      -- `1 0 obj LF /B LF endobj` ends `iMid`, 115 bytes into the file
      exact forall_get_cons ⟨rfl, Or.inl ⟨definesAt_split (iFile.take 115) (LF ++ iTail)
          (indirectLf 1 49 (by decide) (by decide) (nameObj 0 [66] (by decide)) (by decide)) (notObjStm_name _)
          (by decide +kernel) (by decide +kernel), rfl⟩⟩ forall_get_nil)
    (by intro k _; rfl) (by intro k p hp; simp at hp)
  refine ⟨L, h1, h2, ?_, ?_, ?_⟩
  · rw [h3]; rfl
  · rw [h4, hm]; rfl
  · rw [h4, hm]; rfl

end Lopdf.Grammar
