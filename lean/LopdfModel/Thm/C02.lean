import LopdfModel.Lemmas.FirstByte
import LopdfModel.Spec.Grammar
import LopdfModel.Model.Read
/-
  C02 — completeness of the lexer with respect to the declarative grammar: EVERY legal
  spelling is read to the value it denotes (`Derives… x bs → parse (bs ++ rest) = (x, rest)`).
  Here: names (`name_complete`) and hexadecimal strings (`hexstr_complete`); the other token
  classes, objects, cross-reference sections and whole files follow in Thm/C02Space … C02File.
-/
namespace Lopdf
open Gen

theorem nameBody_complete {n bs : Bytes} (h : DerivesName n bs) : ∀ (fuel : Nat) (rest : Bytes),
    NameStop rest → bs.length + 1 ≤ fuel → nameBody fuel (bs ++ rest) = (n, rest) := by
  induction h with
    (intro fuel rest hs hf; obtain ⟨f, rfl⟩ := Nat.exists_eq_add_one.mpr (Nat.lt_of_lt_of_le (Nat.succ_pos _) hf))
  | nil => exact nameBody_stop _ rest hs
  | raw b n bs h1 h2 _ ih =>
    have h35 : b ≠ 35 := fun e => by subst e; exact absurd h1 (by decide)
    simp [nameBody, h35, h2, ih f rest hs (Nat.le_of_succ_le_succ hf)]
  | esc h1 h2 n bs hh1 hh2 _ ih => simp [nameBody, hh1, hh2, ih f rest hs (by simp at hf ⊢; omega)]

/-- **Names, every spelling.** Whatever mix of raw bytes and `#hh` escapes (either case) the
producer used, `name` reads the value the spelling denotes. -/
theorem name_complete (n bs rest : Bytes) (h : DerivesName n bs) (hs : NameStop rest) :
    pName (47 :: bs ++ rest) = some (n, rest) := by
  simp only [List.cons_append, pName]
  rw [nameBody_complete h _ rest hs (by simp <;> omega)]

example : DerivesName [65, 32, 66] [65, 35, 50, 48, 35, 52, 50] :=
  .raw 65 _ _ (by decide) (by decide) (.esc 50 48 _ _ (by decide) (by decide) (.esc 52 50 _ _ (by decide) (by decide) .nil))

theorem whiteSpace_allws (w : Bytes) (d : UInt8) (r : Bytes) (hw : AllWs w) (hd : isWhitespace d = false) :
    whiteSpace (w ++ d :: r) = d :: r := by
  rw [whiteSpace, spanP_append isWhitespace w (d :: r) hw (ahead_cons hd)]

theorem hexBody_digit (f : Nat) (w : Bytes) (d : UInt8) (r : Bytes) (pending : Option UInt8) (acc : Bytes)
    (hw : AllWs w) (hd : isHexDigit d = true) :
    hexBody (f + 1) (w ++ d :: r) pending acc =
      match pending with
      | none => hexBody f r (some (hexVal d <<< 4)) acc
      | some hi => hexBody f r none (acc ++ [hi ||| hexVal d]) := by
  rw [hexBody.eq_def]
  simp only [whiteSpace_allws w d r hw (not_ws_of isHexDigit (by decide) hd), hd, if_true]
  cases pending <;> rfl

theorem hexBody_close (f : Nat) (w r : Bytes) (pending : Option UInt8) (acc : Bytes) (hw : AllWs w) :
    hexBody (f + 1) (w ++ 62 :: r) pending acc =
      (match pending with | none => acc | some hi => acc ++ [hi], w ++ 62 :: r) := by
  rw [hexBody.eq_def]
  simp only [whiteSpace_allws w 62 r hw (by decide), show isHexDigit 62 = false by decide, Bool.false_eq_true,
    if_false]
  cases pending <;> rfl

theorem hexBody_complete {s bs : Bytes} (h : DerivesHex s bs) : ∀ (fuel : Nat) (rest acc : Bytes),
    bs.length + 1 ≤ fuel →
    ∃ w, AllWs w ∧ hexBody fuel (bs ++ 62 :: rest) none acc = (acc ++ s, w ++ 62 :: rest) := by
  induction h with
  | nil w hw =>
    intro fuel rest acc hf
    match fuel, hf with
    | f + 1, _ => exact ⟨w, hw, by simp [hexBody_close f w rest none acc hw]⟩
  | odd w1 w2 d hw1 hw2 hd =>
    intro fuel rest acc hf
    rw [List.length_append, List.length_cons] at hf
    match fuel, hf with
    | f + 2, _ =>
      refine ⟨w2, hw2, ?_⟩
      rw [List.append_assoc, List.cons_append, hexBody_digit _ w1 d _ none acc hw1 hd,
        hexBody_close f w2 rest _ acc hw2]
  | pair w1 w2 d1 d2 s bs hw1 hw2 hd1 hd2 _ ih =>
    intro fuel rest acc hf
    simp only [List.length_append, List.length_cons] at hf
    match fuel, hf with
    | f + 2, hf =>
      obtain ⟨w, hw, ihe⟩ := ih f rest (acc ++ [hexVal d1 <<< 4 ||| hexVal d2]) (by omega)
      refine ⟨w, hw, ?_⟩
      rw [List.append_assoc, List.cons_append, List.append_assoc, List.cons_append,
        hexBody_digit _ w1 d1 _ none acc hw1 hd1]
      simp only [hexBody_digit f w2 d2 _ _ acc hw2 hd2, ihe, List.append_assoc, List.cons_append,
        List.nil_append]

/-- **Hexadecimal strings, every spelling.** Digits of either case, white space anywhere
between them, an odd number of digits: `hexadecimal_string` reads the denoted bytes. -/
theorem hexstr_complete (s bs rest : Bytes) (h : DerivesHex s bs) :
    pHexString (60 :: bs ++ 62 :: rest) = some (s, rest) := by
  simp only [List.cons_append, pHexString]
  obtain ⟨w, hw, he⟩ := hexBody_complete h ((bs ++ 62 :: rest).length + 1) rest []
    (by simp <;> omega)
  rw [he]
  simp [whiteSpace_allws w 62 rest hw (by decide)]

example : DerivesHex [0x4a, 0xb0] [32, 52, 10, 97, 98, 32] :=
  .pair [32] [10] 52 97 _ _ (by intro b hb; simp at hb; subst hb; decide)
    (by intro b hb; simp at hb; subst hb; decide) (by decide) (by decide)
    (.odd [] [32] 98 (by intro b hb; simp at hb) (by intro b hb; simp at hb; subst hb; decide) (by decide))

end Lopdf
