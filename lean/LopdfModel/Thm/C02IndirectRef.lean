import LopdfModel.Thm.C02Indirect
/-
  C02 — streams whose `Length` is an indirect reference (resolved through the cross-reference
  map while the stream is parsed).
-/
namespace Lopdf.Grammar
open Lopdf Gen

/-- **Stream objects with an INDIRECT `Length`, every spelling**: `Length` is a reference `n g R`
that the reader resolves (`len`) to the number of data bytes; the dictionary in any spelling,
any white space / comments before `stream`, optional blanks, LF or CR LF, exactly `Length` bytes
of data (ANY bytes), an optional end-of-line marker, `endstream`. -/
theorem stream_ref_complete {d : Nat} {es : List (Bytes × Obj)} {ebs : Bytes} (sp sp5 bl e data e' tail : Bytes)
    (len : ObjId → Option Int) (hsp : DerivesSpace sp) (hes : DerivesEntries d es ebs) (hd : 1 + d ≤ MAX_NESTING)
    (hsp5 : DerivesSpace sp5) (hbl : ∀ b ∈ bl, (b == 32 || b == 9) = true) (he : IsStreamEol e)
    (ln lg : Nat) (hlen : (setEntries [] es).get LENGTH = some (.ref ln lg))
    (hres : len (ln, lg) = some (data.length : Int)) (he' : IsOptEol e') :
    pStream len ((60 :: 60 :: sp ++ ebs ++ [62, 62]) ++ (sp5 ++ (STREAM_KW ++ (bl ++ (e ++ (data ++ (e' ++ (ENDSTREAM_KW ++ tail)))))))) =
      .ok (.plain (.stream ((setEntries [] es).set LENGTH (.int data.length)) data)) tail :=
  stream_any_length sp sp5 bl e data e' tail len hsp hes hd hsp5 hbl he (Or.inr ⟨ln, lg, hlen, hres⟩) he'

/-- **Indirect stream objects with an indirect `Length`, every spelling**: the loaded dictionary
carries the resolved `Length` as a direct integer (as `Reader::read` stores it) -/
theorem indirect_stream_ref_complete {d : Nat} {es : List (Bytes × Obj)} {ebs : Bytes} (n g : Nat)
    (sp0 d1 sp1 d2 sp2 sp3 sp sp5 bl e data e' tail : Bytes)
    (len : ObjId → Option Int) (expected : Option ObjId) (base : Nat)
    (hsp0 : DerivesSpace sp0) (h1 : DerivesNat n d1) (hn : n ≤ 4294967295) (hs1 : IsGap sp1)
    (h2 : DerivesNat g d2) (hg : g ≤ 65535) (hs2 : IsGap sp2) (hsp3 : DerivesSpace sp3)
    (hsp : DerivesSpace sp) (hes : DerivesEntries d es ebs) (hd : 1 + d ≤ MAX_NESTING)
    (hsp5 : DerivesSpace sp5) (hbl : ∀ b ∈ bl, (b == 32 || b == 9) = true) (he : IsStreamEol e)
    (ln lg : Nat) (hlen : (setEntries [] es).get LENGTH = some (.ref ln lg))
    (hres : len (ln, lg) = some (data.length : Int)) (he' : IsOptEol e')
    (hexp : ∀ x, expected = some x → x = (n, g)) :
    pIndirect len expected base
      (sp0 ++ (d1 ++ (sp1 ++ (d2 ++ (sp2 ++ (OBJ_KW ++ (sp3 ++
        ((60 :: 60 :: sp ++ ebs ++ [62, 62]) ++ (sp5 ++ (STREAM_KW ++ (bl ++ (e ++ (data ++ (e' ++ (ENDSTREAM_KW ++ tail))))))))))))))) =
      some ((n, g), .plain (.stream ((setEntries [] es).set LENGTH (.int data.length)) data)) :=
  indirect_of_stream n g sp0 d1 sp1 d2 sp2 sp3 _ tail len expected base _ hsp0 h1 hn hs1 h2 hg hs2 hsp3
    (starts_cons rfl) hexp
    (stream_ref_complete sp sp5 bl e data e' tail len hsp hes hd hsp5 hbl he ln lg hlen hres he')

end Lopdf.Grammar
