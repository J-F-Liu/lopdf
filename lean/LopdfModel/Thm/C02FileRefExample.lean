import LopdfModel.Thm.C02FileExample
/-
  Non-vacuity of `loadDoc_complete_table` with an indirect `Length`:
    %PDF-1.4 LF
    1 0 obj LF <</Length 2 0 R>> LF stream LF abc LF endstream LF endobj LF      (offset 9)
    2 0 obj LF 3 LF endobj LF                                                    (offset 63)
    xref LF 0 3 LF 0000000000 65535 f SP LF 0000000009 00000 n SP LF 0000000063 00000 n SP LF   (offset 80)
    trailer LF <</Size 3>> LF
    startxref LF 80 LF %%EOF
-/
namespace Lopdf.Grammar
open Lopdf Gen

def rVer : Bytes := [49, 46, 52]
def rEntries : List (Bytes × Obj) := [(kLength, .ref 2 0)]
def rEbs : Bytes := 47 :: kLength ++ [32] ++ ([50] ++ [32] ++ [48] ++ [32] ++ [82]) ++ [] ++ []

theorem rEntries_derive : DerivesEntries 0 rEntries rEbs :=
  entrySp kLength_name
    (.ref 0 2 0 [50] SP [48] SP (.one 50 (by decide)) (by decide) (.one 48 (by decide)) (by decide) gapSp spaceSp)
    (.nil 0)

def rDict : Dict := setEntries [] rEntries
def rData : Bytes := [97, 98, 99]

def rObj1 : Bytes :=
  [49] ++ ([32] ++ ([48] ++ ([32] ++ ([111, 98, 106] ++ ([10] ++
    (streamSpelling [] rEbs [10] [] [10] rData [10] ++ ([10] ++ [101, 110, 100, 111, 98, 106])))))))

theorem rObj1_derives : DerivesIndirectRef (1, 0) (2, 0) rDict rData rObj1 :=
  .mk 0 1 0 2 0 rEntries [49] SP [48] SP LF [] rEbs LF [] LF rData LF LF
    (.one 49 (by decide)) (by decide) gapSp (.one 48 (by decide)) (by decide) gapSp spaceLf .nil rEntries_derive
    (by decide) spaceLf (fun _ h => nomatch h) .lf rfl (.some _ .lf) spaceLf

def rObj2 : Bytes :=
  [50] ++ ([32] ++ ([48] ++ ([32] ++ ([111, 98, 106] ++ ([10] ++ ([51] ++ ([10] ++ [101, 110, 100, 111, 98, 106])))))))

theorem rObj2_derives : DerivesIndirect (2, 0) (.int 3) rObj2 :=
  indirectLf 2 50 (by decide) (by decide) (digitObj 0 3 51 (by decide) (by decide)) (by decide)

def rBody : Bytes := rObj1 ++ [10] ++ rObj2 ++ [10]
def rSecs : List TSub := [(0, [(0, 65535, false), (9, 0, true), (63, 0, true)])]
def rXref : Bytes :=
  [120, 114, 101, 102] ++ [10] ++
    ([48] ++ [32] ++ [51] ++ [] ++ [10] ++
      (([48, 48, 48, 48, 48, 48, 48, 48, 48, 48] ++ [32] ++ [54, 53, 53, 51, 53] ++ [32, 102] ++ [32, 10]) ++
       (([48, 48, 48, 48, 48, 48, 48, 48, 48, 57] ++ [32] ++ [48, 48, 48, 48, 48] ++ [32, 110] ++ [32, 10]) ++
        (([48, 48, 48, 48, 48, 48, 48, 48, 54, 51] ++ [32] ++ [48, 48, 48, 48, 48] ++ [32, 110] ++ [32, 10]) ++ []))))

theorem rXref_derives : DerivesXrefTable rSecs rXref :=
  .mk _ _ _ .lf
    (.one _ _
      (.mk 0 [(0, 65535, false), (9, 0, true), (63, 0, true)] _ _ _ _ _ (.one 48 (by decide)) (.one 51 (by decide))
        (by decide) (by decide) .none .lf
        (.cons _ _ _ _ (xrefLine 0 65535 false _ _ (by decide) (by decide) (by decide) (by decide))
          (.cons _ _ _ _ (xrefLine 9 0 true _ _ (by decide) (by decide) (by decide) (by decide))
            (.cons _ _ _ _ (xrefLine 63 0 true _ _ (by decide) (by decide) (by decide) (by decide)) .nil)))))

def rTEntries : List (Bytes × Obj) := [(kSize, .int 3)]
def rTEbs : Bytes := 47 :: kSize ++ [32] ++ [51] ++ [] ++ []
theorem rTEntries_derive : DerivesEntries 0 rTEntries rTEbs :=
  entrySp kSize_name (digitObj 0 3 51 (by decide) (by decide)) (.nil 0)

def rTail : Bytes :=
  rXref ++ (TRAILER_KW ++ ([10] ++ ((60 :: 60 :: [] ++ rTEbs ++ [62, 62]) ++ ([10] ++ (STARTXREF ++ ([10] ++ ([] ++
    ([56, 48] ++ ([] ++ ([10] ++ (EOF_MARK ++ [])))))))))))
def rFile : Bytes := (PDF_KW ++ (rVer ++ ([10] ++ rBody))) ++ rTail

def rVal : Nat → Nat × Obj := fun k => if k = 1 then (0, .stream (rDict.set LENGTH (.int 3)) rData) else (0, .int 3)

/-- the stream is loaded with its three data bytes and `Length 3` resolved through object 2 -/
theorem rFile_loads : ∃ L, loadDoc rFile = .ok L ∧
    L.objects.get (1, 0) = some (.stream [(kLength, .int 3)] rData) ∧ L.objects.get (2, 0) = some (.int 3) ∧
    L.objects.get (3, 0) = none := by
  have htab : tableOf rSecs = [(1, .normal 9 0), (2, .normal 63 0)] := by decide +kernel
  -- object 2 (the length) stands 63 bytes into the file, after object 1 and a line feed
  have h2 : DefinesAt rFile 63 2 0 (.int 3) :=
    definesAt_split (PDF_KW ++ (rVer ++ (LF ++ (rObj1 ++ LF)))) (LF ++ rTail) rObj2_derives (notObjStm_int _)
      (by decide +kernel) (by simp only [rFile, rBody, List.append_assoc])
  have hs := split_at (file := rFile) (off := 9) (PDF_KW ++ (rVer ++ LF)) rObj1 (LF ++ rObj2 ++ LF ++ rTail) rfl
    (by simp only [rFile, rBody, List.append_assoc])
  obtain ⟨L, h1, _, _, _, _, h6⟩ := loadDoc_complete_table rVer [10] rBody rSecs rXref [10] [] [10] [10] [] [56, 48] [] [10] []
    3 rVal (fun _ => []) (by decide) .lf rXref_derives spaceLf .nil rTEntries_derive (by decide) spaceLf
    rfl rfl rfl .lf allSp_nil (natLit _ [56, 48] (by decide +kernel)) allSp_nil .lf .none
    (by decide) (by rw [htab]; decide) rFile rfl
    (by
      rw [htab]
      exact forall_get_cons
        ⟨rfl, Or.inr (Or.inr ⟨(2, 0), 63, rDict, rData, rfl, ⟨hs.1, [], rObj1, _, hs.2, .nil, rObj1_derives⟩, rfl, h2,
          notObjStm_stream _ _ rfl, rfl⟩)⟩
        (forall_get_cons ⟨rfl, Or.inl ⟨h2, rfl⟩⟩ forall_get_nil))
    (by intro k _; rfl) (by intro k p hp; simp at hp)
  refine ⟨L, h1, ?_, ?_, ?_⟩ <;> rw [h6, definedObject, htab] <;> rfl

end Lopdf.Grammar
