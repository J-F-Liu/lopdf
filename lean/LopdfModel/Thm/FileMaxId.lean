import LopdfModel.Thm.FileRevs
/-
  C01 — the `max_id` a reload computes, exactly: `Reader::read` recomputes it from the merged
  cross-reference table (largest key).  For a table save that is the largest object number the
  document holds (0 for an empty one); for a cross-reference-stream save it is the number of the
  stream itself, `max_id + 1`.
-/
namespace Lopdf.FileRT
open Lopdf Gen Lopdf.ObjRt

/-- the largest object number of a document (0 if it has no objects) -/
def maxNum (d : SDoc) : Nat := (d.objects.map (·.1.1)).foldl max 0

theorem foldl_max_ge (l : List Nat) : ∀ m, m ≤ l.foldl max m := by
  induction l with
  | nil => intro m; exact Nat.le_refl _
  | cons a r ih => intro m; simp only [List.foldl_cons]; have := ih (max m a); omega

theorem le_foldl_max (l : List Nat) : ∀ m, ∀ a ∈ l, a ≤ l.foldl max m := by
  induction l with
  | nil => intro m a h; simp at h
  | cons b r ih =>
    intro m a h
    simp only [List.foldl_cons]
    simp only [List.mem_cons] at h
    rcases h with rfl | h
    · have := foldl_max_ge r (max m a); omega
    · exact ih _ a h

theorem foldl_max_mem (l : List Nat) : ∀ m, l.foldl max m = m ∨ l.foldl max m ∈ l := by
  induction l with
  | nil => intro m; exact Or.inl rfl
  | cons b r ih =>
    intro m
    simp only [List.foldl_cons]
    rcases ih (max m b) with h | h
    · rw [h]
      by_cases hb : m ≤ b
      · right; simp [Nat.max_eq_right hb]
      · left; omega
    · right; simp [h]

theorem XTable_maxId_eq (t : XTable) : t.maxId = (t.map (·.1)).foldl max 0 := by
  unfold XTable.maxId
  rw [List.foldl_map]

/-- **`max_id` after reloading a table save, exactly (C01).** Under the hypotheses of
`file_rt_table`: the reloaded document's `max_id` is the largest object number the document holds
(not the `max_id` field it had, which may be larger). -/
theorem file_rt_table_maxId (order : Option (List Nat)) (d : SDoc) (out : Bytes) (d' : SDoc)
    (hk : d.xrefKind = .table) (h : saveFrom [] d = some (out, d')) (hlen : out.length < 4294967296)
    (hmax : d.maxId + 1 ≤ 4294967295) (hwf : DocWF d)
    (htr : WFObj (.dict d.trailer) ∧ height (.dict d.trailer) ≤ MAX_NESTING ∧ NoRealD d.trailer)
    (hv1 : ∀ b ∈ d.version, notEol b = true) (hv2 : validUtf8 d.version = true)
    (hprev : d.trailer.get PREV = none) (henc : d.trailer.has ENCRYPT = false)
    (L : Loaded) (hL : loadDocOrd order out = .ok L) : L.maxId = maxNum d := by
  have hD := setSize_readsBack d.trailer d.maxId (by omega) htr
  rw [← (saveFrom_table_eq [] d out d' hk h).2] at hD
  obtain ⟨arr, _, hord⟩ := loadDocOrd_eq order out
  obtain ⟨table, hget, _, hnodup, hload⟩ :=
    load_front_of_save_table arr id d out d' hk h hlen hmax hwf.gens (hD _) hv1 hv2 hprev henc
  rw [hord, hload] at hL
  rw [objectPass_maxId _ _ _ _ _ _ _ _ L hL, XTable_maxId_eq]
  unfold maxNum
  apply Nat.le_antisymm
  · -- every key is an object number
    rcases foldl_max_mem (table.map (·.1)) 0 with h0 | hm
    · rw [h0]; exact Nat.zero_le _
    · obtain ⟨p, hp, hpk⟩ := List.mem_map.mp hm
      obtain ⟨_, _, off, g, _, hx⟩ := table_get_some hget (XTable.get_of_mem hnodup hp)
      rw [← hpk]
      refine le_foldl_max _ 0 _ (Decidable.by_contra fun hm' => ?_)
      rw [xmapOf, writeObjects_get_other d.objects (hdrOf [] d) [] p.1 hm'] at hx
      cases hx
  · -- the largest object number is a key
    rcases foldl_max_mem (d.objects.map (·.1.1)) 0 with h0 | hm
    · rw [h0]; exact Nat.zero_le _
    · obtain ⟨p, hp, hpk⟩ := List.mem_map.mp hm
      obtain ⟨h1, h2, off, hx⟩ := xmapOf_complete [] d hwf p.1 p.2 (Objects_get_of_mem d.objects hwf.nodup p hp)
      rw [← hpk]
      exact le_foldl_max _ 0 _ (List.mem_map.mpr
        ⟨_, XTable.mem_of_get (table_get_of hget h1 (by omega) hx), rfl⟩)

/-- **`max_id` after reloading a cross-reference-stream save, exactly (C01).** It is the number
the writer gave the cross-reference stream: the old `max_id` + 1. -/
theorem file_rt_stream_maxId (order : Option (List Nat)) (d : SDoc) (out : Bytes) (d' : SDoc)
    (hk : d.xrefKind = .stream) (h : saveFrom [] d = some (out, d')) (hlen : out.length < 4294967296)
    (hmax : d.maxId + 2 ≤ 4294967295) (hwf : DocWF d)
    (htr : WFObj (.dict d.trailer) ∧ height (.dict d.trailer) ≤ MAX_NESTING ∧ NoRealD d.trailer)
    (hv1 : ∀ b ∈ d.version, notEol b = true) (hv2 : validUtf8 d.version = true)
    (hprev : d.trailer.get PREV = none) (henc : d.trailer.has ENCRYPT = false)
    (L : Loaded) (hL : loadDocOrd order out = .ok L) : L.maxId = d.maxId + 1 := by
  obtain ⟨x1, x2, x3, _⟩ := xrefObjP_ok [] d out d' hk h hlen hmax hwf.gens htr
  have hD : ∀ rest, DictReadsBack d'.trailer rest := fun rest => by
    rw [(saveFrom_stream_eq [] d out d' hk h).2]; exact pDictionary_rt_noReal _ _ x1 x2 x3
  obtain ⟨arr, _, hord⟩ := loadDocOrd_eq order out
  obtain ⟨table, hget, hnodup, hload⟩ := load_front_of_save_stream arr id d out d' hk h hlen hmax hwf.gens
    (dict_nodup htr.1) (hD _) hv1 hv2 hprev henc
  rw [hord, hload] at hL
  rw [objectPass_maxId _ _ _ _ _ _ _ _ L hL]
  apply Nat.le_antisymm
  · have := table_maxId_le hget; omega
  · rw [XTable_maxId_eq]
    exact le_foldl_max _ 0 _ (List.mem_map.mpr ⟨_, XTable.mem_of_get
      (table_get_of hget (by omega) (by omega) (XrefMap.get_insert_same _ _ _)), rfl⟩)

example : maxNum (SDoc.mk [49] [] [] [((1, 0), .null), ((7, 0), .null), ((3, 0), .null)] 20 .table) = 7 := by
  decide

end Lopdf.FileRT
