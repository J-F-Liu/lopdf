import LopdfModel.Model.ExtractText
import LopdfModel.Thm.C15Total
import LopdfModel.Thm.C15Text
/-
  C15 — end to end through `Dictionary::get_font_encoding` (model `Q13.fontEnc`, Model/ExtractText.lean):
  a font dictionary whose ToUnicode stream holds the text of a well-formed CMap decodes the bytes shown
  with it exactly as the CMap defines — for EVERY shown byte string (`segSpec`), and in particular
  strings of mapped prefix-free codes to the defined text (`cmap_decode_text`).
-/
namespace Lopdf.CMap
open Lopdf Lopdf.Gen Lopdf.CMapSpec Lopdf.Q13

/-- the font makes lopdf look at its ToUnicode CMap: `/Type /Font` and `/Encoding` absent (or not a
name) or one of the names regenerated from the source (`Identity-H`, `Identity-V`) -/
def UsesToUnicode (font : Dict) : Prop :=
  font.hasType K_Font = true ∧
  ((font.get K_Encoding).bind Obj.asName = none ∨
   ∃ n, n ∈ FONT_TOUNICODE_NAMES ∧ (font.get K_Encoding).bind Obj.asName = some n)

theorem tounicode_names_not_tables : ∀ n ∈ FONT_TOUNICODE_NAMES, lookupName n FONT_ENCODINGS = none := by
  decide

/-- the dispatch of `get_font_encoding` for such a font: the CMap of the stream, parsed and built -/
theorem fontEnc_tounicode (ext : Ext) (os : Objects) (font d : Dict) (c text : Bytes) (ss : List Section) (m : UMap)
    (hf : UsesToUnicode font) (hs : toUnicodeStream os font = some (d, c))
    (hp : getPlainContent ext ⟨d, c⟩ = .ok text) (hparse : parseCMap text = some ss)
    (hm : fromSections ss = some m) :
    fontEnc ext os font = .ok (.cmap m) := by
  obtain ⟨ht, henc⟩ := hf
  have hc : cmapOfStream ext d c = .ok (.cmap m) := by
    simp [cmapOfStream, hp, hparse, hm]
  unfold fontEnc
  simp only [ht, Bool.not_true, Bool.false_eq_true, if_false]
  rcases henc with h | ⟨n, hn, h⟩
  · simp only [h, hs, hc]
  · have hcont : FONT_TOUNICODE_NAMES.contains n = true := by simpa using hn
    simp only [h, tounicode_names_not_tables n hn, hcont, if_true, hs, hc]

theorem getPlainContent_plain (ext : Ext) (d : Dict) (c : Bytes) (h : d.get K_FILTER = none) :
    getPlainContent ext ⟨d, c⟩ = .ok c := by
  simp [getPlainContent, streamFilters, h]

/-- Through `get_font_encoding` and `decode_text`, for EVERY shown byte string: if the
font's ToUnicode stream (after its filters) is a text the CMap parser reads as the well-formed sections
`ss`, then the font's encoding is that CMap and `decode_text` of any bytes is the UTF-16 decoding of
`segSpec (defines ss)` — shortest mapped code first, U+FFFD per up to four unmatched bytes. -/
theorem font_decode_total (ext : Ext) (os : Objects) (font d : Dict) (c text : Bytes) (ss : List Section)
    (hf : UsesToUnicode font) (hs : toUnicodeStream os font = some (d, c))
    (hp : getPlainContent ext ⟨d, c⟩ = .ok text) (hparse : parseCMap text = some ss)
    (hwf : ∀ d ∈ defsOf ss, d.wf) :
    ∃ m, fontEnc ext os font = .ok (.cmap m) ∧
      ∀ shown : Bytes, (FontEnc.cmap m).decode shown =
        .ok (utf16Scalars (segSpec (defines (defsOf ss)) (shown.map UInt8.toNat))) := by
  refine ⟨_, fontEnc_tounicode ext os font d c text ss _ hf hs hp hparse (fromSections_wf hwf), fun shown => ?_⟩
  simp only [FontEnc.decode, cmapDecode, cmap_decode_total_spec _ _ (get_defines _ hwf), Outcome.map,
    decodeUnits]

/-- The statement of the property at the level of the font dictionary: shown bytes
that are mapped codes with no mapped proper prefix, whose defined targets are the UTF-16 encoding of the
scalar values `cs`, are decoded to exactly `cs`. -/
theorem font_decode_text (ext : Ext) (os : Objects) (font d : Dict) (c text : Bytes) (ss : List Section)
    (hf : UsesToUnicode font) (hs : toUnicodeStream os font = some (d, c))
    (hp : getPlainContent ext ⟨d, c⟩ = .ok text) (hparse : parseCMap text = some ss)
    (hwf : ∀ d ∈ defsOf ss, d.wf)
    (codes : List (List Nat × List Nat)) (hcodes : ∀ p ∈ codes, DefinedCode (defsOf ss) p.1 p.2)
    (cs : List Nat) (hcs : ∀ x ∈ cs, CMapSpec.isScalar x) (henc : codes.flatMap (·.2) = encodeUtf16 cs)
    (shown : Bytes) (hshown : shown.map UInt8.toNat = codes.flatMap (·.1)) :
    ∃ m, fontEnc ext os font = .ok (.cmap m) ∧ (FontEnc.cmap m).decode shown = .ok cs := by
  obtain ⟨m, hfe, hdec⟩ := font_decode_total ext os font d c text ss hf hs hp hparse hwf
  refine ⟨m, hfe, ?_⟩
  rw [hdec shown, hshown, segSpec_prefix_free ss hwf codes hcodes, henc, surrogates_roundtrip cs hcs]

/-- … for any text of the declarative CMap grammar (any white space, comments, hex case, counts, section
and metadata order — `DerivesCMapText`, Spec/CMapText.lean) -/
theorem font_decode_derived (ext : Ext) (os : Objects) (font d : Dict) (c text : Bytes) (ss : List Section)
    (hf : UsesToUnicode font) (hs : toUnicodeStream os font = some (d, c))
    (hp : getPlainContent ext ⟨d, c⟩ = .ok text) (hder : CMapText.DerivesCMapText ss text)
    (hwf : ∀ d ∈ defsOf ss, d.wf) :
    ∃ m, fontEnc ext os font = .ok (.cmap m) ∧
      ∀ shown : Bytes, (FontEnc.cmap m).decode shown =
        .ok (utf16Scalars (segSpec (defines (defsOf ss)) (shown.map UInt8.toNat))) :=
  font_decode_total ext os font d c text ss hf hs hp (CMapText.parseCMap_complete hder) hwf

/-- … and for the canonical writer, in an unfiltered stream -/
theorem font_decode_rendered (ext : Ext) (os : Objects) (font d : Dict) (ss : List Section)
    (hf : UsesToUnicode font) (hs : toUnicodeStream os font = some (d, CMapRender.renderCMap ss))
    (hplain : d.get K_FILTER = none) (hne : ss ≠ []) (hok : ∀ s ∈ ss, SectionOk s)
    (hwf : ∀ d ∈ defsOf ss, d.wf) :
    ∃ m, fontEnc ext os font = .ok (.cmap m) ∧
      ∀ shown : Bytes, (FontEnc.cmap m).decode shown =
        .ok (utf16Scalars (segSpec (defines (defsOf ss)) (shown.map UInt8.toNat))) :=
  font_decode_total ext os font d _ _ ss hf hs (getPlainContent_plain ext d _ hplain) (parse_render ss hne hok) hwf

/-- non-vacuity: a Type0 font with `/Encoding /Identity-H` and a direct ToUnicode stream -/
example : UsesToUnicode [(TYPE, .name K_Font), (K_Encoding, .name [73, 100, 101, 110, 116, 105, 116, 121, 45, 72]),
    (K_ToUnicode, .stream [] [])] :=
  ⟨by decide, Or.inr ⟨[73, 100, 101, 110, 116, 105, 116, 121, 45, 72], by decide, by decide⟩⟩
example : toUnicodeStream [] [(TYPE, .name K_Font), (K_ToUnicode, .stream [] [1, 2])] = some ([], [1, 2]) := rfl

end Lopdf.CMap
