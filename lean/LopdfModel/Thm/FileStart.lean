import LopdfModel.Lemmas.File
import LopdfModel.Thm.C01
import LopdfModel.Model.Read
/-
  C01/C03 (file level) — **`startxref` is found**: `Reader::get_xref_start` on the bytes `save`
  produced returns the offset the writer stored (the position of the cross-reference section).
-/
namespace Lopdf.FileRT
open Lopdf Gen

/-- `pat` occurs nowhere in `t` -/
def NoOcc (pat t : Bytes) : Prop := ∀ k, k < t.length → pat.isPrefixOf (t.drop k) = false

theorem NoOcc_tail (pat : Bytes) (b : UInt8) (t : Bytes) (h : NoOcc pat (b :: t)) : NoOcc pat t := by
  intro k hk
  have := h (k + 1) (by simp; omega)
  simpa using this

theorem go_noOcc (pat : Bytes) : ∀ (t : Bytes) (fuel i : Nat) (acc : Option Nat), NoOcc pat t →
    searchLast.go pat fuel t i acc = acc := by
  intro t
  induction t with
  | nil => intro fuel i acc _; cases fuel <;> rfl
  | cons b t ih =>
    intro fuel i acc h
    cases fuel with
    | zero => rfl
    | succ f =>
      have h0 := h 0 (by simp)
      simp only [List.drop_zero] at h0
      simp only [searchLast.go, h0, Bool.false_eq_true, if_false]
      exact ih f (i + 1) acc (NoOcc_tail pat b t h)

theorem go_found (pat : Bytes) : ∀ (u : Bytes) (b : UInt8) (t : Bytes) (fuel i : Nat) (acc : Option Nat),
    pat.isPrefixOf (b :: t) = true → NoOcc pat t → u.length + 1 ≤ fuel →
    searchLast.go pat fuel (u ++ b :: t) i acc = some (i + u.length) := by
  intro u
  induction u with
  | nil =>
    intro b t fuel i acc hp hn hf
    cases fuel with
    | zero => simp at hf
    | succ f =>
      simp only [List.nil_append, searchLast.go, hp, if_true, List.length_nil, Nat.add_zero]
      exact go_noOcc pat t f (i + 1) (some i) hn
  | cons a u ih =>
    intro b t fuel i acc hp hn hf
    cases fuel with
    | zero => simp at hf
    | succ f =>
      simp only [List.cons_append, searchLast.go]
      rw [ih b t f (i + 1) _ hp hn (by simp at hf ⊢; omega)]
      simp only [List.length_cons]
      congr 1; omega

/-- `search_substring` returns the LAST occurrence: if the pattern stands at `pre.length` and
nowhere later, that position is returned whenever the search starts at or before it -/
theorem searchLast_found (pat b pre : Bytes) (c : UInt8) (t : Bytes) (start : Nat) (hb : b = pre ++ c :: t)
    (hs : start ≤ pre.length) (hp : pat.isPrefixOf (c :: t) = true) (hn : NoOcc pat t) :
    searchLast pat b start = some pre.length := by
  subst hb
  unfold searchLast
  simp only
  rw [List.drop_append_of_le_length hs, go_found pat (pre.drop start) c t _ start none hp hn (by simp)]
  simp only [List.length_drop]
  congr 1; omega

theorem noOcc_short (pat t : Bytes) (h : t.length < pat.length) : NoOcc pat t := by
  intro k _
  cases hb : pat.isPrefixOf (t.drop k) with
  | false => rfl
  | true =>
    have := (List.isPrefixOf_iff_prefix.mp hb).length_le
    simp only [List.length_drop] at this
    omega

theorem noOcc_not_mem (c : UInt8) (p t : Bytes) (h : c ∉ t) : NoOcc (c :: p) t := by
  intro k hk
  rw [List.drop_eq_getElem_cons hk]
  have : t[k] ≠ c := by
    intro e
    apply h
    rw [← e]
    exact List.getElem_mem hk
  simp [List.isPrefixOf, Ne.symm this]

theorem skipSpaces_digits (n : Nat) (rest : Bytes) : skipSpaces (natDigits n ++ rest) = natDigits n ++ rest := by
  obtain ⟨a, as, h, ha⟩ := ObjRt.natDigits_head n
  have h32 : (a == 32) = false := by
    cases hb : (a == 32) with
    | false => rfl
    | true => have : a = 32 := by simpa using hb
              subst this; simp [isDigit] at ha
  simp [skipSpaces, h, spanP, h32]

theorem natDigits_no_s (n : Nat) : (115 : UInt8) ∉ natDigits n := by
  intro h
  have := natDigits_all_digit n 115 h
  simp [isDigit] at this

/-- `xref_start` on `startxref\n N \n%%EOF` -/
theorem pXrefStart_tail (n : Nat) (hn : n ≤ I64_MAX) :
    pXrefStart (STARTXREF ++ 10 :: (natDigits n ++ EOF_KW)) = some (n : Int) := by
  have hi := int_rt (n : Int) EOF_KW (by omega) (by simpa using hn)
    (by intro b r h; simp [EOF_KW] at h; obtain ⟨rfl, _⟩ := h; decide)
  have hw : writeInt (n : Int) = natDigits n := rfl
  rw [hw] at hi
  have h0 : tag STARTXREF (STARTXREF ++ 10 :: (natDigits n ++ EOF_KW)) = some (10 :: (natDigits n ++ EOF_KW)) := by
    simp [STARTXREF, tag]
  unfold pXrefStart
  rw [h0]
  simp only [Option.bind_some, eol, skipSpaces_digits, hi]
  simp [EOF_KW, skipSpaces, spanP, EOF_MARK, tag]

/-- **`get_xref_start` on a file tail.** Whatever precedes (at least 13 bytes), a file ending in
`"\nstartxref\n" N "\n%%EOF"` with `N < 10^14` yields `N`: the `%%EOF` found is the final one
(last occurrence in the last 512 bytes — nothing follows it), the `startxref` found is the one
written by `save` (last occurrence from 25 bytes before `%%EOF`), and the number parses. -/
theorem getXrefStart_tail (X : Bytes) (n : Nat) (hX : 13 ≤ X.length) (hn : n < 100000000000000) :
    getXrefStart (X ++ STARTXREF_KW ++ natDigits n ++ EOF_KW) = some n := by
  have hd : (natDigits n).length ≤ 14 := natDigits_length_le 14 n (by omega) (by omega)
  have hd1 : 1 ≤ (natDigits n).length := List.length_pos_iff.mpr (natDigits_ne_nil n)
  have hs : NoOcc STARTXREF ([116, 97, 114, 116, 120, 114, 101, 102] ++ 10 :: (natDigits n ++ EOF_KW)) :=
    noOcc_not_mem _ _ _ (by have := natDigits_no_s n; simp [EOF_KW, this])
  have hp := pXrefStart_tail n (by simp only [I64_MAX]; omega)
  generalize natDigits n = ds at hd hd1 hs hp ⊢
  -- where the two searches start, relative to the two markers
  have a1 : X.length + ds.length + 17 - min (X.length + ds.length + 17) 512 ≤ X.length + ds.length + 12 := by omega
  have a2 : X.length + ds.length + 12 - 25 ≤ X.length + 1 := by omega
  have a3 : X.length + ds.length + 12 > 25 := by omega
  -- the file, cut in front of the final `%%EOF` and in front of `startxref`
  obtain ⟨b, hb⟩ : ∃ b, b = X ++ STARTXREF_KW ++ ds ++ EOF_KW := ⟨_, rfl⟩
  have e1 : b = (X ++ STARTXREF_KW ++ ds ++ [10]) ++ 37 :: [37, 69, 79, 70] := by rw [hb]; simp [EOF_KW]
  have e2 : b = (X ++ [10]) ++ 115 :: ([116, 97, 114, 116, 120, 114, 101, 102] ++ 10 :: (ds ++ EOF_KW)) := by
    rw [hb]; simp [STARTXREF_KW]
  have hl1 : (X ++ STARTXREF_KW ++ ds ++ [10]).length = X.length + ds.length + 12 := by
    simp only [List.length_append, STARTXREF_KW, List.length_cons, List.length_nil]; omega
  have hl2 : (X ++ [10]).length = X.length + 1 := List.length_append
  have hlen : b.length = X.length + ds.length + 17 := by rw [e1, List.length_append, hl1]; rfl
  have hs1 : b.length - min b.length 512 ≤ (X ++ STARTXREF_KW ++ ds ++ [10]).length := by rw [hl1, hlen]; exact a1
  have hs2 : X.length + ds.length + 12 - 25 ≤ (X ++ [10]).length := by rw [hl2]; exact a2
  have hEof := searchLast_found EOF_MARK b _ 37 _ _ e1 hs1 rfl (noOcc_short _ _ (by decide))
  have hSx := searchLast_found STARTXREF b _ 115 _ _ e2 hs2 rfl hs
  have hdrop : b.drop (X.length + 1) = STARTXREF ++ 10 :: (ds ++ EOF_KW) := by
    rw [e2, ← hl2, List.drop_left]; rfl
  rw [hl1] at hEof
  rw [hl2] at hSx
  rw [← hb]
  unfold getXrefStart
  simp only [hEof, Option.bind_some, a3, if_true, hSx, hdrop, hp, Option.map_some]
  rw [if_neg (by omega), Int.toNat_natCast]

end Lopdf.FileRT
