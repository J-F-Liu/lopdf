import LopdfModel.Thm.ObjectPass
import LopdfModel.Lemmas.FirstByte
/-
  C01 (file level) — the reader's side of `load ∘ save`, for any file: the FRONT of `Reader::read`
  (`%PDF-` at offset 0, header and binary mark, `startxref`, the newest cross-reference section,
  the `Prev` walk) hands the merged table to the OBJECT PASS, and the object pass on a table that
  `Indexes` the objects of the file returns exactly those objects.
-/
namespace Lopdf.FileRT
open Lopdf Gen

theorem findFrom_nl : ∀ (a : Bytes) (r : Bytes) (fuel i : Nat), (∀ c ∈ a, c ≠ 10) → a.length + 1 ≤ fuel →
    findFrom [10] fuel (a ++ 10 :: r) i = some (i + a.length) := by
  intro a
  induction a with
  | nil =>
    intro r fuel i _ hf
    cases fuel with
    | zero => simp at hf
    | succ f => simp [findFrom, List.isPrefixOf]
  | cons c a ih =>
    intro r fuel i hc hf
    cases fuel with
    | zero => simp at hf
    | succ f =>
      have hc0 : c ≠ 10 := hc c (by simp)
      have : ([10] : Bytes).isPrefixOf (c :: (a ++ 10 :: r)) = false := by
        simp [List.isPrefixOf, Ne.symm hc0]
      simp only [List.cons_append, findFrom, this, Bool.false_eq_true, if_false]
      rw [ih r f (i + 1) (fun c' h' => hc c' (by simp [h'])) (by simp at hf ⊢; omega)]
      simp only [List.length_cons]
      congr 1; omega

theorem mark_notEol (b : UInt8) (h : b ≥ 128) : notEol b = true := by
  have h' : 128 ≤ b.toNat := UInt8.le_iff_toNat_le.mp h
  have h10 : b ≠ 10 := by rintro rfl; exact absurd h' (by decide)
  have h13 : b ≠ 13 := by rintro rfl; exact absurd h' (by decide)
  simp [notEol, h10, h13]

/-- **The front of `Reader::read`** on any file of the shape `%PDF-<version>\n%<mark>\n…` whose
`startxref` is found: the reader enters the object pass with the table and trailer its `Prev`
walk computes. -/
theorem load_front_chain (arr : List Block → List Block) (arr2 : List ObjId → List ObjId) (out version mark R : Bytes)
    (hout : out = PDF_KW ++ (version ++ 10 :: 37 :: (mark ++ 10 :: R)))
    (hv1 : ∀ b ∈ version, notEol b = true) (hv2 : validUtf8 version = true)
    (hmark : (mark.all fun b => b ≥ 128) = true)
    (xs : Nat) (hxs : getXrefStart out = some xs) (hle : xs ≤ out.length)
    (x0 : XTable) (sz : Nat) (tr0 : Dict) (hxt : xrefAndTrailer (out.drop xs) = .ok (x0, sz, tr0))
    (x : XTable) (tr : Dict)
    (hpl : prevLoop out (out.length + 2) (tr0.get PREV) [] x0 (tr0.remove PREV) = .ok (x, tr))
    (hmax : x.maxId + 1 < U32) (henc : tr.has ENCRYPT = false) :
    loadDocWith arr arr2 out = objectPass arr arr2 out version mark x tr xs := by
  have hoff : findFrom PDF_KW (out.length + 1) out 0 = some 0 := by rw [hout]; rfl
  have hhead : pHeader out = some version := by
    unfold pHeader
    rw [hout, tag_append, Option.bind_some, spanP_append notEol version (10 :: 37 :: (mark ++ 10 :: R)) hv1
      (by intro b r h; cases h; rfl)]
    simp only [eol, Option.bind_some, hv2, if_true]
  -- the first line break ends the header line; the binary mark follows it
  have e : out = (PDF_KW ++ version) ++ 10 :: (37 :: (mark ++ 10 :: R)) := by
    rw [hout, List.append_assoc]
  have hpos : findFrom [10] (out.length + 1) out 0 = some ((PDF_KW ++ version).length) := by
    have := findFrom_nl (PDF_KW ++ version) (37 :: (mark ++ 10 :: R)) (out.length + 1) 0
      (fun c hc => by
        rcases List.mem_append.mp hc with hc | hc
        · exact (by decide : ∀ c ∈ PDF_KW, c ≠ 10) c hc
        · rintro rfl; exact absurd (hv1 10 hc) (by decide))
      (by rw [e]; simp only [List.length_append, List.length_cons]; omega)
    rwa [← e, Nat.zero_add] at this
  have hdrop : out.drop ((PDF_KW ++ version).length + 1) = 37 :: (mark ++ 10 :: R) := by
    rw [e, ← List.singleton_append (l := 37 :: _), ← List.append_assoc]
    exact List.drop_left' List.length_append
  have hbm : pBinaryMark (37 :: (mark ++ 10 :: R)) = some mark := by
    unfold pBinaryMark
    simp only
    rw [spanP_append notEol mark (10 :: R)
      (fun b hb => mark_notEol b (by simpa using List.all_eq_true.mp hmark b hb)) (by intro b r h; cases h; rfl)]
    rfl
  have hm : Grammar.markOf out = mark := by
    unfold Grammar.markOf
    simp only [hpos, hdrop, hbm, hmark, if_true]
  rw [Grammar.loadDocWith_objectPass arr arr2 out version xs x0 sz tr0 x tr hoff hhead hxs hle hxt hpl hmax henc, hm]

/-- **The front of `Reader::read`** on any file of the shape `%PDF-<version>\n%<mark>\n…` whose
`startxref` is found and whose newest section has no `Prev`: the reader enters the object pass
with that section's table and trailer. -/
theorem load_front (arr : List Block → List Block) (arr2 : List ObjId → List ObjId) (out version mark R : Bytes)
    (hout : out = PDF_KW ++ (version ++ 10 :: 37 :: (mark ++ 10 :: R)))
    (hv1 : ∀ b ∈ version, notEol b = true) (hv2 : validUtf8 version = true)
    (hmark : (mark.all fun b => b ≥ 128) = true)
    (xs : Nat) (hxs : getXrefStart out = some xs) (hle : xs ≤ out.length)
    (x0 : XTable) (sz : Nat) (tr0 : Dict) (hxt : xrefAndTrailer (out.drop xs) = .ok (x0, sz, tr0))
    (hprev : tr0.get PREV = none) (hmax : x0.maxId + 1 < U32) (henc : tr0.has ENCRYPT = false) :
    loadDocWith arr arr2 out = objectPass arr arr2 out version mark x0 tr0 xs :=
  load_front_chain arr arr2 out version mark R hout hv1 hv2 hmark xs hxs hle x0 sz tr0 hxt x0 tr0
    (Grammar.prevLoop_none out x0 tr0 hprev) hmax henc

theorem loadDocOrd_arr_nil (order : Option (List Nat)) :
    (match order with | none => (id : List Block → List Block) | some p => fun bs => permuteBlocks bs p) [] = [] := by
  cases order with
  | none => rfl
  | some p => exact permuteBlocks_nil p

/-- `Reader::read` under a schedule of hook H1 is `loadDocWith` for an arrangement that has nothing
to rearrange when there are no object streams -/
theorem loadDocOrd_eq (order : Option (List Nat)) (out : Bytes) :
    ∃ arr : List Block → List Block, arr [] = [] ∧ loadDocOrd order out = loadDocWith arr id out :=
  ⟨_, loadDocOrd_arr_nil order, rfl⟩

/-- not an object-stream container (those make the reader unpack members) -/
def NotObjStm : Obj → Prop
  | .stream d _ => Dict.getTypeIs d OBJSTM = false
  | _ => True

/-- the reader's test (`NotObjStm`) and the condition of the file grammar say the same -/
theorem notObjStm_iff (o : Obj) : NotObjStm o ↔ Grammar.NotObjStm o := by
  constructor
  · intro h d c ho hty
    subst ho
    have h' : Dict.getTypeIs d OBJSTM = false := h
    have hty' : d.get TYPE = some (Obj.name OBJSTM) := hty
    simp [Dict.getTypeIs, hty', Obj.asName] at h'
  · intro h
    cases o with
    | stream d c => exact Grammar.getTypeIs_notObjStm d (h d c rfl)
    | _ => trivial

def EntryGood (buf : Bytes) (x : XTable) (N : Nat) (objs : Objects) (e : Nat × XEntry) : Prop :=
  ∃ off g o, e.2 = .normal off g ∧ off ≤ buf.length ∧ objs.get (e.1, g) = some o ∧ NotObjStm o ∧
    pIndirect (lengthOf buf x (N + 1) []) none off (buf.drop off) = some ((e.1, g), .plain o)

def entryIs (id : ObjId) (e : Nat × XEntry) : Bool :=
  match e.2 with
  | .normal _ g => e.1 == id.1 && g == id.2
  | .compressed _ _ => false

theorem entryIs_normal (id : ObjId) (k off g : Nat) : entryIs id (k, .normal off g) = true ↔ (k, g) = id := by
  simp [entryIs, Prod.ext_iff]

theorem any_entryIs_iff (x : XTable) (id : ObjId) :
    x.sorted.any (entryIs id) = true ↔ ∃ off, x.get id.1 = some (.normal off id.2) := by
  constructor
  · intro h
    obtain ⟨⟨k, v⟩, he, hid⟩ := List.any_eq_true.mp h
    cases v with
    | compressed a b => cases hid
    | normal off g =>
      have hkg := (entryIs_normal id k off g).mp hid
      subst hkg
      exact ⟨off, (XTable.mem_sorted_iff x _ _).mp he⟩
  · rintro ⟨off, hx⟩
    exact List.any_eq_true.mpr ⟨(id.1, .normal off id.2), (XTable.mem_sorted_iff x _ _).mpr hx, by simp [entryIs]⟩

/-- generation and object that the table gives for the number `k` -/
def entryVal (x : XTable) (objs : Objects) (k : Nat) : Nat × Obj :=
  match x.get k with
  | some (.normal _ g) => (g, (objs.get (k, g)).getD .null)
  | _ => (0, .null)

/-- an entry that reads back meets the object pass's demand on it, without object-stream containers -/
theorem EntryGood.entryOk {buf : Bytes} {x : XTable} {N : Nat} {objs : Objects} {e : Nat × XEntry}
    (h : EntryGood buf x N objs e) (hx : x.get e.1 = some e.2) :
    Grammar.EntryOk buf (lengthOf buf x (N + 1) []) (entryVal x objs) (fun _ => []) e := by
  obtain ⟨off, g, o, he, hoff, hog, hno, hp⟩ := h
  simp only [Grammar.EntryOk, entryVal, hx, he, hog, Option.getD_some]
  exact ⟨trivial, hoff, hp, Or.inl ⟨(notObjStm_iff _).mp hno, trivial⟩⟩

/-- **the object pass on a table all of whose entries read back**: it succeeds, keeps the
cross-reference data, and holds under each id named by an in-use entry the object read there -/
theorem objectPass_good (arr : List Block → List Block) (arr2 : List ObjId → List ObjId) (harr : arr [] = []) (harr2 : arr2 [] = []) (buf version mark : Bytes)
    (x : XTable) (tr : Dict) (xs : Nat) (objs : Objects)
    (hgood : ∀ e ∈ x.sorted, EntryGood buf x x.sorted.length objs e) :
    ∃ L : Loaded, objectPass arr arr2 buf version mark x tr xs = .ok L ∧ L.version = version ∧ L.binaryMark = mark ∧
      L.trailer = tr ∧ L.xrefStart = xs ∧ L.maxId = x.maxId ∧
      (∀ id, L.objects.get id = if x.sorted.any (entryIs id) then some ((objs.get id).getD .null) else none) ∧
      SortedO L.objects := by
  have hfold := Grammar.loadSteps_blocks buf x x.sorted.length (entryVal x objs) (fun _ => []) x.sorted [] []
    fun p hp => (hgood p hp).entryOk ((XTable.mem_sorted_iff x p.1 p.2).mp hp)
  rw [List.nil_append, Grammar.blocksOf_no_members] at hfold
  refine ⟨_, Grammar.objectPass_of_steps arr arr2 harr2 buf version mark x tr xs _ _ hfold
    (Grammar.allPlain_loadedOfN _ _ [] (by intro p hp; cases hp)), rfl, rfl, rfl, rfl, rfl, fun id => ?_, ?_⟩
  · simp only [harr, mergeBlocksX_nil]
    rw [Grammar.asObjects_get, Grammar.loadedOfN_sorted_get]
    by_cases hany : ∃ off, x.get id.1 = some (.normal off id.2)
    · obtain ⟨off, hx⟩ := hany
      rw [if_pos ((any_entryIs_iff x id).mpr ⟨off, hx⟩)]
      simp [hx, entryVal, Grammar.unplain]
    · rw [if_neg (mt (any_entryIs_iff x id).mp hany)]
      cases hx : x.get id.1 with
      | none => rfl
      | some e =>
        cases e with
        | compressed a b => rfl
        | normal off g =>
          have hg : id.2 ≠ g := fun hg => hany ⟨off, hg ▸ hx⟩
          simp [entryVal, hx, hg]
  · simp only [harr, mergeBlocksX_nil]
    refine (foldr_insertSortedO_sorted _ ?_).1
    rw [List.map_map]
    exact Grammar.loadedOfN_nodup _ _ [] List.nodup_nil

theorem objectPass_maxId (arr : List Block → List Block) (arr2 : List ObjId → List ObjId) (buf v m : Bytes)
    (x : XTable) (tr : Dict) (xs : Nat) (L : Loaded) (h : objectPass arr arr2 buf v m x tr xs = .ok L) :
    L.maxId = x.maxId := by
  unfold objectPass at h
  simp only at h
  split at h
  · cases h
  · cases h
  · injection h with h
    rw [← h]
    simp

/-- the table `x` names exactly the objects `objs` — an in-use entry `k ↦ (off, g)` for each object
`(k, g)`, object numbers within `u32` — and in `buf` the text at each entry's offset is read by
`indirect_object` as that object's image under `nf` (not an object-stream container) -/
structure Indexes (buf : Bytes) (x : XTable) (objs : Objects) (nf : Obj → Obj) : Prop where
  nodup : (x.map (·.1)).Nodup
  entry : ∀ k v, x.get k = some v → k + 1 < U32 ∧ ∃ off g o, v = .normal off g ∧ off ≤ buf.length ∧
    objs.get (k, g) = some o ∧ NotObjStm (nf o) ∧
    ∀ len, pIndirect len none off (buf.drop off) = some ((k, g), .plain (nf o))
  complete : ∀ id o, objs.get id = some o → ∃ off, x.get id.1 = some (.normal off id.2)

namespace Indexes

theorem maxId_lt {buf : Bytes} {x : XTable} {objs : Objects} {nf : Obj → Obj} (h : Indexes buf x objs nf) :
    x.maxId + 1 < U32 := by
  have := XTable_maxId_le x (U32 - 2) fun p hp => by
    have := (h.entry p.1 p.2 (XTable.get_of_mem h.nodup hp)).1
    omega
  simp only [U32] at this ⊢
  omega

end Indexes

/-- **the object pass on a table that indexes the objects**: the loaded document holds under every id
the image of the object listed there, and nothing else -/
theorem objectPass_indexes (arr : List Block → List Block) (arr2 : List ObjId → List ObjId) (harr : arr [] = [])
    (harr2 : arr2 [] = []) (buf version mark : Bytes) (x : XTable) (tr : Dict) (xs : Nat) (objs : Objects)
    (nf : Obj → Obj) (h : Indexes buf x objs nf) :
    ∃ L : Loaded, objectPass arr arr2 buf version mark x tr xs = .ok L ∧ L.version = version ∧ L.binaryMark = mark ∧
      L.trailer = tr ∧ L.xrefStart = xs ∧ L.maxId = x.maxId ∧
      (∀ id, L.objects.get id = (objs.get id).map nf) ∧ SortedO L.objects := by
  have hentry : ∀ e ∈ x.sorted, ∃ off g o, e.2 = .normal off g ∧ off ≤ buf.length ∧ objs.get (e.1, g) = some o ∧
      NotObjStm (nf o) ∧ ∀ len, pIndirect len none off (buf.drop off) = some ((e.1, g), .plain (nf o)) :=
    fun e he => (h.entry e.1 e.2 ((XTable.mem_sorted_iff x e.1 e.2).mp he)).2
  obtain ⟨L, hL, l1, l2, l3, l4, l5, l6, l7⟩ := objectPass_good arr arr2 harr harr2 buf version mark x tr xs
    (objs.map fun p => (p.1, nf p.2)) fun e he => by
      obtain ⟨off, g, o, hv, hoff, hog, hno, hp⟩ := hentry e he
      exact ⟨off, g, nf o, hv, hoff, by rw [Objects.get_mapVals _ fun _ => nf, hog]; rfl, hno, hp _⟩
  refine ⟨L, hL, l1, l2, l3, l4, l5, fun id => ?_, l7⟩
  rw [l6 id, Objects.get_mapVals _ fun _ => nf]
  cases hd : objs.get id with
  | some o =>
    obtain ⟨off, hx⟩ := h.complete id o hd
    have : x.sorted.any (entryIs id) = true := (any_entryIs_iff x id).mpr (h.complete id o hd)
    simp [this]
  | none =>
    -- an entry that named `id` would list an object under it
    have : x.sorted.any (entryIs id) = false := Bool.eq_false_iff.mpr fun hany => by
      obtain ⟨off, hx⟩ := (any_entryIs_iff x id).mp hany
      obtain ⟨_, off', g, o, hv, _, hog, _⟩ := h.entry _ _ hx
      cases hv
      rw [hd] at hog
      cases hog
    simp [this]

namespace Indexes

/-- **`Xref::merge` of two tables that index objects** indexes the objects of both, the newer ones
first — provided an object number that occurs in both keeps its generation -/
theorem merge {buf : Bytes} {x y : XTable} {ox oy : Objects} {nf : Obj → Obj}
    (hx : Indexes buf x ox nf) (hy : Indexes buf y oy nf)
    (hgen : ∀ p ∈ ox, ∀ q ∈ oy, p.1.1 = q.1.1 → p.1.2 = q.1.2) : Indexes buf (x.merge y) (ox ++ oy) nf where
  nodup := XTable_merge_nodup y x hx.nodup
  entry := by
    intro k v hv
    rw [merge_get] at hv
    cases hxk : x.get k with
    | some w =>
      rw [hxk, Option.orElse_some, Option.some.injEq] at hv
      subst hv
      obtain ⟨hb, off, g, o, e, hoff, hog, hn, hp⟩ := hx.entry k w hxk
      exact ⟨hb, off, g, o, e, hoff, by rw [Objects_get_append, hog]; rfl, hn, hp⟩
    | none =>
      rw [hxk] at hv
      obtain ⟨hb, off, g, o, e, hoff, hog, hn, hp⟩ := hy.entry k v hv
      -- the newer table has no entry for `k`, so the newer objects have none numbered `k`
      have hno : ox.get (k, g) = none := by
        cases h : ox.get (k, g) with
        | none => rfl
        | some o' => obtain ⟨off', h'⟩ := hx.complete _ _ h; rw [hxk] at h'; cases h'
      exact ⟨hb, off, g, o, e, hoff, by rw [Objects_get_append, hno]; exact hog, hn, hp⟩
  complete := by
    intro id o h
    rw [Objects_get_append] at h
    cases hd : ox.get id with
    | some o' =>
      obtain ⟨off, hx'⟩ := hx.complete id o' hd
      exact ⟨off, by rw [merge_get, hx']; rfl⟩
    | none =>
      rw [hd] at h
      obtain ⟨off, hy'⟩ := hy.complete id o h
      cases hxk : x.get id.1 with
      | none => exact ⟨off, by rw [merge_get, hxk]; exact hy'⟩
      | some w =>
        -- the newer entry for the number carries the same generation: the object would be a newer one
        obtain ⟨_, off', g', o', _, _, hog, _⟩ := hx.entry _ _ hxk
        have hg : g' = id.2 := hgen _ (Objects.get_mem hog) _ (Objects.get_mem h) rfl
        rw [hg, hd] at hog
        cases hog

end Indexes

/-- **`Reader::read` on a file whose merged table indexes its objects**: it returns them -/
theorem load_of_indexes (arr : List Block → List Block) (arr2 : List ObjId → List ObjId) (harr : arr [] = [])
    (harr2 : arr2 [] = []) (out version mark R : Bytes)
    (hout : out = PDF_KW ++ (version ++ 10 :: 37 :: (mark ++ 10 :: R)))
    (hv1 : ∀ b ∈ version, notEol b = true) (hv2 : validUtf8 version = true)
    (hmark : (mark.all fun b => b ≥ 128) = true)
    (xs : Nat) (hxs : getXrefStart out = some xs) (hle : xs ≤ out.length)
    (x0 : XTable) (sz : Nat) (tr0 : Dict) (hxt : xrefAndTrailer (out.drop xs) = .ok (x0, sz, tr0))
    (x : XTable) (tr : Dict)
    (hpl : prevLoop out (out.length + 2) (tr0.get PREV) [] x0 (tr0.remove PREV) = .ok (x, tr))
    (henc : tr.has ENCRYPT = false) (objs : Objects) (nf : Obj → Obj) (hl : Indexes out x objs nf) :
    ∃ L : Loaded, loadDocWith arr arr2 out = .ok L ∧ L.version = version ∧ L.binaryMark = mark ∧
      L.trailer = tr ∧ L.xrefStart = xs ∧ L.maxId = x.maxId ∧
      (∀ id, L.objects.get id = (objs.get id).map nf) ∧ SortedO L.objects := by
  rw [load_front_chain arr arr2 out version mark R hout hv1 hv2 hmark xs hxs hle x0 sz tr0 hxt x tr hpl
    hl.maxId_lt henc]
  exact objectPass_indexes arr arr2 harr harr2 out version mark x tr xs objs nf hl

end Lopdf.FileRT
