import LopdfModel.Spec.Inflate
/-
  C09 / C02 — **the specification inflate inverts a deflate encoder, for every byte string**:
  `zlib_stored_rt : zlibInflate (zlibStored x) = some x`. `zlibStored` is the RFC 1951 §3.2.4
  encoder (stored blocks of at most 65535 bytes, zlib header, Adler-32); the harness renders the
  same encoder in Rust, compares the bytes with the Lean encoder on every run and has flate2
  decode them — so the hypothesis `inflate (deflate x) = x` of the C09 theorems is a THEOREM for
  this encoder / the specification decoder, and flate2 is tied to both per run.
  (Fixed- and dynamic-Huffman blocks of the decoder are covered by the per-run comparison with
  flate2 at every compression level, not by a theorem.)
-/
namespace Lopdf.Inflate

theorem bitsOf_append (a b : Bytes) : bitsOf (a ++ b) = bitsOf a ++ bitsOf b := by
  induction a with
  | nil => rfl
  | cons x xs ih => simp only [List.cons_append, bitsOf, ih, List.append_assoc]

theorem bitsOf_length (a : Bytes) : (bitsOf a).length = 8 * a.length := by
  induction a with
  | nil => rfl
  | cons x xs ih => simp only [bitsOf, byteBits, List.length_append, List.length_cons, List.length_nil, ih]; omega

theorem readBits_append : ∀ (m n : Nat) (bs r1 r2 : List Bool) (v w : Nat),
    readBits m bs = some (v, r1) → readBits n r1 = some (w, r2) →
    readBits (m + n) bs = some (v + 2 ^ m * w, r2) := by
  intro m
  induction m with
  | zero =>
    intro n bs r1 r2 v w h1 h2
    cases h1
    simp [h2]
  | succ m ih =>
    intro n bs r1 r2 v w h1 h2
    cases bs with
    | nil => cases h1
    | cons b bs' =>
      rw [readBits] at h1
      split at h1
      · rename_i v1 r h3
        cases h1
        rw [show m + 1 + n = (m + n) + 1 by omega, readBits, ih n bs' _ r2 v1 w h3 h2, Nat.pow_succ,
          Nat.mul_assoc, Nat.mul_left_comm]
        show some (_ + 2 * (v1 + 2 ^ m * w), r2) = _
        rw [Nat.mul_add, Nat.add_assoc]
      · cases h1

/-! a byte is the value of its eight bits: each mask of `byteBits` tests one binary digit of `b.toNat`, and `readBits`
sums the digits it is given -/

theorem and_two_pow (x i : Nat) : x &&& 2 ^ i = if x.testBit i then 2 ^ i else 0 := by
  apply Nat.eq_of_testBit_eq
  intro j
  rw [Nat.testBit_and, Nat.testBit_two_pow]
  by_cases h : i = j
  · subst h; cases x.testBit i <;> simp
  · cases x.testBit i <;> simp [h]

theorem and_mask (b m : UInt8) (i : Nat) (hm : m.toNat = 2 ^ i) : (b &&& m != 0) = b.toNat.testBit i := by
  have h : (b &&& m != 0) = ((b &&& m).toNat != 0) := by
    rw [Bool.eq_iff_iff, bne_iff_ne, bne_iff_ne, Ne, Ne, ← UInt8.toNat_inj]; rfl
  rw [h, UInt8.toNat_and, hm, and_two_pow]
  cases b.toNat.testBit i
  · rfl
  · exact bne_iff_ne.mpr (Nat.pos_iff_ne_zero.mp (Nat.two_pow_pos i))

theorem byteBits_eq (b : UInt8) : byteBits b = (List.range' 0 8).map b.toNat.testBit := by
  rw [byteBits, and_mask b 1 0 rfl, and_mask b 2 1 rfl, and_mask b 4 2 rfl, and_mask b 8 3 rfl, and_mask b 16 4 rfl,
    and_mask b 32 5 rfl, and_mask b 64 6 rfl, and_mask b 128 7 rfl]
  rfl

theorem readBits_testBit (x : Nat) (r : List Bool) : ∀ n k,
    readBits n ((List.range' k n).map x.testBit ++ r) = some (x / 2 ^ k % 2 ^ n, r) := by
  intro n
  induction n with
  | zero => intro k; rw [Nat.pow_zero, Nat.mod_one]; rfl
  | succ n ih =>
    intro k
    rw [List.range'_succ, List.map_cons, List.cons_append, readBits, ih (k + 1), Nat.pow_succ' (n := n), Nat.mod_mul,
      Nat.pow_succ, ← Nat.div_div_eq_div_mul, ← Nat.toNat_testBit]
    cases x.testBit k <;> rfl

theorem readBits8_byte (b : UInt8) (r : List Bool) : readBits 8 (byteBits b ++ r) = some (b.toNat, r) := by
  rw [byteBits_eq, readBits_testBit, Nat.pow_zero, Nat.div_one, Nat.mod_eq_of_lt (UInt8.toNat_lt b)]

theorem readByte_byte (b : UInt8) (r : List Bool) : readByte (byteBits b ++ r) = some (b, r) := by
  simp only [readByte, readBits8_byte]
  simp

theorem readBytes_bytes : ∀ (data : Bytes) (r : List Bool), readBytes data.length (bitsOf data ++ r) = some (data, r) := by
  intro data
  induction data with
  | nil => intro r; rfl
  | cons x xs ih =>
    intro r
    simp only [List.length_cons, readBytes, bitsOf, List.append_assoc, readByte_byte, ih]

theorem ofNat_toNat_mod (n : Nat) : (UInt8.ofNat n).toNat = n % 256 := UInt8.toNat_ofNat'

theorem readBits16_le16 (n : Nat) (hn : n < 65536) (r : List Bool) :
    readBits 16 (bitsOf (le16 n) ++ r) = some (n, r) := by
  rw [le16, bitsOf, bitsOf, bitsOf, List.append_nil, List.append_assoc,
    readBits_append 8 8 _ _ r _ _ (readBits8_byte _ _) (readBits8_byte _ _), ofNat_toNat_mod, ofNat_toNat_mod,
    Nat.mod_mod, Nat.mod_mod, Nat.mod_eq_of_lt (Nat.div_lt_of_lt_mul hn : n / 256 < 256)]
  exact congrArg (fun v => some (v, r)) (Nat.mod_add_div n 256)

/-- the five padding bits of a block-header byte `0` / `1` are dropped by the alignment -/
theorem alignDrop_header (R : Bytes) :
    alignDrop ([false, false, false, false, false] ++ bitsOf R) = bitsOf R := by
  unfold alignDrop
  have : ([false, false, false, false, false] ++ bitsOf R).length % 8 = 5 := by
    simp only [List.length_append, List.length_cons, List.length_nil, bitsOf_length]; omega
  rw [this]
  rfl

/-- one stored block: header byte `h` (1 = final, 0 = more follow), LEN, NLEN, the data -/
theorem stored_block (data R : Bytes) (out : Array UInt8) (hlen : data.length ≤ 65535) :
    stored ([false, false, false, false, false] ++ bitsOf (le16 data.length ++ le16 (65535 - data.length) ++ data ++ R)) out
      = some (out ++ data.toArray, bitsOf R) := by
  unfold stored
  rw [alignDrop_header]
  simp only [List.append_assoc, bitsOf_append]
  rw [readBits16_le16 data.length (by omega)]
  simp only
  rw [readBits16_le16 (65535 - data.length) (by omega)]
  simp only
  have : data.length + (65535 - data.length) = 65535 := by omega
  simp only [this, ne_eq, not_true_eq_false, if_false]
  rw [readBytes_bytes]

theorem blocks_type0 (fuel : Nat) (b : Bool) (bs : List Bool) (out : Array UInt8) :
    blocks (fuel + 1) (b :: false :: false :: bs) out =
      match stored bs out with
      | none => none
      | some (out, bs) => if b then some (out, bs) else blocks fuel bs out := by
  cases b <;> cases h : stored bs out <;> simp [blocks, readBits, h]

theorem blocks_stored (fuel : Nat) (final : Bool) (data R : Bytes) (out : Array UInt8) (hlen : data.length ≤ 65535) :
    blocks (fuel + 1)
        (bitsOf ((if final then 1 else 0) :: (le16 data.length ++ le16 (65535 - data.length) ++ data ++ R))) out
      = if final then some (out ++ data.toArray, bitsOf R) else blocks fuel (bitsOf R) (out ++ data.toArray) := by
  have hb : byteBits (if final then 1 else 0) = final :: false :: false :: [false, false, false, false, false] := by
    cases final <;> decide
  rw [bitsOf, hb, List.cons_append, List.cons_append, List.cons_append, blocks_type0, stored_block data R out hlen]

theorem storedBlocks_length : ∀ (fuel : Nat) (data : Bytes), data.length < fuel → data.length ≤ (storedBlocks fuel data).length := by
  intro fuel
  induction fuel with
  | zero => intro data h; omega
  | succ f ih =>
    intro data h
    unfold storedBlocks
    split
    · simp only [List.length_append]; omega
    · have := ih (data.drop 65535) (by simp only [List.length_drop]; omega)
      simp only [List.length_append, List.length_take, List.length_drop] at this ⊢
      omega

theorem blocks_storedBlocks : ∀ (fuelS : Nat) (data tail : Bytes) (out : Array UInt8) (fuelB : Nat),
    data.length < fuelS → fuelS ≤ fuelB →
    blocks fuelB (bitsOf (storedBlocks fuelS data ++ tail)) out = some (out ++ data.toArray, bitsOf tail) := by
  intro fuelS
  induction fuelS with
  | zero => intro data tail out fuelB h; omega
  | succ f ih =>
    intro data tail out fuelB h1 h2
    obtain ⟨fb, rfl⟩ : ∃ fb, fuelB = fb + 1 := ⟨fuelB - 1, by omega⟩
    unfold storedBlocks
    split
    · rename_i hle
      exact blocks_stored fb true data tail out hle
    · rename_i hgt
      have htake : (data.take 65535).length = 65535 := by simp only [List.length_take]; omega
      have hb := blocks_stored fb false (data.take 65535) (storedBlocks f (data.drop 65535) ++ tail) out (by omega)
      rw [htake] at hb
      simp only [Bool.false_eq_true, if_false, Nat.sub_self, List.append_assoc, List.cons_append, List.nil_append] at hb ⊢
      rw [hb, ih _ tail _ fb (by simp only [List.length_drop]; omega) (by omega), Array.append_assoc,
        List.append_toArray (data.take 65535), List.take_append_drop]

theorem adler_fold_lt (data : Bytes) : ∀ (p : Nat × Nat), p.1 < 65521 → p.2 < 65521 →
    (data.foldl adlerStep p).1 < 65521 ∧ (data.foldl adlerStep p).2 < 65521 := by
  induction data with
  | nil => intro p h1 h2; exact ⟨h1, h2⟩
  | cons x xs ih =>
    intro p h1 h2
    simp only [List.foldl_cons]
    exact ih _ (Nat.mod_lt _ (by omega)) (Nat.mod_lt _ (by omega))

theorem adler32_lt (data : Bytes) : adler32 data < 4294967296 := by
  unfold adler32
  have := adler_fold_lt data (1, 0) (by omega) (by omega)
  omega

/-- the Adler-32 trailer as `zlibStored` writes it -/
def be32 (a : Nat) : Bytes :=
  [UInt8.ofNat (a / 16777216 % 256), UInt8.ofNat (a / 65536 % 256), UInt8.ofNat (a / 256 % 256), UInt8.ofNat (a % 256)]

theorem be32_value (a : Nat) (h : a < 4294967296) :
    (UInt8.ofNat (a / 16777216 % 256)).toNat * 16777216 + (UInt8.ofNat (a / 65536 % 256)).toNat * 65536
      + (UInt8.ofNat (a / 256 % 256)).toNat * 256 + (UInt8.ofNat (a % 256)).toNat = a := by
  have d3 : a / 16777216 = a / 256 / 256 / 256 := by simp only [Nat.div_div_eq_div_mul]
  have d2 : a / 65536 = a / 256 / 256 := by simp only [Nat.div_div_eq_div_mul]
  simp only [ofNat_toNat_mod, Nat.mod_mod, d3, d2]
  omega

theorem alignDrop_bitsOf (l : Bytes) : alignDrop (bitsOf l) = bitsOf l := by
  rw [alignDrop, bitsOf_length, Nat.mul_mod_right]; rfl

/-- **`inflate ∘ deflate = id` for the stored-block encoder — every byte string, no size bound.** -/
theorem zlib_stored_rt (x : Bytes) : zlibInflate (zlibStored x) = some x := by
  have hb := blocks_storedBlocks (x.length + 1) x (be32 (adler32 x)) #[]
    ((bitsOf (storedBlocks (x.length + 1) x ++ be32 (adler32 x))).length + 1) (by omega)
    (by
      rw [bitsOf_length, List.length_append]
      have := storedBlocks_length (x.length + 1) x (by omega)
      omega)
  have hrd : readBytes 4 (bitsOf (be32 (adler32 x))) = some (be32 (adler32 x), []) := by
    have := readBytes_bytes (be32 (adler32 x)) []
    rwa [List.append_nil] at this
  have hhdr : ¬ ((120 : UInt8) &&& 15 ≠ 8 ∨ (120 : UInt8) >>> 4 > 7 ∨ ((120 : UInt8).toNat * 256 + (1 : UInt8).toNat) % 31 ≠ 0 ∨ (1 : UInt8) &&& 32 ≠ 0) := by
    decide
  have hx : (#[] ++ x.toArray : Array UInt8).toList = x := by simp
  show zlibInflate (0x78 :: 0x01 :: (storedBlocks (x.length + 1) x ++ be32 (adler32 x))) = some x
  simp only [zlibInflate, hhdr, if_false, inflateRaw, hb, Option.map_some, alignDrop_bitsOf, hrd]
  simp only [be32, hx, be32_value (adler32 x) (adler32_lt x), true_or, if_true]

/- the guard of the header test is exactly RFC 1950's: 0x78 0x01 passes, a wrong FCHECK does not -/
example : zlibInflate [0x78, 0x02, 1, 0, 0, 255, 255] = none := by decide
example : zlibInflate (zlibStored [7, 8, 9]) = some [7, 8, 9] := zlib_stored_rt _

end Lopdf.Inflate
