import LopdfModel.Thm.FileRevs
/-
  C07 — **`file_rt_history`: histories of ANY number of revisions.**  A document saved plainly and
  then updated incrementally any number of times (classic tables and cross-reference streams in any
  mix, `Prev` = the previous cross-reference offset): `Reader::read` on the final file returns, for every object id, the
  object of the NEWEST revision that holds it.  Induction over the history, `prevLoop_chain`.
-/
namespace Lopdf.FileRT
open Lopdf Gen Lopdf.ObjRt

/-- offset of the newest cross-reference section -/
def topX : List (SDoc × Bytes) → Nat
  | [] => 0
  | (d, pre) :: _ => (bodyOf pre d).length

/-- `History revs out`: `out` is the file after the revisions `revs` (newest first, each with the
bytes it was appended to): a plain save, then any number of `IncrementalDocument::save`s whose
`Prev` is the previous cross-reference offset -/
inductive History : List (SDoc × Bytes) → Bytes → Prop
  | base (d : SDoc) (out : Bytes) (d' : SDoc) : RevOK d → saveFrom [] d = some (out, d') →
      d.trailer.get PREV = none → History [(d, [])] out
  | step (d : SDoc) (prevs : List (SDoc × Bytes)) (outprev out : Bytes) (d' : SDoc) :
      History prevs outprev → RevOK d → saveIncr outprev d = some (out, d') →
      d.trailer.get PREV = some (.int (topX prevs : Int)) →
      History ((d, incrPre outprev) :: prevs) out

def ChainFacts (buf : Bytes) : List (SDoc × Bytes) → List (Int × XTable × Dict) → Prop
  | [], [] => True
  | (d, pre) :: rs, (p, X, _) :: cs => p = ((bodyOf pre d).length : Int) ∧ RevFacts buf d pre X ∧ ChainFacts buf rs cs
  | _, _ => False

theorem history_ne_nil (revs : List (SDoc × Bytes)) (out : Bytes) (h : History revs out) : revs ≠ [] := by
  cases h <;> simp

theorem history_topX_lt (revs : List (SDoc × Bytes)) (out : Bytes) (h : History revs out) :
    topX revs < out.length := by
  cases h with
  | base d out d' _ hs _ => exact body_lt_out [] d out d' hs
  | step d prevs outprev out d' _ _ hs _ => exact body_lt_out (incrPre outprev) d out d' hs

theorem chain_cons (d : SDoc) (pre out : Bytes) (d' : SDoc) (hok : RevOK d) (hs : saveFrom pre d = some (out, d'))
    (hlen : out.length < 4294967296) (R : Bytes) (seen : List Int)
    (hseen : ∀ s ∈ seen, ((bodyOf pre d).length : Int) < s) (revs : List (SDoc × Bytes))
    (cs : List (Int × XTable × Dict))
    (hc : ChainOk (out ++ R) ((d.trailer.get PREV).map norm) (((bodyOf pre d).length : Int) :: seen) cs)
    (hf : ChainFacts (out ++ R) revs cs) :
    ∃ chain, ChainOk (out ++ R) (some (.int ((bodyOf pre d).length : Int))) seen chain ∧
      ChainFacts (out ++ R) ((d, pre) :: revs) chain := by
  obtain ⟨table, hxt, hfacts, hlt, hfree, _⟩ := rev_section d pre out d' hok hs R hlen
  refine ⟨(((bodyOf pre d).length : Int), table, revTrailer d pre d') :: cs,
    ⟨rfl, fun hm => Int.lt_irrefl _ (hseen _ hm), Int.natCast_nonneg _, ?_, ⟨revSize d, by simpa using hxt⟩, ?_⟩,
    rfl, hfacts, hf⟩
  · simp only [Int.toNat_natCast, List.length_append]; omega
  · rw [hfree PREV freeKey_PREV]; exact hc

/-- **the invariant of a history**: inside every extension of the file, the `Prev` walk from the
newest section visits one section per revision, each with the facts of its revision -/
theorem history_chain : ∀ (revs : List (SDoc × Bytes)) (out : Bytes), History revs out →
    out.length < 4294967296 → ∀ (R : Bytes) (seen : List Int), (∀ s ∈ seen, (topX revs : Int) < s) →
    ∃ chain, ChainOk (out ++ R) (some (.int (topX revs : Int))) seen chain ∧ ChainFacts (out ++ R) revs chain := by
  intro revs out h
  induction h with
  | base d out d' hok hs hprev =>
    intro hlen R seen hseen
    exact chain_cons d [] out d' hok hs hlen R seen hseen [] [] (by rw [hprev]; trivial) trivial
  | step d prevs outprev out d' hprevH hok hs hprev ih =>
    intro hlen R seen hseen
    obtain ⟨R0, hR0⟩ := incr_prefix outprev d out d' hs
    have hlenp : outprev.length < 4294967296 := by have := List.IsPrefix.length_le ⟨R0, hR0⟩; omega
    have hxprev := history_topX_lt prevs outprev hprevH
    -- the body of the new revision starts after the previous file
    have hbge : outprev.length ≤ (bodyOf (incrPre outprev) d).length :=
      Nat.le_trans (by simp [incrPre]) (pre_le_body (incrPre outprev) d)
    obtain ⟨cs, hc1, hc2⟩ := ih hlenp (R0 ++ R) (((bodyOf (incrPre outprev) d).length : Int) :: seen) (by
      intro s hsm
      rcases List.mem_cons.mp hsm with rfl | hsm
      · omega
      · have : ((bodyOf (incrPre outprev) d).length : Int) < s := hseen s hsm
        omega)
    rw [← List.append_assoc, hR0] at hc1 hc2
    exact chain_cons d (incrPre outprev) out d' hok hs hlen R seen hseen prevs cs (by rw [hprev]; exact hc1) hc2

def allObjs (revs : List (SDoc × Bytes)) : Objects := (revs.map fun r => revObjs r.1 r.2).flatten

/-- a number re-used by another revision keeps its generation (what `IncrementalDocument` does
when an object is modified) -/
def GenConsistent (revs : List (SDoc × Bytes)) : Prop :=
  ∀ r1 ∈ revs, ∀ r2 ∈ revs, ∀ p1 ∈ revObjs r1.1 r1.2, ∀ p2 ∈ revObjs r2.1 r2.2, p1.1.1 = p2.1.1 → p1.1.2 = p2.1.2

theorem allObjs_cons (d : SDoc) (pre : Bytes) (rs : List (SDoc × Bytes)) :
    allObjs ((d, pre) :: rs) = revObjs d pre ++ allObjs rs := by simp [allObjs]

/-- **the merge of the tables of a chain indexes the objects of all its revisions**, newest first:
`x`, which indexes `ox`, merged with the tables of the revisions `revs` indexes `ox` and then their
objects -/
theorem chain_indexes (buf : Bytes) : ∀ (revs : List (SDoc × Bytes)) (chain : List (Int × XTable × Dict))
    (x : XTable) (ox : Objects), ChainFacts buf revs chain → (∀ r ∈ revs, RevOK r.1) → Indexes buf x ox nfObj →
    (∀ p ∈ ox, ∀ r ∈ revs, ∀ q ∈ revObjs r.1 r.2, p.1.1 = q.1.1 → p.1.2 = q.1.2) → GenConsistent revs →
    Indexes buf ((chain.map (·.2.1)).foldl XTable.merge x) (ox ++ allObjs revs) nfObj := by
  intro revs
  induction revs with
  | nil =>
    intro chain x ox hc _ hx _ _
    cases chain with
    | nil => simpa [allObjs] using hx
    | cons c cs => exact hc.elim
  | cons r rs ih =>
    intro chain x ox hc hok hx hgx hgen
    obtain ⟨d, pre⟩ := r
    cases chain with
    | nil => exact hc.elim
    | cons c cs =>
      obtain ⟨_, hf, hcs⟩ := hc
      rw [allObjs_cons, ← List.append_assoc]
      refine ih cs (x.merge c.2.1) (ox ++ revObjs d pre) hcs (fun r hr => hok r (List.mem_cons_of_mem _ hr))
        (hx.merge (hf.indexes (hok (d, pre) List.mem_cons_self).hmax) fun p hp q hq => hgx p hp (d, pre) List.mem_cons_self q hq)
        (fun p hp r hr q hq => ?_) (fun r1 h1 r2 h2 => hgen r1 (List.mem_cons_of_mem _ h1) r2 (List.mem_cons_of_mem _ h2))
      rcases List.mem_append.mp hp with hp | hp
      · exact hgx p hp r (List.mem_cons_of_mem _ hr) q hq
      · exact hgen (d, pre) List.mem_cons_self r (List.mem_cons_of_mem _ hr) p hp q hq

/-- the document of the oldest revision (its header is the file's header) -/
def oldestDoc (revs : List (SDoc × Bytes)) : Option SDoc := revs.getLast?.map (·.1)

theorem history_header : ∀ (revs : List (SDoc × Bytes)) (out : Bytes), History revs out →
    ∃ d0 R1, oldestDoc revs = some d0 ∧ out = PDF_KW ++ (d0.version ++ 10 :: 37 :: (d0.binaryMark ++ 10 :: R1)) ∧
      (d0.binaryMark.all fun b => b ≥ 128) = true := by
  intro revs out h
  induction h with
  | base d out d' hok hs _ =>
    obtain ⟨R, hR⟩ := saveFrom_header d out d' hs
    exact ⟨d, R, rfl, hR, saveFrom_mark [] d out d' hs⟩
  | step d prevs outprev out d' hprevH hok hs _ ih =>
    obtain ⟨d0, R1, h1, h2, h3⟩ := ih
    obtain ⟨R0, hR0⟩ := incr_prefix outprev d out d' hs
    refine ⟨d0, R1 ++ R0, ?_, ?_, h3⟩
    · have hne := history_ne_nil prevs outprev hprevH
      cases prevs with
      | nil => exact absurd rfl hne
      | cons a l => exact h1
    · rw [← hR0, h2]; simp

theorem history_top (revs : List (SDoc × Bytes)) (out : Bytes) (h : History revs out)
    (hlen : out.length < 4294967296) :
    ∃ d pre prevs d' table cs, revs = (d, pre) :: prevs ∧ RevOK d ∧ saveFrom pre d = some (out, d') ∧
      xrefAndTrailer (out.drop (bodyOf pre d).length) = .ok (table, revSize d, revTrailer d pre d') ∧
      RevFacts out d pre table ∧ ChainOk out ((revTrailer d pre d').get PREV) [] cs ∧ ChainFacts out prevs cs ∧
      (∀ k, FreeKey k → (revTrailer d pre d').get k = (d.trailer.get k).map norm) ∧ (revTrailer d pre d').keys.Nodup := by
  cases h with
  | base d out d' hok hs hprev =>
    obtain ⟨table, hxt, hfacts, _, hfree, hnd⟩ := rev_section d [] out d' hok hs [] hlen
    simp only [List.append_nil] at hxt hfacts
    refine ⟨d, [], [], d', table, [], rfl, hok, hs, hxt, hfacts, ?_, trivial, hfree, hnd⟩
    rw [hfree PREV freeKey_PREV, hprev]; simp [ChainOk]
  | step d prevs outprev out d' hprevH hok hs hprev =>
    have hs' : saveFrom (incrPre outprev) d = some (out, d') := hs
    obtain ⟨table, hxt, hfacts, _, hfree, hnd⟩ := rev_section d (incrPre outprev) out d' hok hs' [] hlen
    simp only [List.append_nil] at hxt hfacts
    obtain ⟨R0, hR0⟩ := incr_prefix outprev d out d' hs
    have hlenp : outprev.length < 4294967296 := by have := List.IsPrefix.length_le ⟨R0, hR0⟩; omega
    obtain ⟨cs, hc1, hc2⟩ := history_chain prevs outprev hprevH hlenp R0 [] (by intro s hs; simp at hs)
    rw [hR0] at hc1 hc2
    exact ⟨d, incrPre outprev, prevs, d', table, cs, rfl, hok, hs', hxt, hfacts,
      by rw [hfree PREV freeKey_PREV, hprev]; simpa [norm] using hc1, hc2, hfree, hnd⟩

theorem history_allOK : ∀ (revs : List (SDoc × Bytes)) (out : Bytes), History revs out → ∀ r ∈ revs, RevOK r.1 := by
  intro revs out h
  induction h with
  | base d out d' hok _ _ => intro r hr; simp at hr; subst hr; exact hok
  | step d prevs outprev out d' _ hok _ _ ih =>
    intro r hr
    simp only [List.mem_cons] at hr
    rcases hr with rfl | hr
    · exact hok
    · exact ih r hr

/-- **C07: histories of any length, both cross-reference styles, real numbers
included.** A well-formed document saved plainly and then updated by ANY number of incremental saves — each
revision with a classic table or a cross-reference stream, in any mix; each `Prev` = the previous
cross-reference offset; a re-used object number keeps its generation; final file < 4 GiB; the
oldest header's version text without line breaks in valid UTF-8: for every schedule,
`Reader::read` on the final file succeeds and holds, for EVERY object id, the object of the NEWEST
revision that has it (`allObjs`: the documents' objects and, for stream-style revisions, their
`/XRef` stream objects), in NORMAL FORM (`nfObj`: an integral real text is read as an integer — the
identity on real-free objects) — new objects override previous ones, untouched ones are still
there, nothing else appears; version and binary mark are those of the first header. -/
theorem file_rt_history (order : Option (List Nat)) (revs : List (SDoc × Bytes)) (out : Bytes)
    (h : History revs out) (hlen : out.length < 4294967296) (hgen : GenConsistent revs)
    (hv : ∀ d0, oldestDoc revs = some d0 → (∀ b ∈ d0.version, notEol b = true) ∧ validUtf8 d0.version = true) :
    ∃ L : Loaded, loadDocOrd order out = .ok L ∧
      (∀ id, L.objects.get id = ((allObjs revs).get id).map nfObj) ∧
      (∀ d0, oldestDoc revs = some d0 → L.version = d0.version ∧ L.binaryMark = d0.binaryMark) := by
  obtain ⟨d, pre, prevs, d', table, cs, hrevs, hok, hs, hxt, hfacts, hchain, hcfacts, hfree, hndT⟩ :=
    history_top revs out h hlen
  obtain ⟨d0, R1, hold, hhdr, hmark⟩ := history_header revs out h
  obtain ⟨hv1, hv2⟩ := hv d0 hold
  subst hrevs
  have hstm' : ((revTrailer d pre d').remove PREV).get XREFSTM = none := by
    rw [Dict.get_remove hndT, if_neg (by decide), hfree XREFSTM freeKey_XREFSTM, hok.nostm]; rfl
  have henc' : ((revTrailer d pre d').remove PREV).has ENCRYPT = false := by
    rw [Dict.has_eq, Dict.get_remove hndT, if_neg (by decide), hfree ENCRYPT freeKey_ENCRYPT, Option.isSome_map]
    exact hok.noenc
  -- the `Prev` walk merges the tables of all revisions, and the merge indexes all their objects
  obtain ⟨hpl, _⟩ := prevLoop_chain out ((revTrailer d pre d').remove PREV) hstm' cs
    ((revTrailer d pre d').get PREV) [] table hchain
  have hl : Indexes out (mergeChain (table :: cs.map (·.2.1))) (allObjs ((d, pre) :: prevs)) nfObj := by
    rw [allObjs_cons]
    exact chain_indexes out prevs cs table (revObjs d pre) hcfacts
      (fun r hr => history_allOK _ out h r (List.mem_cons_of_mem _ hr)) (hfacts.indexes hok.hmax)
      (fun p hp r hr q hq => hgen (d, pre) List.mem_cons_self r (List.mem_cons_of_mem _ hr) p hp q hq)
      (fun r1 h1 r2 h2 => hgen r1 (List.mem_cons_of_mem _ h1) r2 (List.mem_cons_of_mem _ h2))
  obtain ⟨L, hL, l1, l2, _, _, _, l6, _⟩ := load_of_indexes _ id (loadDocOrd_arr_nil order) rfl out d0.version
    d0.binaryMark R1 hhdr hv1 hv2 hmark _ (startxref_found pre d out d' hs hlen) (body_le_out pre d out d' hs)
    table _ _ hxt _ _ hpl henc' _ nfObj hl
  refine ⟨L, hL, l6, fun d0' h0 => ?_⟩
  cases hold.symm.trans h0
  exact ⟨l1, l2⟩

/-- **the previous view is unchanged (C07).** After one more incremental save the bytes of the
previous file are an unchanged prefix of the new file, they are themselves a history (one revision
shorter), and loading that prefix still yields the previous document: for every id the object the
previous revisions held. -/
theorem prev_view_unchanged (order : Option (List Nat)) (d : SDoc) (pre : Bytes) (prevs : List (SDoc × Bytes))
    (out : Bytes) (h : History ((d, pre) :: prevs) out) (hne : prevs ≠ []) (hlen : out.length < 4294967296)
    (hgen : GenConsistent prevs)
    (hv : ∀ d0, oldestDoc prevs = some d0 → (∀ b ∈ d0.version, notEol b = true) ∧ validUtf8 d0.version = true) :
    ∃ outprev Lprev, outprev <+: out ∧ pre = incrPre outprev ∧ History prevs outprev ∧
      loadDocOrd order outprev = .ok Lprev ∧ ∀ id, Lprev.objects.get id = ((allObjs prevs).get id).map nfObj := by
  cases h with
  | base d out d' _ _ _ => exact absurd rfl hne
  | step d prevs outprev out d' hprevH hok hs hprev =>
    have hpre := incr_prefix outprev d out d' hs
    have hlenp : outprev.length < 4294967296 := by have := hpre.length_le; omega
    obtain ⟨L, h1, h2, _⟩ := file_rt_history order prevs outprev hprevH hlenp hgen hv
    exact ⟨outprev, L, hpre, rfl, hprevH, h1, h2⟩

theorem nodup_same_gen (objs : Objects) (hn : (objs.map (·.1.1)).Nodup) (p1 p2 : ObjId × Obj)
    (h1 : p1 ∈ objs) (h2 : p2 ∈ objs) (he : p1.1.1 = p2.1.1) : p1.1.2 = p2.1.2 := by
  induction objs with
  | nil => simp at h1
  | cons q rest ih =>
    simp only [List.map_cons, List.nodup_cons] at hn
    simp only [List.mem_cons] at h1 h2
    rcases h1 with rfl | h1 <;> rcases h2 with rfl | h2
    · rfl
    · exact absurd (List.mem_map.mpr ⟨p2, h2, he.symm⟩) hn.1
    · exact absurd (List.mem_map.mpr ⟨p1, h1, he⟩) hn.1
    · exact ih hn.2 h1 h2

/-- **C01 for a plain save of EITHER style, real numbers included** — the one-revision
instance of `file_rt_history`: what `load (save d)` holds under every id is the normal form of the
document's object (and, for a cross-reference-stream save, of the `/XRef` stream object). -/
theorem file_rt_save_norm (order : Option (List Nat)) (d : SDoc) (out : Bytes) (d' : SDoc) (hok : RevOK d)
    (h : saveFrom [] d = some (out, d')) (hlen : out.length < 4294967296)
    (hv1 : ∀ b ∈ d.version, notEol b = true) (hv2 : validUtf8 d.version = true)
    (hprev : d.trailer.get PREV = none) :
    ∃ L : Loaded, loadDocOrd order out = .ok L ∧ L.version = d.version ∧ L.binaryMark = d.binaryMark ∧
      ∀ id, L.objects.get id = ((revObjs d []).get id).map nfObj := by
  have hH : History [(d, [])] out := History.base d out d' hok h hprev
  have hgen : GenConsistent [(d, [])] := by
    intro r1 h1 r2 h2 p1 hp1 p2 hp2 he
    simp only [List.mem_singleton] at h1 h2
    subst h1; subst h2
    simp only at hp1 hp2
    have hnd : ((revObjs d []).map (·.1.1)).Nodup := by
      unfold revObjs
      cases d.xrefKind with
      | table => exact hok.wf.nodup
      | stream =>
        simp only [List.map_append, List.map_cons, List.map_nil]
        rw [List.nodup_append]
        refine ⟨hok.wf.nodup, by simp, ?_⟩
        intro a ha b hb
        simp only [List.mem_singleton] at hb
        subst hb
        obtain ⟨p, hp, rfl⟩ := List.mem_map.mp ha
        have := (hok.wf.range p hp).2
        omega
    exact nodup_same_gen _ hnd p1 p2 hp1 hp2 he
  obtain ⟨L, hL, hobj, hver⟩ := file_rt_history order _ out hH hlen hgen
    (by intro d0 h0; simp [oldestDoc] at h0; subst h0; exact ⟨hv1, hv2⟩)
  obtain ⟨e1, e2⟩ := hver d (by simp [oldestDoc])
  refine ⟨L, hL, e1, e2, ?_⟩
  intro id
  rw [hobj id]
  simp [allObjs]

/-! ### non-vacuity -/

/-- a document without objects is a revision the history theorems cover, if its trailer is -/
theorem revOK_of_no_objects (v m : Bytes) (tr : Dict) (n : Nat) (k : XrefKind) (hn : n + 2 ≤ 4294967295)
    (htr : (tr.map (·.1)).Nodup ∧ ∀ p ∈ tr, ValOKN p.2) (hs : tr.get XREFSTM = none)
    (he : tr.has ENCRYPT = false) : RevOK ⟨v, m, tr, [], n, k⟩ :=
  ⟨hn, ⟨List.nodup_nil, fun _ h => absurd h List.not_mem_nil, fun _ h => absurd h List.not_mem_nil,
    fun _ h => absurd h List.not_mem_nil⟩, fun _ h => absurd h List.not_mem_nil, (dictOK_iff tr).mpr htr, hs, he⟩

theorem prevTrailer_ok (n : Nat) (hn : n ≤ 4294967296) :
    (([(PREV, Obj.int (n : Int))] : Dict).map (·.1)).Nodup ∧ ∀ p ∈ ([(PREV, Obj.int (n : Int))] : Dict), ValOKN p.2 :=
  ⟨List.pairwise_singleton _ _, fun p hp => by
    rw [List.mem_singleton.mp hp]; exact (int_ok n hn).toN⟩

theorem exDoc_revOK : RevOK exDoc :=
  revOK_of_no_objects _ _ [] 0 .table (by decide) ⟨List.nodup_nil, fun _ h => absurd h List.not_mem_nil⟩ rfl rfl

/-- a one-revision history meets every hypothesis of `file_rt_history` -/
example : ∃ out L, History [(exDoc, [])] out ∧ loadDocOrd none out = .ok L := by
  obtain ⟨out, d', h, hlen⟩ := exDoc_saves
  have hH : History [(exDoc, [])] out := History.base exDoc out d' exDoc_revOK h rfl
  obtain ⟨L, hL, _⟩ := file_rt_history none _ out hH hlen
    (by intro r1 h1 r2 h2 p1 hp1; simp at h1; subst h1; simp [revObjs, exDoc] at hp1)
    (by intro d0 h0; simp [oldestDoc] at h0; subst h0
        exact ⟨by intro b hb; simp [exDoc] at hb; rcases hb with h | h | h <;> subst h <;> decide, by decide⟩)
  exact ⟨out, L, hH, hL⟩

/-- histories of length two exist: the empty document, then an (empty) incremental update whose
`Prev` is the first cross-reference offset -/
example : ∃ out1 out2 d2, History [(d2, incrPre out1), (exDoc, [])] out2 := by
  obtain ⟨out1, d1', h1, hl1⟩ := exDoc_saves
  have hH1 : History [(exDoc, [])] out1 := History.base exDoc out1 d1' exDoc_revOK h1 rfl
  have hb1 := body_le_out [] exDoc out1 d1' h1
  let d2 : SDoc := ⟨[49, 46, 53], [187, 173, 192, 222], [(PREV, .int ((bodyOf [] exDoc).length : Int))], [], 0, .table⟩
  have hok2 : RevOK d2 := revOK_of_no_objects _ _ _ 0 .table (by decide)
    (prevTrailer_ok (bodyOf [] exDoc).length (by omega)) rfl rfl
  obtain ⟨out2, d2', h2⟩ := saveFrom_some (incrPre out1) d2 (by decide)
  exact ⟨out1, out2, d2, History.step d2 _ out1 out2 d2' hH1 hok2 h2 rfl⟩

/-- a cross-reference-STREAM revision as base and a classic-table revision appended to it: mixed
histories exist -/
example : ∃ out1 out2 d1 d2, d1.xrefKind = .stream ∧ d2.xrefKind = .table ∧
    History [(d2, incrPre out1), (d1, [])] out2 := by
  let d1 : SDoc := ⟨[49, 46, 53], [187, 173, 192, 222], [], [], 0, .stream⟩
  have hok1 : RevOK d1 := revOK_of_no_objects _ _ [] 0 .stream (by decide)
    ⟨List.nodup_nil, fun _ h => absurd h List.not_mem_nil⟩ rfl rfl
  obtain ⟨out1, d1', h1⟩ := saveFrom_some [] d1 (by decide)
  have hH1 : History [(d1, [])] out1 := History.base d1 out1 d1' hok1 h1 rfl
  let d2 : SDoc := ⟨[49, 46, 53], [187, 173, 192, 222], [(PREV, .int ((bodyOf [] d1).length : Int))], [], 0, .table⟩
  have hok2 : RevOK d2 := revOK_of_no_objects _ _ _ 0 .table (by decide)
    (prevTrailer_ok (bodyOf [] d1).length (by rw [show (bodyOf [] d1).length = 15 from rfl]; decide)) rfl rfl
  obtain ⟨out2, d2', h2⟩ := saveFrom_some (incrPre out1) d2 (by decide)
  exact ⟨out1, out2, d1, d2, rfl, rfl, History.step d2 _ out1 out2 d2' hH1 hok2 h2 rfl⟩

end Lopdf.FileRT
