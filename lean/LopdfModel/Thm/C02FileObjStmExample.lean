import LopdfModel.Thm.C02FileStmExample
/-
  Non-vacuity of `loadDoc_complete_objstm`: a concrete file with an object stream.
    %PDF-1.5 LF
    2 0 obj LF <</Type/ObjStm/N 1/First 4/Length 6>> LF stream LF 1 0 /A LF endstream LF endobj LF     (offset 9)
    3 0 obj LF <</Size 4/W[1 1 1]/Index[1 3]/Length 9>> LF stream LF 02 02 00 01 09 00 01 56 00 LF endstream LF endobj LF (offset 86)
    startxref LF 86 LF %%EOF
  Object 1 is a member of the object stream 2 (`/A`); 2 and 3 are ordinary type-1 entries.
-/
namespace Lopdf.Grammar
open Lopdf Gen

def kType : Bytes := [84, 121, 112, 101]
def kFirst : Bytes := [70, 105, 114, 115, 116]
def nObjStm : Bytes := [79, 98, 106, 83, 116, 109]

def oContent : Bytes := ([] ++ ([49] ++ [32] ++ ([48] ++ [32] ++ []))) ++ ([] ++ ((47 :: [65]) ++ [] ++ []))

theorem oContent_derives : DerivesObjStm [(1, .name [65])] 4 oContent :=
  .mk 0 [1] [(.name [65], 0)] [] _ [] _ (by decide) rfl (by intro b hb; simp at hb) .nil
    (.cons 1 [0] [49] [32] _ (.one 49 (by decide)) (by decide) (by intro b hb; simp at hb; subst hb; decide) (by simp)
      (.cons 0 [] [48] [32] [] (.one 48 (by decide)) (by decide) (by intro b hb; simp at hb; subst hb; decide) (by simp) .nil))
    (.cons 0 0 (.name [65]) [] (47 :: [65]) [] [] (.name 0 [65] [65] (.raw 65 _ _ (by decide) (by decide) .nil)) .nil
      (.nil 0 _) (fun _ b r e => by cases e))
    (by decide)

def oEntries : List (Bytes × Obj) :=
  [(kType, .name nObjStm), ([78], .int 1), (kFirst, .int 4), (kLength, .int 6)]

def oEbs : Bytes :=
  47 :: kType ++ [] ++ (47 :: nObjStm) ++ [] ++
   (47 :: [78] ++ [32] ++ [49] ++ [] ++
    (47 :: kFirst ++ [32] ++ [52] ++ [] ++
     (47 :: kLength ++ [32] ++ [54] ++ [] ++ [])))

theorem oEntries_derive : DerivesEntries 0 oEntries oEbs :=
  entryTight (rawName kType (by decide +kernel)) (stopHead_delim 47 _ (by decide))
    (nameObj 0 nObjStm (by decide +kernel))
    (entrySp (rawName [78] (by decide +kernel)) (digitObj 0 1 49 (by decide) (by decide))
      (entrySp (rawName kFirst (by decide +kernel)) (digitObj 0 4 52 (by decide) (by decide))
        (entrySp kLength_name (digitObj 0 6 54 (by decide) (by decide)) (.nil 0))))

def oDict : Dict := setEntries [] oEntries

def oObj : Bytes :=
  [50] ++ ([32] ++ ([48] ++ ([32] ++ ([111, 98, 106] ++ ([10] ++
    (streamSpelling [] oEbs [10] [] [10] oContent [10] ++ ([10] ++ [101, 110, 100, 111, 98, 106])))))))

theorem oObj_derives : DerivesIndirect (2, 0) (.stream oDict oContent) oObj :=
  streamLf 2 50 (by decide) (by decide) oContent oEntries_derive (by decide) rfl

def xSubs : List SSub := [(1, [(2, 2, 0), (1, 9, 0), (1, 86, 0)])]

def xEntries : List (Bytes × Obj) :=
  [(kSize, .int 4), ([87], .arr [.int 1, .int 1, .int 1]), (kIndex, .arr [.int 1, .int 3]), (kLength, .int 9)]

def xEbs : Bytes :=
  47 :: kSize ++ [32] ++ [52] ++ [] ++
   (47 :: [87] ++ [] ++ (91 :: [] ++ ([49] ++ [32] ++ ([49] ++ [32] ++ ([49] ++ [] ++ []))) ++ [93]) ++ [] ++
    (47 :: kIndex ++ [] ++ (91 :: [] ++ ([49] ++ [32] ++ ([51] ++ [] ++ [])) ++ [93]) ++ [] ++
     (47 :: kLength ++ [32] ++ [57] ++ [] ++ [])))

theorem xEntries_derive : DerivesEntries 1 xEntries xEbs :=
  entrySp kSize_name (digitObj 1 4 52 (by decide) (by decide))
    (entryTight w_name (stopHead_delim 91 _ (by decide))
      (arrObj _ _ (spItem _ _ _ _ (digitObj 0 1 49 (by decide) (by decide))
        (spItem _ _ _ _ (digitObj 0 1 49 (by decide) (by decide)) (lastItem _ _ (digitObj 0 1 49 (by decide) (by decide))))))
      (entryTight kIndex_name (stopHead_delim 91 _ (by decide))
        (arrObj _ _ (spItem _ _ _ _ (digitObj 0 1 49 (by decide) (by decide))
          (lastItem _ _ (digitObj 0 3 51 (by decide) (by decide)))))
        (entrySp kLength_name (digitObj 1 9 57 (by decide) (by decide)) (.nil 1))))

def xDict : Dict := setEntries [] xEntries
def xData : Bytes := encodeSubs 1 1 1 xSubs

def xObj : Bytes :=
  [51] ++ ([32] ++ ([48] ++ ([32] ++ ([111, 98, 106] ++ ([10] ++
    (streamSpelling [] xEbs [10] [] [10] xData [10] ++ ([10] ++ [101, 110, 100, 111, 98, 106])))))))

theorem xObj_derives : DerivesIndirect (3, 0) (.stream xDict xData) xObj :=
  streamLf 3 51 (by decide) (by decide) xData xEntries_derive (by decide) rfl

def xAfter : Bytes := [10] ++ (STARTXREF ++ ([10] ++ ([] ++ ([56, 54] ++ ([] ++ ([10] ++ (EOF_MARK ++ [])))))))
def oBody : Bytes := oObj ++ [10]
def oFile : Bytes := (PDF_KW ++ (sVer ++ ([10] ++ oBody))) ++ (xObj ++ xAfter)

def oVal : Nat → Nat × Obj := fun k => if k = 2 then (0, .stream oDict oContent) else (0, .stream xDict xData)
def oCont : Nat → List (Nat × Obj) := fun k => if k = 2 then [(1, .name [65])] else []

/-- the concrete file loads: object 1 is the member `/A` of the object stream 2; 2 and 3 are the
two streams; nothing else -/
theorem oFile_loads : ∃ L, loadDoc oFile = .ok L ∧ L.version = sVer ∧ L.xrefStart = 86 ∧
    L.objects.get (1, 0) = some (.name [65]) ∧ L.objects.get (2, 0) = some (.stream oDict oContent) ∧
    L.objects.get (3, 0) = some (.stream xDict xData) ∧ L.objects.get (1, 1) = none ∧ L.objects.get (4, 0) = none := by
  have htab : streamTableOf xSubs = [(1, .compressed 2 0), (2, .normal 9 0), (3, .normal 86 0)] := by decide +kernel
  obtain ⟨L, h1, h2, _, h4, _, h6⟩ := loadDoc_complete_objstm sVer [10] oBody xDict 4 1 1 1 xSubs [10] [10] []
    [56, 54] [] [10] [] oVal oCont (by decide) .lf xObj_derives
    rfl rfl rfl (Or.inl rfl) (by unfold SubsOk xSubs RowOk; decide +kernel) (by decide) (by decide) rfl rfl
    .lf allSp_nil (natLit _ [56, 54] (by decide +kernel)) allSp_nil .lf .none
    (by decide) (by rw [htab]; decide) oFile rfl
    (by
      rw [htab]
      have hs := split_at (file := oFile) (off := 9) (PDF_KW ++ (sVer ++ LF)) oObj (LF ++ (xObj ++ xAfter)) rfl
        (by simp only [oFile, oBody, List.append_assoc])
      -- 1 is a member; 2 is the container, defined at offset 9; 3 the cross-reference stream at 86
      exact forall_get_cons trivial
        (forall_get_cons ⟨rfl, Or.inr (Or.inl ⟨oDict, oContent, rfl, hs.1, [], oObj, _, 4, 1,
            hs.2, .nil, oObj_derives, rfl, rfl, rfl, rfl, oContent_derives, by simp [oCont], by simp [oCont]⟩)⟩
          (forall_get_cons ⟨rfl, Or.inl ⟨definesAt_split (PDF_KW ++ (sVer ++ (LF ++ oBody))) xAfter xObj_derives
            (notObjStm_stream _ _ rfl) (by decide +kernel) rfl, rfl⟩⟩ forall_get_nil)))
    (by
      intro k hk
      simp only [oCont]
      split
      · rename_i h2; subst h2; exact absurd (by rw [htab]; rfl) (hk 9 0)
      · rfl)
    (by
      intro k p hp
      simp only [oCont] at hp
      split at hp
      · rename_i h2; subst h2; simp at hp; subst hp; exact ⟨0, by rw [htab]; rfl⟩
      · simp at hp)
  refine ⟨L, h1, h2, h4, ?_, ?_, ?_, ?_, ?_⟩ <;> rw [h6, definedObject, htab] <;> rfl

end Lopdf.Grammar
