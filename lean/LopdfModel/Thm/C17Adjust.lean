import LopdfModel.Thm.C17Rep
/-
  C17 (3) — `adjust_zero_pages` against its bottom-up specification.
  Specification (`adjL`): a bookmark whose page number is 0 and that has children takes the first
  non-zero (adjusted) page among its children, in order; (0,0) when there is none.  Every other
  bookmark keeps its page.
-/
namespace Lopdf.C17
open Lopdf

def firstNZ : List BT → ObjId
  | [] => (0, 0)
  | t :: r => if t.page.1 ≠ 0 then t.page else firstNZ r

mutual
def adjN : BT → BT
  | .node id title f c page kids =>
    .node id title f c (if page.1 = 0 ∧ kids.isEmpty = false then firstNZ (adjL kids) else page) (adjL kids)
def adjL : List BT → List BT
  | [] => []
  | t :: r => adjN t :: adjL r
end

theorem idsL_length (ts : List BT) : (idsL ts).length = BT.sizeL ts := by
  induction ts using BT.forest_ind with
  | nil => rfl
  | cons id title f c page kids r ihk ihr =>
    rw [idsL_cons, List.length_cons, List.length_append, ihk, ihr, BT.sizeL, BT.size, Nat.add_comm 1, Nat.add_right_comm]

theorem idsL_adjL (ts : List BT) : idsL (adjL ts) = idsL ts := by
  induction ts using BT.forest_ind with
  | nil => rfl
  | cons id title f c page kids r ihk ihr => rw [adjL, adjN, idsL_cons, idsL_cons, ihk, ihr]

theorem adjL_ne_nil {ts : List BT} (h : ts ≠ []) : adjL ts ≠ [] := by
  cases ts with
  | nil => exact absurd rfl h
  | cons _ _ => rw [adjL]; nofun

theorem BT.page_node (id : Nat) (title : List Nat) (f : Nat) (c : List Bytes) (page : ObjId) (kids : List BT) :
    (BT.node id title f c page kids).page = page := rfl

theorem fixPages_nil (fuel : Nat) (t : BmTable) (first : Bool) : fixPages fuel t [] first = some (t, (0, 0)) := by
  cases fuel <;> rfl

/-- a bookmark that already has its adjusted page, over children with the same adjustment, is
adjusted to the same bookmark -/
theorem adjN_done (id : Nat) (title : List Nat) (f : Nat) (c : List Bytes) (page : ObjId) {kids kids' : List BT}
    (hadj : adjL kids' = adjL kids) (hemp : kids'.isEmpty = kids.isEmpty) :
    adjN (.node id title f c (adjN (.node id title f c page kids)).page kids') =
      adjN (.node id title f c page kids) := by
  simp only [adjN, BT.page_node, hadj, hemp, BT.node.injEq, true_and, and_true]
  by_cases h : page.1 = 0 ∧ kids.isEmpty = false
  · simp only [h, and_self, if_true, ite_self]
  · simp only [h, if_false]

/-- **adjust_zero_pages, recursive core.**  For a table representing a forest with pairwise distinct
ids and all fuel ≥ its size, `recursive_fix_pages` finishes, touches only entries of the forest, the
table afterwards represents a forest `ts'` with the same ids, and
* with `first = false` it returns the first non-zero adjusted page of the list (`firstNZ (adjL ts)`)
  and `ts'` has the same adjustment as `ts` (it is `ts` with a prefix of the work done);
* with `first = true` the table represents exactly the bottom-up specification `adjL ts`. -/
theorem fix_spec : ∀ (fuel : Nat) (ts : List BT) (ids : List Nat) (t : BmTable) (first : Bool),
    repL t ids ts = true → (idsL ts).Nodup → BT.sizeL ts ≤ fuel →
    ∃ t' ts' res, fixPages fuel t ids first = some (t', res) ∧ repL t' ids ts' = true ∧ idsL ts' = idsL ts ∧
      (∀ q, q ∉ idsL ts → t'.get q = t.get q) ∧
      (first = false → res = firstNZ (adjL ts) ∧ adjL ts' = adjL ts) ∧ (first = true → ts' = adjL ts) := by
  intro fuel
  -- by induction on the fuel and not on the forest: the second pass over the children runs on the
  -- forest the first pass has left, which has the size of `kids` but is not part of `ts`
  induction fuel using Nat.strongRecOn with | _ fuel ih
  intro ts ids t first hrep hnd hsz
  cases ts with
  | nil =>
    cases repL_nil_right hrep
    exact ⟨t, [], (0, 0), fixPages_nil .., rfl, rfl, fun _ _ => rfl, fun _ => ⟨rfl, rfl⟩, fun _ => rfl⟩
  | cons n r =>
    obtain ⟨id, title, fm, c, page, kids⟩ := n
    obtain ⟨is, b, rfl, hget, rfl, rfl, rfl, rfl, hrk, hrr⟩ := repL_cons_inv hrep
    rw [idsL_cons] at hnd
    obtain ⟨hid_k, hid_r, hnk, hnr, hdisj⟩ := nodup_idsL_cons hnd
    obtain ⟨f, rfl, hfk, hfr⟩ := BT.fuel_cons hsz
    replace ih := ih f (Nat.lt_succ_self f)
    have hce : b.children.isEmpty = kids.isEmpty := repL_isEmpty hrk
    -- step 1, the bookmark's own page: afterwards the table holds the adjusted page at `id` and
    -- represents, at the children, a forest `kids'` with the adjustment of `kids`
    obtain ⟨t1, kids', hs1, hg1, hrk1, hids1, hadj1, hframe1⟩ : ∃ t1 kids',
        (if b.page.1 = 0 ∧ b.children.isEmpty = false then setPage id (fixPages f t b.children false)
          else some (t, b.page)) = some (t1, (adjN (.node id b.title b.format b.color b.page kids)).page) ∧
        t1.get id = some { b with page := (adjN (.node id b.title b.format b.color b.page kids)).page } ∧
        repL t1 b.children kids' = true ∧ idsL kids' = idsL kids ∧ adjL kids' = adjL kids ∧
        (∀ q, q ≠ id → q ∉ idsL kids → t1.get q = t.get q) := by
      simp only [adjN, BT.page_node, ← hce]
      split
      · obtain ⟨t', kids', res, hrun, hrep', hids', hframe', hfalse, -⟩ := ih kids b.children t false hrk hnk hfk
        obtain ⟨rfl, hadj⟩ := hfalse rfl
        refine ⟨t'.modify id (fun x => { x with page := firstNZ (adjL kids) }), kids', by rw [hrun]; rfl, ?_, ?_,
          hids', hadj, fun q hq hqk => ?_⟩
        · rw [bmGet_modify, if_pos rfl, hframe' id hid_k, hget]; rfl
        · refine rep_congr_ids kids' _ (fun i hi => ?_) hrep'
          rw [bmGet_modify, if_neg (by rintro rfl; exact hid_k (hids' ▸ hi))]
        · rw [bmGet_modify, if_neg hq]; exact hframe' q hqk
      · exact ⟨t, kids, rfl, hget, hrk, rfl, rfl, fun _ _ _ => rfl⟩
    generalize hP : (adjN (.node id b.title b.format b.color b.page kids)).page = P at hs1 hg1
    have hadjN : adjN (.node id b.title b.format b.color P kids') = adjN (.node id b.title b.format b.color b.page kids) :=
      hP ▸ adjN_done id _ _ _ _ hadj1 ((repL_isEmpty hrk1).symm.trans hce)
    have hrr1 : repL t1 is r = true := rep_congr_ids r _
      (fun i hi => hframe1 i (by rintro rfl; exact hid_r hi) (fun hk => hdisj i hk hi)) hrr
    rw [fixPages]
    simp only [hget, hs1, Option.bind_some]
    cases first with
    | false =>
      by_cases hnz : P.1 ≠ 0
      · -- a page for the caller: return at once
        simp only [hnz, ne_eq, not_false_eq_true, and_self, if_true]
        refine ⟨t1, .node id b.title b.format b.color P kids' :: r, P, rfl,
          repL_cons_intro hg1 rfl rfl rfl rfl hrk1 hrr1, by rw [idsL_cons, idsL_cons, hids1], fun q hq => ?_,
          fun _ => ⟨?_, by rw [adjL, adjL, hadjN]⟩, nofun⟩
        · simp only [idsL_cons, List.mem_cons, List.mem_append, not_or] at hq
          exact hframe1 q hq.1 hq.2.1
        · rw [adjL, firstNZ, hP, if_pos hnz]
      · simp only [hnz, and_false, if_false, Bool.false_eq_true, false_and, Option.bind_some]
        obtain ⟨t2, r', res2, hrun2, hrep2, hids2, hframe2, hfalse2, -⟩ := ih r is t1 false hrr1 hnr hfr
        obtain ⟨rfl, hadj2⟩ := hfalse2 rfl
        refine ⟨t2, .node id b.title b.format b.color P kids' :: r', _, hrun2,
          repL_cons_intro ((hframe2 id hid_r).trans hg1) rfl rfl rfl rfl
            (rep_congr_ids kids' _ (fun i hi => hframe2 i (hdisj i (hids1 ▸ hi))) hrk1) hrep2,
          by rw [idsL_cons, idsL_cons, hids1, hids2], fun q hq => ?_,
          fun _ => ⟨?_, by rw [adjL, adjL, hadjN, hadj2]⟩, nofun⟩
        · simp only [idsL_cons, List.mem_cons, List.mem_append, not_or] at hq
          rw [hframe2 q hq.2.2]; exact hframe1 q hq.1 hq.2.1
        · rw [adjL, firstNZ, hP, if_neg hnz]
    | true =>
      simp only [Bool.true_eq_false, false_and, if_false, true_and]
      -- step 2, the children once more, now adjusting all of them
      obtain ⟨t2, hs2, hrk2, hframe2⟩ : ∃ t2,
          (if b.children.isEmpty = false then (fixPages f t1 b.children true).map (·.1) else some t1) = some t2 ∧
          repL t2 b.children (adjL kids) = true ∧ (∀ q, q ∉ idsL kids → t2.get q = t1.get q) := by
        obtain ⟨t2, ks2, res2, hrun2, hrep2, -, hframe2, -, htrue2⟩ := ih kids' b.children t1 true hrk1 (hids1 ▸ hnk)
          (by rw [← idsL_length, hids1, idsL_length]; exact hfk)
        cases htrue2 rfl
        split
        · exact ⟨t2, by rw [hrun2]; rfl, hadj1 ▸ hrep2, fun q hq => hframe2 q (hids1 ▸ hq)⟩
        · -- no children: nothing to adjust
          rename_i hk
          have hk' : kids' = [] := List.isEmpty_iff.mp
            ((repL_isEmpty hrk1).symm.trans (by simpa using hk))
          subst hk'
          exact ⟨t1, rfl, hadj1 ▸ hrk1, fun _ _ => rfl⟩
      simp only [hs2, Option.bind_some]
      obtain ⟨t3, r3, res3, hrun3, hrep3, -, hframe3, -, htrue3⟩ := ih r is t2 true
        (rep_congr_ids r _ (fun i hi => hframe2 i (fun hk => hdisj i hk hi)) hrr1) hnr hfr
      cases htrue3 rfl
      refine ⟨t3, adjL (.node id b.title b.format b.color b.page kids :: r), res3, hrun3, ?_, idsL_adjL _,
        fun q hq => ?_, nofun, fun _ => rfl⟩
      · rw [adjL, adjN, show (if b.page.1 = 0 ∧ kids.isEmpty = false then firstNZ (adjL kids) else b.page) = P from hP]
        exact repL_cons_intro ((hframe3 id hid_r).trans ((hframe2 id hid_k).trans hg1)) rfl rfl rfl rfl
          (rep_congr_ids _ _ (fun i hi => hframe3 i (hdisj i (idsL_adjL kids ▸ hi))) hrk2) hrep3
      · simp only [idsL_cons, List.mem_cons, List.mem_append, not_or] at hq
        rw [hframe3 q hq.2.2, hframe2 q hq.2.1]; exact hframe1 q hq.1 hq.2.1

/-- **adjust_zero_pages.** For EVERY sequence of `add_bookmark(Bookmark::new(..), parent)` calls and
all fuel ≥ the number of reachable bookmarks, `adjust_zero_pages` finishes, keeps `bookmarks` and the
id counter, leaves every unreachable bookmark alone, and afterwards the table represents the
bottom-up specification `adjL` of the forest: a bookmark with page number 0 that has children takes
the first non-zero adjusted page among its children (else (0,0)); every other page is unchanged. -/
theorem adjust_spec (ops : List (Bm × Option Nat)) (hc : ∀ op ∈ ops, op.1.children = [])
    (fuel : Nat) (hfuel : BT.sizeL (forestOfOps ops) ≤ fuel) :
    ∃ s', adjustZeroPages fuel (addAll BmState.empty ops) = some s' ∧
      s'.roots = (addAll BmState.empty ops).roots ∧ s'.maxBm = (addAll BmState.empty ops).maxBm ∧
      repL s'.table s'.roots (adjL (forestOfOps ops)) = true ∧
      (∀ q, q ∉ idsL (forestOfOps ops) → s'.table.get q = (addAll BmState.empty ops).table.get q) := by
  obtain ⟨t', ts', res, hrun, hrep, _, hframe, _, htrue⟩ :=
    fix_spec fuel (forestOfOps ops) _ _ true (rep_of_ops ops hc) (ids_nodup_of_ops ops) hfuel
  refine ⟨{ (addAll BmState.empty ops) with table := t' }, ?_, rfl, rfl, ?_, hframe⟩
  · simp [adjustZeroPages, hrun]
  · rw [← htrue rfl]; exact hrep

/-- adjusting keeps the shape: same ids, hence `build_outline` afterwards sees the same forest with
adjusted pages (so `outline_links` / `toc_readback` apply to `adjL (forestOfOps ops)`). -/
theorem adjust_then_build (ops : List (Bm × Option Nat)) (hc : ∀ op ∈ ops, op.1.children = [])
    (fuelA fuelB maxId : Nat) (hfA : BT.sizeL (forestOfOps ops) ≤ fuelA)
    (hne : forestOfOps ops ≠ []) (hfB : BT.sizeL (adjL (forestOfOps ops)) ≤ fuelB) :
    ∃ s' b, adjustZeroPages fuelA (addAll BmState.empty ops) = some s' ∧
      buildOutline fuelB s' maxId = some (some b) ∧ b.root = (maxId + 1, 0) ∧
      EmbL b.objs.get (maxId + 1) (maxId + 1, 0) none (adjL (forestOfOps ops)) := by
  obtain ⟨s', hrun, _, _, hrep, _⟩ := adjust_spec ops hc fuelA hfA
  obtain ⟨b, hb, hroot, _, _, hemb⟩ := outline_links s' _ maxId fuelB hrep (adjL_ne_nil hne) hfB
  exact ⟨s', b, hrun, hb, hroot, hemb⟩

/-- non-vacuity: a zero-page parent whose first child is a zero-page parent of a real page -/
example : adjL [.node 1 [65] 0 [] (0, 7) [.node 2 [66] 0 [] (0, 0) [.node 3 [67] 0 [] (5, 0) []], .node 4 [68] 0 [] (6, 0) []]]
    = [.node 1 [65] 0 [] (5, 0) [.node 2 [66] 0 [] (5, 0) [.node 3 [67] 0 [] (5, 0) []], .node 4 [68] 0 [] (6, 0) []]] := by
  rfl

end Lopdf.C17
