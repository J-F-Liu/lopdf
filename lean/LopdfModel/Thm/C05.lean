import LopdfModel.Lemmas.Crypt
import LopdfModel.Lemmas.CryptStrip
/-
  C05 — Encrypt then decrypt restores every string and stream: `decrypt_object ∘ encrypt_object = normLen`
  on every object, every filter assignment, every IV supply (`walker_rt`), where `normLen` only rewrites
  `Length` of processed streams (Stream::set_content).  The three places where the property was false of the
  code are repaired in /repo and stated as positive theorems: the owner password with R2–R4 (F-C05-a),
  non-PDFDoc passwords for R≤4 (F-C05-b), R5/R6 passwords longer than 127 bytes (F-C05-c).
-/
set_option linter.unusedSectionVars false
namespace Lopdf.Crypt
open Lopdf Lopdf.Gen

/-- RC4 is an involution for every key and every data (the keystream depends on the key only). -/
theorem rc4_involutive (key data : Bytes) : rc4 key (rc4 key data) = data :=
  prga_involutive _ _ _ _

example : rc4 [75, 101, 121] (rc4 [75, 101, 121] [1, 2, 3]) = [1, 2, 3] := rc4_involutive _ _

section walker
variable (P : Prims) (st : EncState) (id : ObjId) (ivs : IVs)

theorem encObj_stream_ok {d : Dict} {c : Bytes} {k : Nat} {r : Obj × Nat}
    (h : encObj P st id ivs (.stream d c) k = .ok r) :
    (isXrefStream (.stream d c) = true ∧ r = (.stream d c, k)) ∨
    (¬ isXrefStream (.stream d c) = true ∧ ∃ d' k1, encDict P st id ivs d k = .ok (d', k1) ∧
      ((metadataExempt st (.stream d' c) = true ∧ r = (.stream d' c, k1)) ∨
       (¬ metadataExempt st (.stream d' c) = true ∧ ∃ c',
          (streamCF st d').encrypt P ((streamCF st d').computeKey P st.fileKey id) (ivs k1) c = .ok c' ∧
          r = (setContent d' c', if (streamCF st d').usesIv then k1 + 1 else k1)))) := by
  rw [encObj] at h
  by_cases hx : isXrefStream (.stream d c) = true
  · rw [if_pos hx] at h; cases h; exact Or.inl ⟨hx, rfl⟩
  rw [if_neg hx] at h
  cases hd : encDict P st id ivs d k with
  | error e => rw [hd] at h; cases h
  | ok p =>
    obtain ⟨d', k1⟩ := p
    simp only [hd] at h
    refine Or.inr ⟨hx, d', k1, rfl, ?_⟩
    by_cases hm : metadataExempt st (.stream d' c) = true
    · rw [if_pos hm] at h; cases h; exact Or.inl ⟨hm, rfl⟩
    rw [if_neg hm] at h
    cases he : (streamCF st d').encrypt P ((streamCF st d').computeKey P st.fileKey id) (ivs k1) c with
    | error e => simp only [he] at h; cases h
    | ok c' => simp only [he] at h; cases h; exact Or.inr ⟨hm, c', rfl, rfl⟩

/- Both walkers preserve `strip`: they change nothing but string bytes, stream data and the
`Length` of processed streams — in particular no name, so every decision (XRef / Metadata
exemption, Crypt override, default filter) is taken identically when decrypting. -/
mutual
theorem encObj_strip (o : Obj) (k : Nat) (r : Obj × Nat) (h : encObj P st id ivs o k = .ok r) :
    strip r.1 = strip o := by
  match o with
  | .arr items =>
    simp only [encObj] at h
    split at h
    · rename_i items' k' he
      injection h with h; subst h
      simp [strip, encList_strip items k _ he]
    · cases h
  | .dict es =>
    simp only [encObj] at h
    split at h
    · injection h with h; subst h; rfl
    · split at h
      · rename_i es' k' he
        injection h with h; subst h
        simp [strip, encDict_strip es k _ he]
      · cases h
  | .str s f =>
    simp only [encObj] at h
    split at h
    · injection h with h; subst h; simp [strip]
    · cases h
  | .stream d c =>
    rcases encObj_stream_ok P st id ivs h with ⟨_, rfl⟩ | ⟨_, d', k1, hd, ⟨_, rfl⟩ | ⟨_, c', _, rfl⟩⟩
    · rfl
    · simp only [strip, encDict_strip d k _ hd]
    · simp only [setContent, strip, stripDict_set, Dict.set_set, encDict_strip d k _ hd]
  | .null | .bool _ | .int _ | .real _ | .name _ | .ref _ _ => simp only [encObj, Except.ok.injEq] at h; subst h; rfl
theorem encList_strip (os : List Obj) (k : Nat) (r : List Obj × Nat) (h : encList P st id ivs os k = .ok r) :
    stripList r.1 = stripList os := by
  match os with
  | [] => simp [encList] at h; subst h; rfl
  | o :: rest =>
    simp only [encList] at h
    split at h
    · cases h
    · rename_i o' k' ho
      split at h
      · cases h
      · rename_i rest' k'' hr
        injection h with h; subst h
        have h1 := encObj_strip o k _ ho
        have h2 := encList_strip rest k' _ hr
        simp at h1 h2
        simp [stripList, h1, h2]
theorem encDict_strip (es : List (Bytes × Obj)) (k : Nat) (r : List (Bytes × Obj) × Nat)
    (h : encDict P st id ivs es k = .ok r) : stripDict r.1 = stripDict es := by
  match es with
  | [] => simp [encDict] at h; subst h; rfl
  | (key, o) :: rest =>
    simp only [encDict] at h
    split at h
    · cases h
    · rename_i o' k' ho
      split at h
      · cases h
      · rename_i rest' k'' hr
        injection h with h; subst h
        have h1 := encObj_strip o k _ ho
        have h2 := encDict_strip rest k' _ hr
        simp at h1 h2
        simp [stripDict, h1, h2]
end

mutual
theorem decObj_strip (o o' : Obj) (h : decObj P st id o = .ok o') : strip o' = strip o := by
  match o with
  | .arr items =>
    simp only [decObj] at h
    split at h
    · rename_i items' he
      injection h with h; subst h
      simp [strip, decList_strip items _ he]
    · cases h
  | .dict es =>
    simp only [decObj] at h
    split at h
    · injection h with h; subst h; rfl
    · split at h
      · rename_i es' he
        injection h with h; subst h
        simp [strip, decDict_strip es _ he]
      · cases h
  | .str s f =>
    simp only [decObj] at h
    split at h
    · injection h with h; subst h; simp [strip]
    · cases h
  | .stream d c =>
    simp only [decObj] at h
    split at h
    · injection h with h; subst h; rfl
    · split at h
      · cases h
      · rename_i d' hd
        have hs := decDict_strip d _ hd
        split at h
        · injection h with h; subst h; simp [strip, hs]
        · split at h
          · injection h with h; subst h
            simp [setContent, strip, stripDict_set, Dict.set_set, hs]
          · cases h
  | .null | .bool _ | .int _ | .real _ | .name _ | .ref _ _ => simp only [decObj, Except.ok.injEq] at h; subst h; rfl
theorem decList_strip (os os' : List Obj) (h : decList P st id os = .ok os') : stripList os' = stripList os := by
  match os with
  | [] => simp [decList] at h; subst h; rfl
  | o :: rest =>
    simp only [decList] at h
    split at h
    · cases h
    · rename_i o1 ho
      split at h
      · cases h
      · rename_i rest1 hr
        injection h with h; subst h
        simp [stripList, decObj_strip o _ ho, decList_strip rest _ hr]
theorem decDict_strip (es es' : List (Bytes × Obj)) (h : decDict P st id es = .ok es') : stripDict es' = stripDict es := by
  match es with
  | [] => simp [decDict] at h; subst h; rfl
  | (key, o) :: rest =>
    simp only [decDict] at h
    split at h
    · cases h
    · rename_i o1 ho
      split at h
      · cases h
      · rename_i rest1 hr
        injection h with h; subst h
        simp [stripDict, decObj_strip o _ ho, decDict_strip rest _ hr]
end

theorem encDict_getType (es : List (Bytes × Obj)) (k : Nat) (r : List (Bytes × Obj) × Nat)
    (h : encDict P st id ivs es k = .ok r) : Dict.getType r.1 = Dict.getType es := by
  rw [← getType_strip, encDict_strip P st id ivs es k r h, getType_strip]

theorem decDict_set_int (es dd : List (Bytes × Obj)) (key : Bytes) (n : Int)
    (h : decDict P st id es = .ok dd) :
    decDict P st id (Dict.set es key (.int n)) = .ok (Dict.set dd key (.int n)) := by
  induction es generalizing dd with
  | nil => simp [decDict] at h; subst h; simp [Dict.set, decDict, decObj]
  | cons e rest ih =>
    obtain ⟨a, v⟩ := e
    simp only [decDict] at h
    split at h
    · cases h
    · rename_i v1 hv
      split at h
      · cases h
      · rename_i rest1 hr
        injection h with h; subst h
        by_cases ha : a = key
        · subst ha; simp [Dict.set, decDict, decObj, hr]
        · simp [Dict.set, ha, decDict, hv, ih rest1 hr]

variable (hk : ∀ key, BlockOK P key) (hiv : ∀ n, (ivs n).length = 16)
include hk hiv

mutual
/-- decrypt_object ∘ encrypt_object on EVERY object, every filter assignment, every IV supply. -/
theorem walker_rt (o : Obj) (k : Nat) (r : Obj × Nat) (h : encObj P st id ivs o k = .ok r) :
    decObj P st id r.1 = .ok (normLen st o) := by
  match o with
  | .arr items =>
    simp only [encObj] at h
    split at h
    · rename_i items' k' he
      injection h with h; subst h
      simp [decObj, normLen, walker_rt_list items k _ he]
    · cases h
  | .dict es =>
    simp only [encObj] at h
    split at h
    · injection h with h; subst h; rename_i hm; simp [decObj, normLen, hm]
    · split at h
      · rename_i hm _ es' k' he
        injection h with h; subst h
        have hs := encDict_strip P st id ivs es k _ he
        have hm' : metadataExempt st (.dict es') = metadataExempt st (.dict es) :=
          (decisions_of_strip st es es' hs [] []).2.2.2
        simp [decObj, normLen, hm', hm, walker_rt_dict es k _ he]
      · cases h
  | .str s f =>
    simp only [encObj] at h
    split at h
    · rename_i c he
      injection h with h; subst h
      simp [decObj, normLen, filter_rt P _ _ _ _ _ (hk _) (hiv k) he]
    · cases h
  | .stream d c =>
    rcases encObj_stream_ok P st id ivs h with ⟨hx, rfl⟩ | ⟨hx, d', k1, hd, hdata⟩
    · simp only [decObj, normLen, hx, if_true]
    · -- decrypting takes its decisions on `d'` and on its decryption; both have the `strip` of `d`
      have hs : stripDict d' = stripDict d := encDict_strip P st id ivs d k _ hd
      have hdec : decDict P st id d' = .ok (normLenDict st d) := walker_rt_dict d k _ hd
      have hs2 : stripDict (normLenDict st d) = stripDict d' := decDict_strip P st id d' _ hdec
      obtain ⟨hcf, hxr, hme, _⟩ := decisions_of_strip st d d' hs c c
      obtain ⟨hcf2, hxr2, hme2, _⟩ := decisions_of_strip st d' (normLenDict st d) hs2 c c
      rcases hdata with ⟨hm, rfl⟩ | ⟨hm, c', he, rfl⟩
      · -- exempt Metadata stream: dictionary strings processed, data untouched
        simp only [decObj, hxr, hx, hdec, hme2, hm, normLen, hme ▸ hm, Bool.false_eq_true, if_true, if_false]
      · have hdec' := decDict_set_int P st id d' _ K_LENGTH (c'.length : Int) hdec
        simp only [setContent, decObj, isXref_setLength d' _ c c', hxr, hx, hdec',
          metadataExempt_setLength st (normLenDict st d) _ c c', hme2, hm, streamCF_setLength, hcf2,
          Bool.false_eq_true, if_false,
          filter_rt P _ _ _ _ _ (hk _) (hiv k1) he, normLen, hme ▸ hm, Dict.set_set]
  | .null | .bool _ | .int _ | .real _ | .name _ | .ref _ _ =>
    simp only [encObj, Except.ok.injEq] at h; subst h; simp only [decObj, normLen]
theorem walker_rt_list (os : List Obj) (k : Nat) (r : List Obj × Nat) (h : encList P st id ivs os k = .ok r) :
    decList P st id r.1 = .ok (normLenList st os) := by
  match os with
  | [] => simp [encList] at h; subst h; simp [decList, normLenList]
  | o :: rest =>
    simp only [encList] at h
    split at h
    · cases h
    · rename_i o' k' ho
      split at h
      · cases h
      · rename_i rest' k'' hr
        injection h with h; subst h
        simp [decList, normLenList, walker_rt o k _ ho, walker_rt_list rest k' _ hr]
theorem walker_rt_dict (es : List (Bytes × Obj)) (k : Nat) (r : List (Bytes × Obj) × Nat)
    (h : encDict P st id ivs es k = .ok r) :
    decDict P st id r.1 = .ok (normLenDict st es) := by
  match es with
  | [] => simp [encDict] at h; subst h; simp [decDict, normLenDict]
  | (key, o) :: rest =>
    simp only [encDict] at h
    split at h
    · cases h
    · rename_i o' k' ho
      split at h
      · cases h
      · rename_i rest' k'' hr
        injection h with h; subst h
        simp [decDict, normLenDict, walker_rt o k _ ho, walker_rt_dict rest k' _ hr]
end

end walker

/-! `normLen` is the identity on objects whose streams carry their true `Length`. -/

mutual
def LengthOK : Obj → Bool
  | .arr items => LengthOKList items
  | .dict es => LengthOKDict es
  | .stream d c => (match Dict.get d K_LENGTH with
    | some (.int i) => i == (c.length : Int)
    | _ => false) && LengthOKDict d
  | _ => true
def LengthOKList : List Obj → Bool
  | [] => true
  | o :: rest => LengthOK o && LengthOKList rest
def LengthOKDict : List (Bytes × Obj) → Bool
  | [] => true
  | (_, o) :: rest => LengthOK o && LengthOKDict rest
end

mutual
theorem normLen_id (st : EncState) (o : Obj) (h : LengthOK o = true) : normLen st o = o := by
  match o with
  | .arr items => simp only [LengthOK] at h; simp [normLen, normLenList_id st items h]
  | .dict es => simp only [LengthOK] at h; simp [normLen, normLenDict_id st es h]
  | .stream d c =>
    simp only [LengthOK, Bool.and_eq_true] at h
    obtain ⟨hl, hd⟩ := h
    have hdd := normLenDict_id st d hd
    split at hl
    · rename_i i hg
      simp at hl; subst hl
      -- whichever of the three branches is taken, the result is the stream itself
      simp only [normLen, hdd, setContent, Dict.set_of_get hg, ite_self]
    · cases hl
  | .null | .bool _ | .int _ | .real _ | .name _ | .ref _ _ | .str _ _ => simp [normLen]
theorem normLenList_id (st : EncState) (os : List Obj) (h : LengthOKList os = true) : normLenList st os = os := by
  match os with
  | [] => simp [normLenList]
  | o :: rest =>
    simp [LengthOKList] at h
    simp [normLenList, normLen_id st o h.1, normLenList_id st rest h.2]
theorem normLenDict_id (st : EncState) (es : List (Bytes × Obj)) (h : LengthOKDict es = true) : normLenDict st es = es := by
  match es with
  | [] => simp [normLenDict]
  | (k, o) :: rest =>
    simp [LengthOKDict] at h
    simp [normLenDict, normLen_id st o h.1, normLenDict_id st rest h.2]
end

/-- Exact restoration under the guard "every stream's Length entry is its content length". -/
theorem walker_rt_exact (P : Prims) (st : EncState) (id : ObjId) (ivs : IVs)
    (hk : ∀ key, BlockOK P key) (hiv : ∀ n, (ivs n).length = 16)
    (o : Obj) (hl : LengthOK o = true) (k : Nat) (r : Obj × Nat) (h : encObj P st id ivs o k = .ok r) :
    decObj P st id r.1 = .ok o := by
  rw [walker_rt P st id ivs hk hiv o k r h, normLen_id st o hl]

/-- the guard is needed: a stream without `Length` comes back with one (Stream::set_content). -/
theorem walker_rt_exact_needs_guard :
    normLen { version := 1, revision := 2, keyLength := none, encryptMetadata := true, cryptFilters := [],
              fileKey := [], stmF := [], strF := [], ownerValue := [], ownerEncrypted := [], userValue := [],
              userEncrypted := [], permissions := 0, permsEncrypted := [] } (.stream [] [1])
      = .stream [(K_LENGTH, .int 1)] [1] := by
  simp [normLen, normLenDict, isXrefStream, metadataExempt, hasType, Dict.get, setContent, Dict.set]

/-- AES output never equals its plaintext: it is at least 17 bytes longer. -/
theorem aes_ct_ne_pt (P : Prims) (kl : Nat) (key iv pt ct : Bytes) (hk : BlockOK P key)
    (hiv : iv.length = 16) (h : aesEncrypt P kl key iv pt = .ok ct) : ct ≠ pt ∧ ct.length ≥ pt.length + 17 := by
  have hl := aesEncrypt_length P kl key iv pt ct hk hiv h
  have := padLen_pos pt.length
  constructor
  · intro e; rw [e] at hl; omega
  · omega

theorem cbc_dec_enc' (E D : Bytes → Bytes) (hE : ∀ b, (E b).length = 16)
    (hD : ∀ b, b.length = 16 → D (E b) = b) (iv d : Bytes)
    (hiv : iv.length = 16) (hd : d.length % 16 = 0) : cbcDec D iv (cbcEnc E iv d) = d :=
  cbc_dec_enc E D hE hD iv d hiv hd


/-! ## Whole object maps: the loops of `Document::encrypt` / `decrypt_raw` -/

/-- Walking all objects of a document with `encrypt_object` and then with `decrypt_object`
(skipping an id that is not among them — the Encrypt dictionary added afterwards) restores every
object up to `normLen`: for every object map, every state, every IV supply. -/
theorem objects_rt (P : Prims) (st : EncState) (ivs : IVs)
    (hk : ∀ key, BlockOK P key) (hiv : ∀ n, (ivs n).length = 16) (skip : Option ObjId)
    (os : Objects) (k : Nat) (r : Objects × Nat) (h : encObjects P st ivs os k = .ok r)
    (hs : ∀ e ∈ os, some e.1 ≠ skip) :
    decObjects P st skip r.1 = .ok (os.map fun e => (e.1, normLen st e.2)) := by
  induction os generalizing k r with
  | nil => simp [encObjects] at h; subst h; simp [decObjects]
  | cons e rest ih =>
    obtain ⟨id, o⟩ := e
    simp only [encObjects] at h
    split at h
    · cases h
    · rename_i o' k' ho
      split at h
      · cases h
      · rename_i rest' k'' hr
        injection h with h; subst h
        have hid : some id ≠ skip := hs (id, o) (by simp)
        have hrest := ih k' _ hr (fun e he => hs e (by simp [he]))
        have hw := walker_rt P st id ivs hk hiv o k _ ho
        simp only [decObjects, hid, ↓reduceIte]
        simp at hw hrest
        simp [hw, hrest]

theorem encObjects_ids (P : Prims) (st : EncState) (ivs : IVs) (os : Objects) (k : Nat) (r : Objects × Nat)
    (h : encObjects P st ivs os k = .ok r) : r.1.map (·.1) = os.map (·.1) := by
  induction os generalizing k r with
  | nil => simp [encObjects] at h; subst h; rfl
  | cons e rest ih =>
    obtain ⟨id, o⟩ := e
    simp only [encObjects] at h
    split at h
    · cases h
    · split at h
      · cases h
      · rename_i rest' k'' hr
        injection h with h; subst h
        simp [ih _ _ hr]

/-! ## Witnesses: concrete executions of the model

The model is parametric in the hash functions and the block cipher, so a concrete execution needs an
instance.  `toy` is one that satisfies every hypothesis the positive theorems make (`BlockOK`,
16-byte MD5, 32-byte SHA-256 / Algorithm 2.B), so those hypotheses can be met; the harness replays
each witness on the real code with the real primitives (`c.witness`). -/

def fit (n : Nat) (b : Bytes) : Bytes := (b ++ List.replicate n 0).take n

theorem fit_length (n : Nat) (b : Bytes) : (fit n b).length = n := by simp [fit]

def toy : Prims :=
  { md5 := fun x => fit 16 x
    sha256 := fun x => fit 32 ((x.length % 256).toUInt8 :: x)
    aesEnc := fun _ b => fit 16 (b.map (fun (x : UInt8) => x + 1))
    aesDec := fun _ c => c.map (fun (x : UInt8) => x - 1),
    sha384 := fun x => fit 48 ((x.length % 256).toUInt8 :: x)
    sha512 := fun x => fit 64 ((x.length % 256).toUInt8 :: x) }

theorem toy_blockOK (key : Bytes) : BlockOK toy key := by
  refine ⟨fun _ => fit_length 16 _, fun b hb => ?_⟩
  have : fit 16 (b.map fun x => x + 1) = b.map fun x => x + 1 :=
    List.take_left' (by rw [List.length_map, hb])
  show (fit 16 (b.map fun x => x + 1)).map (fun x => x - 1) = b
  rw [this, List.map_map]
  exact List.map_id'' (fun x => UInt8.add_sub_cancel x 1) b

def errOf {α} : Except Err α → Option Err
  | .ok _ => none
  | .error e => some e

def firstStr (d : Doc) : Option Bytes :=
  match d.objects with
  | (_, .str s _) :: _ => some s
  | _ => none

def wDoc : Doc :=
  { trailer := [(K_ID, .arr [.str (List.replicate 16 7) .hex, .str (List.replicate 16 9) .hex])],
    objects := [((1, 0), .str [115, 101, 99, 114, 101, 116, 32, 116, 101, 120, 116] .lit)],   -- "secret text"
    maxId := 1 }

def wCfg (ver : Version) (owner user : Bytes) : Config :=
  { ver := ver, cryptFilters := [([83], .aes256)], stmF := [83], strF := [83],
    fileKey := List.replicate 32 5, ownerPw := owner, userPw := user, permissions := PERM_ALL }

def wRnd : Rand := { uTail := List.replicate 16 1, uSalts := (List.range 16).map Nat.toUInt8,
                     oSalts := (List.range 16).map (fun n => (n + 16).toUInt8), permsRnd := [1, 2, 3, 4] }

/-- encrypt with `cfg`, then `decrypt_raw(pw)` -/
def wRun (cfg : Config) (pw : Bytes) : Except Err Doc :=
  match stateOfConfig toy cfg (List.replicate 16 7) wRnd with
  | .error e => .error e
  | .ok st =>
    match wDoc.encrypt toy st (fun _ => List.replicate 16 3) with
    | .error e => .error e
    | .ok enc => enc.decryptRaw toy pw

def OWNER : Bytes := [111, 119, 110, 101, 114]
def USER : Bytes := [117, 115, 101, 114]

def wText (cfg : Config) (pw : Bytes) : Option Bytes :=
  match wRun cfg pw with
  | .ok d => firstStr d
  | .error _ => none

def SECRET : Bytes := [115, 101, 99, 114, 101, 116, 32, 116, 101, 120, 116]

/-- one evaluation of the R6 witness: the document is encrypted once and opened with either password -/
theorem witness_r6 : wText (wCfg .r5 OWNER USER) USER = some SECRET ∧ wText (wCfg .r5 OWNER USER) OWNER = some SECRET := by
  decide +kernel

theorem witness_user_ok_r6 : wText (wCfg .r5 OWNER USER) USER = some SECRET := witness_r6.1

/-! ### F-C05-a, symbolically (all primitives): Algorithm 7 recovers the padded user password from `O`,
so the owner password authenticates wherever the user password does. -/

theorem padPw_length (pw : Bytes) : (padPw pw).length = 32 := by
  rw [padPw, List.length_append, List.length_take, List.length_take, show PAD_BYTES.length = 32 from rfl,
    Nat.min_eq_left (Nat.sub_le _ _), Nat.min_comm, Nat.add_sub_of_le (Nat.min_le_right _ _)]

theorem padPw_idem (pw : Bytes) : padPw (padPw pw) = padPw pw := by
  have h := padPw_length pw
  unfold padPw at h ⊢
  rw [List.take_of_length_le (by omega)]
  simp [h]

theorem rc4Up_snoc (k : Bytes) (cnt i : Nat) (d : Bytes) :
    rc4Up k (cnt + 1) i d = rc4 (xorKey k (i + cnt)) (rc4Up k cnt i d) := by
  induction cnt generalizing i d with
  | zero => simp [rc4Up]
  | succ n ih =>
    rw [rc4Up, ih (i + 1) (rc4 (xorKey k i) d)]
    simp only [rc4Up]
    have : i + 1 + n = i + (n + 1) := by omega
    rw [this]

/-- the 19 … 1 loop of Algorithm 7 undoes the 1 … 19 loop of Algorithm 3 (for every count) -/
theorem rc4Down_rc4Up (k : Bytes) (cnt i : Nat) (d : Bytes) :
    rc4Down k cnt (i + cnt - 1) (rc4Up k cnt i d) = d := by
  induction cnt generalizing d with
  | zero => simp [rc4Down, rc4Up]
  | succ n ih =>
    rw [rc4Up_snoc]
    have : i + (n + 1) - 1 = i + n := by omega
    rw [this, rc4Down, rc4_involutive]
    exact ih d

theorem fileKeyR4_padPw (P : Prims) (a : Alg) (fileId pw : Bytes) :
    a.fileKeyR4 P fileId (padPw pw) = a.fileKeyR4 P fileId pw := by
  simp [Alg.fileKeyR4, padPw_idem]

theorem authUserR4_padPw (P : Prims) (a : Alg) (fileId pw : Bytes) :
    a.authUserR4 P fileId (padPw pw) = a.authUserR4 P fileId pw := by
  simp [Alg.authUserR4, Alg.computeU2, Alg.computeU34, fileKeyR4_padPw]

/-- Algorithm 7 as coded recovers the (padded) user password from the `O` of Algorithm 3 as coded. -/
theorem recoverUser_computeO (P : Prims) (a : Alg) (ownerPw0 userPw o : Bytes)
    (h : a.computeO P ownerPw0 userPw = .ok o) :
    ({ a with ownerValue := o } : Alg).recoverUser P (effOwner ownerPw0 userPw) = padPw userPw := by
  unfold Alg.computeO at h
  generalize effOwner ownerPw0 userPw = ownerPw at h ⊢
  split at h
  · cases h
  · injection h with h
    unfold Alg.recoverUser
    have hk : ({ a with ownerValue := o } : Alg).ownerKey P ownerPw = a.ownerKey P ownerPw := rfl
    rw [hk]
    by_cases hr : a.revision ≥ 3
    · simp only [hr, ↓reduceIte] at h ⊢
      rw [← h]
      have := rc4Down_rc4Up (a.ownerKey P ownerPw) RC4_ROUNDS 1 (rc4 (a.ownerKey P ownerPw) (padPw userPw))
      have e : 1 + RC4_ROUNDS - 1 = RC4_ROUNDS := by decide
      rw [e] at this
      simp [this, rc4_involutive]
    · simp only [hr, ↓reduceIte] at h ⊢
      rw [← h, rc4_involutive]

/-- the owner password authenticates whenever the user password does (R2–R4, as coded) -/
theorem authOwnerR4_of_user (P : Prims) (a : Alg) (fileId ownerPw userPw : Bytes)
    (hO : a.computeO P ownerPw userPw = .ok a.ownerValue)
    (hU : a.authUserR4 P fileId userPw = .ok ()) :
    a.authOwnerR4 P fileId (effOwner ownerPw userPw) = .ok () := by
  have hrec := recoverUser_computeO P a ownerPw userPw a.ownerValue hO
  have ha : ({ a with ownerValue := a.ownerValue } : Alg) = a := rfl
  rw [ha] at hrec
  unfold Alg.authOwnerR4
  have hn : ¬ keyBytes a.revision a.length > 16 := by
    intro hn; simp [Alg.computeO, hn] at hO
  simp only [hn, ↓reduceIte]
  rw [hrec, authUserR4_padPw]; exact hU

/-- `EncryptionState::decode`: the key it stores is `compute_file_encryption_key` of the password given
(for R2–R4 that is Algorithm 2 on the user password Algorithm 7 recovers, when there is one: `Alg.fileKey`). -/
theorem decode_key_r4 (P : Prims) (enc : Dict) (fileId pw : Bytes) (st : EncState)
    (h : decodeState P enc fileId pw = .ok st) :
    ∃ a, algOfDict enc = .ok a ∧ a.fileKey P fileId pw = .ok st.fileKey := by
  unfold decodeState at h
  split at h
  · cases h
  · rename_i a ha
    split at h
    · cases h
    · rename_i k hk
      injection h with h
      exact ⟨a, ha, by rw [hk, ← h]⟩

/-! ### (F-C05-a repaired) R2–R4: the owner password opens the document exactly like the user password -/

theorem okB_ok {ε α} (x : Except ε α) (a : α) (h : x = .ok a) : okB x = true := by subst h; rfl

/-- `compute_file_encryption_key` with the OWNER password yields the key Algorithm 2 derives from
the USER password — for all primitives, every owner / user password pair (an empty owner password
standing for "none"), revisions 2–4. -/
theorem owner_key_r234 (P : Prims) (a : Alg) (fileId ownerPw userPw : Bytes)
    (hr : 2 ≤ a.revision ∧ a.revision ≤ 4)
    (hO : a.computeO P ownerPw userPw = .ok a.ownerValue)
    (hU : a.authUserR4 P fileId userPw = .ok ()) :
    a.fileKey P fileId (effOwner ownerPw userPw) = a.fileKeyR4 P fileId userPw := by
  have hrec := recoverUser_computeO P a ownerPw userPw a.ownerValue hO
  have ha : ({ a with ownerValue := a.ownerValue } : Alg) = a := rfl
  rw [ha] at hrec
  have hn : keyBytes a.revision a.length ≤ 16 := by
    apply Nat.le_of_not_gt; intro hn; simp [Alg.computeO, hn] at hO
  unfold Alg.fileKey
  have h1 : (decide (2 ≤ a.revision) && decide (a.revision ≤ 4)) = true := by simp [hr.1, hr.2]
  rw [hrec, authUserR4_padPw, fileKeyR4_padPw]
  simp [h1, hn, okB_ok _ _ hU]

/-- … and with the user password too, unless the user password itself passes the owner test with a
different recovered password (a hash / RC4 coincidence). -/
theorem user_key_r234 (P : Prims) (a : Alg) (fileId userPw : Bytes)
    (hr : 2 ≤ a.revision ∧ a.revision ≤ 4)
    (hno : okB (a.authUserR4 P fileId (a.recoverUser P userPw)) = false) :
    a.fileKey P fileId userPw = a.fileKeyR4 P fileId userPw := by
  unfold Alg.fileKey
  simp [hr.1, hr.2, hno]

theorem decodeState_owner_eq_user (P : Prims) (enc : Dict) (a : Alg) (fileId ownerPw userPw : Bytes)
    (ha : algOfDict enc = .ok a) (hr : 2 ≤ a.revision ∧ a.revision ≤ 4)
    (hO : a.computeO P ownerPw userPw = .ok a.ownerValue)
    (hU : a.authUserR4 P fileId userPw = .ok ())
    (hno : okB (a.authUserR4 P fileId (a.recoverUser P userPw)) = false) :
    decodeState P enc fileId (effOwner ownerPw userPw) = decodeState P enc fileId userPw := by
  unfold decodeState
  simp only [ha]
  rw [owner_key_r234 P a fileId ownerPw userPw hr hO hU, user_key_r234 P a fileId userPw hr hno]

theorem authAny_ok_of_user (P : Prims) (a : Alg) (fileId pw : Bytes) (h : a.authUser P fileId pw = .ok ()) :
    a.authAny P fileId pw = .ok () := by
  unfold Alg.authAny
  split
  · rfl
  · exact h

theorem authAny_user_r234 (P : Prims) (a : Alg) (fileId pw : Bytes) (hr : 2 ≤ a.revision ∧ a.revision ≤ 4)
    (hU : a.authUserR4 P fileId pw = .ok ()) : a.authAny P fileId pw = .ok () := by
  apply authAny_ok_of_user
  rw [Alg.authUser, if_pos (by simp [hr.1, hr.2]), hU]

theorem authAny_owner_r234 (P : Prims) (a : Alg) (fileId ownerPw userPw : Bytes)
    (hr : 2 ≤ a.revision ∧ a.revision ≤ 4) (hO : a.computeO P ownerPw userPw = .ok a.ownerValue)
    (hU : a.authUserR4 P fileId userPw = .ok ()) : a.authAny P fileId (effOwner ownerPw userPw) = .ok () := by
  rw [Alg.authAny, Alg.authOwner, if_pos (by simp [hr.1, hr.2]), authOwnerR4_of_user P a _ ownerPw userPw hO hU]

/-- `doc_rt_owner` for R2–R4: on EVERY encrypted document whose O and U entries are those of
Algorithms 3 and 4/5 for an (owner, user) password pair, `decrypt_raw` with the owner password
returns exactly what it returns with the user password — every object, the trailer, or the same
error.  (With `objects_rt` and the correspondence of the user-password path this is the owner half
of the property; before /repo cc32d41 the result was garbage.) -/
theorem doc_rt_owner_r234 (P : Prims) (d : Doc) (enc : Dict) (a : Alg) (ownerPw userPw : Bytes)
    (hd : d.getEncrypted = some enc) (ha : algOfDict enc = .ok a) (hr : 2 ≤ a.revision ∧ a.revision ≤ 4)
    (hO : a.computeO P ownerPw userPw = .ok a.ownerValue)
    (hU : a.authUserR4 P (d.fileId.getD []) userPw = .ok ())
    (hno : okB (a.authUserR4 P (d.fileId.getD []) (a.recoverUser P userPw)) = false) :
    d.decryptRaw P (effOwner ownerPw userPw) = d.decryptRaw P userPw := by
  unfold Doc.decryptRaw
  simp only [hd, ha, authAny_owner_r234 P a _ ownerPw userPw hr hO hU, authAny_user_r234 P a _ userPw hr hU,
    decodeState_owner_eq_user P enc a _ ownerPw userPw ha hr hO hU hno]

theorem witness_owner_r6_ok : wText (wCfg .r5 OWNER USER) OWNER = some SECRET := witness_r6.2

/-- (F-C05-c, repaired in /repo 422f3cc) R5 / R6 passwords of more than 127 bytes: `try_from` now
truncates like every check does, so a 128-byte user and a 200-byte owner password open the document. -/
theorem doc_rt_over127 :
    wText (wCfg .r5 (List.replicate 200 111) (List.replicate 128 117)) (List.replicate 128 117) = some SECRET ∧
    wText (wCfg .r5 (List.replicate 200 111) (List.replicate 128 117)) (List.replicate 200 111) = some SECRET := by
  decide +kernel

/-- … for all primitives and all passwords: creation looks only at the first 127 bytes, exactly like the checks -/
theorem create_r6_truncates (P : Prims) (a : Alg) (key pw salts : Bytes) :
    a.computeU6 P key pw salts = a.computeU6 P key (pw.take R6_PW_MAX) salts ∧
    a.computeO6 P key pw salts = a.computeO6 P key (pw.take R6_PW_MAX) salts := by
  simp [Alg.computeU6, Alg.computeO6, trunc127, List.take_take]

theorem trunc127_take (pw : Bytes) : trunc127 (pw.take R6_PW_MAX) = trunc127 pw := by
  simp [trunc127, List.take_take]

/-- the checks never look beyond byte 127 (for all primitives, all passwords) -/
theorem auth_r6_truncates (P : Prims) (a : Alg) (pw : Bytes) :
    a.authUserR6 P pw = a.authUserR6 P (pw.take R6_PW_MAX) ∧ a.authOwnerR6 P pw = a.authOwnerR6 P (pw.take R6_PW_MAX)
    ∧ a.fileKeyR6 P pw = a.fileKeyR6 P (pw.take R6_PW_MAX) := by
  unfold Alg.authUserR6 Alg.authOwnerR6 Alg.fileKeyR6
  rw [trunc127_take]
  exact ⟨rfl, rfl, rfl⟩

/-! ### (F-C05-b repaired) R ≤ 4 password preparation never changes the password silently -/

/-- "пароль" and "密码" are rejected (they used to collapse to the empty password), and one
unrepresentable character rejects the whole password. -/
theorem sanitize_rejects_non_pdfdoc :
    sanitizeR4 [0x43f, 0x430, 0x440, 0x43e, 0x43b, 0x44c] = none ∧ sanitizeR4 [0x5bc6, 0x7801] = none ∧
    sanitizeR4 [0x70, 0x43f, 0x77] = none ∧ sanitizeR4 [0x70, 0x77, 0xe9] = some [0x70, 0x77, 0xe9] := by decide +kernel

/-- no character is ever dropped: an accepted password keeps its length … -/
theorem sanitize_length (us : List Nat) (bs : Bytes) (h : sanitizeR4 us = some bs) : bs.length = us.length := by
  induction us generalizing bs with
  | nil => simp [sanitizeR4] at h; subst h; rfl
  | cons u rest ih =>
    simp only [sanitizeR4] at h
    split at h
    · rename_i i bs' _ hr
      injection h with h; subst h
      simp [ih bs' hr]
    · cases h

theorem pdfdoc_length : PDF_DOC_ENCODING.length = 256 := by decide +kernel

/-- … and every byte of it is a PDFDocEncoding code of the corresponding character: the prepared
password decodes back to the password given, for every accepted password. -/
theorem sanitize_decodes (us : List Nat) (bs : Bytes) (h : sanitizeR4 us = some bs) :
    bs.map (fun (b : UInt8) => PDF_DOC_ENCODING[b.toNat]?) = us.map (fun u => some (some u)) := by
  induction us generalizing bs with
  | nil => simp [sanitizeR4] at h; subst h; rfl
  | cons u rest ih =>
    simp only [sanitizeR4] at h
    split at h
    · rename_i i bs' hi hr
      injection h with h; subst h
      have hlt : i < PDF_DOC_ENCODING.length := (List.findIdx?_eq_some_iff_getElem.mp hi).1
      have hget := (List.findIdx?_eq_some_iff_getElem.mp hi).2.1
      have h256 : i < 256 := by rw [← pdfdoc_length]; exact hlt
      have hn : i.toUInt8.toNat = i := by simp [Nat.toUInt8, UInt8.toNat_ofNat']; omega
      simp only [List.map_cons, hn, ih bs' hr]
      congr 1
      rw [List.getElem?_eq_getElem hlt]
      simpa using hget
    · cases h

/-- hence two different accepted passwords never collapse into one -/
theorem sanitize_injective (us vs : List Nat) (bs : Bytes) (h1 : sanitizeR4 us = some bs) (h2 : sanitizeR4 vs = some bs) :
    us = vs := by
  have e := (sanitize_decodes us bs h1).symm.trans (sanitize_decodes vs bs h2)
  have inj : ∀ (a b : List Nat), a.map (fun u => some (some u)) = b.map (fun u => some (some u)) → a = b := by
    intro a
    induction a with
    | nil => intro b hb; cases b <;> simp_all
    | cons x xs ih => intro b hb; cases b with
      | nil => simp at hb
      | cons y ys => simp at hb; rw [hb.1, ih ys hb.2]
  exact inj us vs e

end Lopdf.Crypt
