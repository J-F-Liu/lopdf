import LopdfModel.Thm.C11
import LopdfModel.Thm.C12
/-
  C11 — the page-tree `Count` bookkeeping of `delete_pages`
  (`delete_pages_count`), over abstract page trees of any shape and size.
-/
namespace Lopdf.Ed
open Lopdf

mutual
/-- ids of the intermediate (`Pages`) nodes of a tree -/
def nodeIds : PT → List ObjId
  | .page _ => []
  | .pages id ks => id :: nodeIdsL ks
def nodeIdsL : List PT → List ObjId
  | [] => []
  | t :: ts => nodeIds t ++ nodeIdsL ts
end

mutual
def removeLeaf (p : ObjId) : PT → PT
  | .page id => .page id
  | .pages id ks => .pages id (removeLeafL p ks)
def removeLeafL (p : ObjId) : List PT → List PT
  | [] => []
  | .page id :: ts => if id = p then removeLeafL p ts else .page id :: removeLeafL p ts
  | .pages id ks :: ts => .pages id (removeLeafL p ks) :: removeLeafL p ts
end

mutual
/-- the document holds the tree's bookkeeping: every `Pages` node is a dictionary whose `Count` is the number
of leaf pages below it and whose `Parent` is its parent node (`top` for the root) -/
def TreeOK (os : Objects) : Option ObjId → PT → Prop
  | _, .page _ => True
  | top, .pages id ks =>
    (∃ d, os.get id = some (.dict d) ∧ (Dict.get d COUNT).bind Obj.asInt = some ((PT.leavesL ks).length : Int) ∧
      (Dict.get d PARENT).bind Obj.asRef = top) ∧ TreeOKL os (some id) ks
def TreeOKL (os : Objects) : Option ObjId → List PT → Prop
  | _, [] => True
  | top, t :: ts => TreeOK os top t ∧ TreeOKL os top ts
end

/-- `.page p` is a direct child -/
def DirectLeaf (p : ObjId) : List PT → Prop
  | [] => False
  | .page id :: ts => id = p ∨ DirectLeaf p ts
  | .pages _ _ :: ts => DirectLeaf p ts

mutual
/-- `q` is the `Pages` node that has the leaf `p` as a direct child -/
def IsParent (q p : ObjId) : PT → Prop
  | .page _ => False
  | .pages id ks => (id = q ∧ DirectLeaf p ks) ∨ IsParentL q p ks
def IsParentL (q p : ObjId) : List PT → Prop
  | [] => False
  | t :: ts => IsParent q p t ∨ IsParentL q p ts
end

theorem removeLeafL_page (p id : ObjId) (ts : List PT) :
    removeLeafL p (.page id :: ts) = if id = p then removeLeafL p ts else .page id :: removeLeafL p ts := by
  simp only [removeLeafL]
theorem removeLeafL_pages (p id : ObjId) (ks ts : List PT) :
    removeLeafL p (.pages id ks :: ts) = .pages id (removeLeafL p ks) :: removeLeafL p ts := by
  simp only [removeLeafL]

mutual
theorem leaves_removeLeaf (p : ObjId) : ∀ t : PT, (∀ id, t ≠ .page id) → (removeLeaf p t).leaves = t.leaves.filter (fun x => !decide (x = p))
  | .page id, h => absurd rfl (h id)
  | .pages id ks, _ => by simp only [removeLeaf, PT.leaves, leavesL_removeLeafL p ks]
theorem leavesL_removeLeafL (p : ObjId) : ∀ ks : List PT, PT.leavesL (removeLeafL p ks) = (PT.leavesL ks).filter (fun x => !decide (x = p))
  | [] => by simp [removeLeafL, PT.leavesL]
  | t :: ts => by
    have ih := leavesL_removeLeafL p ts
    cases t with
    | page id =>
      rw [removeLeafL_page]
      by_cases h : id = p <;> simp [h, PT.leavesL, PT.leaves, ih]
    | pages id ks =>
      have := leaves_removeLeaf p (.pages id ks) (by simp)
      simp only [removeLeaf] at this
      simp only [removeLeafL_pages, PT.leavesL, this, ih, List.filter_append]
end

theorem filter_of_not_mem {l : List ObjId} {p : ObjId} (hp : p ∉ l) : l.filter (fun x => !decide (x = p)) = l :=
  List.filter_eq_self.mpr fun a ha => by simpa using fun e : a = p => hp (e ▸ ha)

theorem filter_length_of_mem {l : List ObjId} {p : ObjId} (hn : l.Nodup) (hp : p ∈ l) :
    ((l.filter (fun x => !decide (x = p))).length : Int) = (l.length : Int) - 1 := by
  induction l with
  | nil => cases hp
  | cons x xs ih =>
    obtain ⟨hx, hn⟩ := List.nodup_cons.mp hn
    rw [List.filter_cons]
    by_cases e : x = p
    · subst e; simp [filter_of_not_mem hx]
    · have := ih hn ((List.mem_cons.mp hp).resolve_left (Ne.symm e))
      simp only [e, decide_false, Bool.not_false, if_true, List.length_cons]
      omega

mutual
theorem removeLeaf_of_not_mem (p : ObjId) : ∀ t : PT, p ∉ t.leaves → removeLeaf p t = t
  | .page id, _ => rfl
  | .pages id ks, h => by simp only [removeLeaf]; rw [removeLeafL_of_not_mem p ks (by simpa [PT.leaves] using h)]
theorem removeLeafL_of_not_mem (p : ObjId) : ∀ ks : List PT, p ∉ PT.leavesL ks → removeLeafL p ks = ks
  | [], _ => by simp [removeLeafL]
  | t :: ts, h => by
    simp only [PT.leavesL, List.mem_append, not_or] at h
    have ih := removeLeafL_of_not_mem p ts h.2
    cases t with
    | page id =>
      have : ¬ id = p := fun e => h.1 (by simp [PT.leaves, e])
      rw [removeLeafL_page, if_neg this, ih]
    | pages id ks =>
      have := removeLeaf_of_not_mem p (.pages id ks) h.1
      simp only [removeLeaf] at this
      rw [removeLeafL_pages, this, ih]
end

mutual
theorem nodeIds_removeLeaf (p : ObjId) : ∀ t : PT, nodeIds (removeLeaf p t) = nodeIds t
  | .page id => rfl
  | .pages id ks => by simp only [removeLeaf, nodeIds, nodeIdsL_removeLeafL p ks]
theorem nodeIdsL_removeLeafL (p : ObjId) : ∀ ks : List PT, nodeIdsL (removeLeafL p ks) = nodeIdsL ks
  | [] => by simp [removeLeafL]
  | t :: ts => by
    have ih := nodeIdsL_removeLeafL p ts
    cases t with
    | page id => rw [removeLeafL_page]; split <;> simp [nodeIdsL, nodeIds, ih]
    | pages id ks =>
      have := nodeIds_removeLeaf p (.pages id ks)
      simp only [removeLeaf] at this
      simp only [removeLeafL_pages, nodeIdsL, this, ih]
end

/-- at `x`, a dictionary stays a dictionary with distinct keys and the same entries under the keys `L`: all that the
page-tree predicates ask of a step (`TreeOK` reads `Count` and `Parent`, `Shape` reads `Type`, `Kids` and `Parent`) -/
def KeepsKeys (L : List Bytes) (os os' : Objects) (x : ObjId) : Prop :=
  ∀ nd, os.get x = some (.dict nd) → ∃ nd', os'.get x = some (.dict nd') ∧ (DictL.NoDup nd → DictL.NoDup nd') ∧
    ∀ key ∈ L, Dict.get nd' key = Dict.get nd key

theorem keepsKeys_of_eq (L : List Bytes) {os os' : Objects} {x : ObjId} (h : os'.get x = os.get x) :
    KeepsKeys L os os' x := fun nd hg => ⟨nd, h ▸ hg, id, fun _ _ => rfl⟩

mutual
theorem treeOK_keeps (os os' : Objects) : ∀ (t : PT) (top : Option ObjId), TreeOK os top t →
    (∀ x ∈ nodeIds t, KeepsKeys [COUNT, PARENT] os os' x) → TreeOK os' top t
  | .page _, _, _, _ => trivial
  | .pages id ks, top, h, hf => by
    obtain ⟨⟨d, h1, h2, h3⟩, h4⟩ := h
    obtain ⟨d', e', _, g⟩ := hf id List.mem_cons_self d h1
    exact ⟨⟨d', e', by rw [g COUNT (.head _)]; exact h2, by rw [g PARENT (.tail _ (.head _))]; exact h3⟩,
      treeOKL_keeps os os' ks (some id) h4 (fun x hx => hf x (List.mem_cons_of_mem _ hx))⟩
theorem treeOKL_keeps (os os' : Objects) : ∀ (ks : List PT) (top : Option ObjId), TreeOKL os top ks →
    (∀ x ∈ nodeIdsL ks, KeepsKeys [COUNT, PARENT] os os' x) → TreeOKL os' top ks
  | [], _, _, _ => trivial
  | t :: ts, top, h, hf =>
    ⟨treeOK_keeps os os' t top h.1 (fun x hx => hf x (List.mem_append_left _ hx)),
     treeOKL_keeps os os' ts top h.2 (fun x hx => hf x (List.mem_append_right _ hx))⟩
end

theorem directLeaf_mem (p : ObjId) : ∀ ks : List PT, DirectLeaf p ks → p ∈ PT.leavesL ks
  | [], h => by cases h
  | t :: ts, h => by
    simp only [PT.leavesL, List.mem_append]
    cases t with
    | page id => exact h.imp (fun e => by simp [PT.leaves, e]) (directLeaf_mem p ts)
    | pages id ks => exact Or.inr (directLeaf_mem p ts h)

mutual
theorem isParent_mem (q p : ObjId) : ∀ t : PT, IsParent q p t → p ∈ t.leaves
  | .page _, h => by cases h
  | .pages id ks, h => by
    simp only [IsParent] at h
    simp only [PT.leaves]
    rcases h with h | h
    · exact directLeaf_mem p ks h.2
    · exact isParentL_mem q p ks h
theorem isParentL_mem (q p : ObjId) : ∀ ks : List PT, IsParentL q p ks → p ∈ PT.leavesL ks
  | [], h => by cases h
  | t :: ts, h => by
    simp only [IsParentL] at h
    simp only [PT.leavesL, List.mem_append]
    rcases h with h | h
    · exact Or.inl (isParent_mem q p t h)
    · exact Or.inr (isParentL_mem q p ts h)
end

theorem count_ne_parent : ¬ (COUNT = PARENT) := by decide

/-- one iteration of the `while let Ok(page_tree_id) = page_tree_ref` loop on a well-kept node -/
theorem decCounts_step (seen : List ObjId) (os : Objects) (id : ObjId) (d : Dict) (c : Int) (top : Option ObjId)
    (h1 : os.get id = some (.dict d)) (h2 : (Dict.get d COUNT).bind Obj.asInt = some c)
    (h3 : (Dict.get d PARENT).bind Obj.asRef = top) (hs : id ∉ seen) :
    decCounts os seen (some id) = decCounts (os.set id (.dict (Dict.set d COUNT (.int (c - 1))))) (id :: seen) top := by
  rw [decCounts_dict os seen id d (by simpa using hs) h1]
  simp only [decCount, h2]
  rw [Dict.get_set]; simp only [count_ne_parent, if_false, h3]

theorem leaves_sub_leavesL {t : PT} {ks : List PT} (h : t ∈ ks) : ∀ x ∈ t.leaves, x ∈ PT.leavesL ks := by
  induction ks with
  | nil => cases h
  | cons y ys ih =>
    intro x hx
    simp only [PT.leavesL, List.mem_append]
    rcases List.mem_cons.mp h with rfl | h
    · exact Or.inl hx
    · exact Or.inr (ih h x hx)

theorem direct_not_deep (p : ObjId) : ∀ ks : List PT, DirectLeaf p ks → (PT.leavesL ks).Nodup →
    ∀ m ∈ ks, ∀ id ks2, m = .pages id ks2 → p ∉ PT.leavesL ks2
  | [], h, _, _, _, _, _, _ => by cases h
  | t :: ts, h, hn, m, hm, id, ks2, e => by
    obtain ⟨_, hnts, hdisj⟩ := List.nodup_append.mp (by simpa only [PT.leavesL] using hn)
    have tail : DirectLeaf p ts → m ∈ ts → p ∉ PT.leavesL ks2 := fun h hm =>
      direct_not_deep p ts h hnts m hm id ks2 e
    subst e
    cases t with
    | page id0 =>
      have hm' : PT.pages id ks2 ∈ ts := (List.mem_cons.mp hm).resolve_left (by simp)
      rcases h with rfl | h
      · exact fun hp => hdisj id0 (by simp [PT.leaves]) id0 (leaves_sub_leavesL hm' _ hp) rfl
      · exact tail h hm'
    | pages id0 ks0 =>
      rcases List.mem_cons.mp hm with e | hm'
      · cases e
        exact fun hp => hdisj p hp p (directLeaf_mem p ts h) rfl
      · exact tail h hm'

theorem treeOKL_remove_shallow (os : Objects) (top : Option ObjId) (p : ObjId) : ∀ ks : List PT, TreeOKL os top ks →
    (∀ m ∈ ks, ∀ id ks2, m = .pages id ks2 → p ∉ PT.leavesL ks2) → TreeOKL os top (removeLeafL p ks)
  | [], _, _ => by simp [removeLeafL, TreeOKL]
  | t :: ts, h, hs => by
    have ih := treeOKL_remove_shallow os top p ts h.2 (fun m hm => hs m (List.mem_cons_of_mem _ hm))
    cases t with
    | page id =>
      rw [removeLeafL_page]; split
      · exact ih
      · exact ⟨trivial, ih⟩
    | pages id ks2 =>
      rw [removeLeafL_pages, removeLeafL_of_not_mem p ks2 (hs _ List.mem_cons_self id ks2 rfl)]
      exact ⟨h.1, ih⟩

mutual
/-- walking `Parent` from the node that held the deleted leaf up to (and out of) the subtree `t` decrements
exactly the `Count`s on that path, which is what the tree without the leaf needs -/
theorem walk_node (p q : ObjId) : ∀ (t : PT) (top : Option ObjId) (os : Objects),
    ∀ (seen : List ObjId), IsParent q p t → (nodeIds t).Nodup → t.leaves.Nodup → TreeOK os top t →
    (∀ x ∈ nodeIds t, x ∉ seen) →
    ∃ osn seen', (∀ x ∈ seen', x ∈ seen ∨ x ∈ nodeIds t) ∧ decCounts os seen (some q) = decCounts osn seen' top ∧
      TreeOK osn top (removeLeaf p t) ∧ (∀ x, x ∉ nodeIds t → osn.get x = os.get x)
  | .page _, _, _, _, h, _, _, _, _ => by cases h
  | .pages id ks, top, os, seen, hpar, hnd, hlv, hok, hseen => by
    simp only [TreeOK] at hok
    obtain ⟨⟨d, h1, h2, h3⟩, hkids⟩ := hok
    simp only [nodeIds, List.nodup_cons] at hnd
    simp only [PT.leaves] at hlv
    have hpmem : p ∈ PT.leavesL ks := by simpa [PT.leaves] using isParent_mem q p (.pages id ks) hpar
    have hcount : ((PT.leavesL (removeLeafL p ks)).length : Int) = ((PT.leavesL ks).length : Int) - 1 := by
      rw [leavesL_removeLeafL]; exact filter_length_of_mem hlv hpmem
    simp only [IsParent] at hpar
    -- below the node: nothing to do when it lists the leaf itself, the walk through the children otherwise
    have kids : ∃ osn1 seen1, (∀ x ∈ seen1, x ∈ seen ∨ x ∈ nodeIdsL ks) ∧
        decCounts os seen (some q) = decCounts osn1 seen1 (some id) ∧
        TreeOKL osn1 (some id) (removeLeafL p ks) ∧ ∀ x, x ∉ nodeIdsL ks → osn1.get x = os.get x := by
      rcases hpar with ⟨rfl, hdl⟩ | hdeep
      · exact ⟨os, seen, fun x hx => Or.inl hx, rfl,
          treeOKL_remove_shallow os (some id) p ks hkids (direct_not_deep p ks hdl hlv), fun _ _ => rfl⟩
      · exact walk_list p q ks (some id) os seen hdeep hnd.2 hlv hkids (fun x hx => hseen x (by simp [nodeIds, hx]))
    obtain ⟨osn1, seen1, wk, w1, w2, w3⟩ := kids
    have hid1 : osn1.get id = some (.dict d) := by rw [w3 id hnd.1]; exact h1
    have hidns : id ∉ seen1 := fun hm => (wk id hm).elim (hseen id (by simp [nodeIds])) hnd.1
    refine ⟨osn1.set id (.dict (Dict.set d COUNT (.int (((PT.leavesL ks).length : Int) - 1)))), id :: seen1, ?_, ?_, ?_, ?_⟩
    · intro x hx; rcases List.mem_cons.mp hx with rfl | hx
      · exact Or.inr (by simp [nodeIds])
      · exact (wk x hx).imp (fun h => h) fun h => by simp [nodeIds, h]
    · rw [w1]
      exact decCounts_step seen1 osn1 id d _ top hid1 h2 h3 hidns
    · refine ⟨⟨Dict.set d COUNT (.int (((PT.leavesL ks).length : Int) - 1)), ?_, ?_, ?_⟩, ?_⟩
      · rw [Objects.get_set, if_pos rfl, hid1]; rfl
      · rw [Dict.get_set_same, hcount]; rfl
      · rw [Dict.get_set_ne _ _ _ _ count_ne_parent]; exact h3
      · refine treeOKL_keeps osn1 _ _ _ w2 fun x hx => keepsKeys_of_eq _ ?_
        rw [nodeIdsL_removeLeafL] at hx
        rw [Objects.get_set, if_neg fun e : id = x => hnd.1 (e ▸ hx)]
    · intro x hx
      simp only [nodeIds, List.mem_cons, not_or] at hx
      rw [Objects.get_set, if_neg fun e : id = x => hx.1 e.symm]; exact w3 x hx.2
theorem walk_list (p q : ObjId) : ∀ (ks : List PT) (top : Option ObjId) (os : Objects),
    ∀ (seen : List ObjId), IsParentL q p ks → (nodeIdsL ks).Nodup → (PT.leavesL ks).Nodup → TreeOKL os top ks →
    (∀ x ∈ nodeIdsL ks, x ∉ seen) →
    ∃ osn seen', (∀ x ∈ seen', x ∈ seen ∨ x ∈ nodeIdsL ks) ∧ decCounts os seen (some q) = decCounts osn seen' top ∧
      TreeOKL osn top (removeLeafL p ks) ∧ (∀ x, x ∉ nodeIdsL ks → osn.get x = os.get x)
  | [], _, _, _, h, _, _, _, _ => by cases h
  | t :: ts, top, os, seen, hpar, hnd, hlv, hok, hseen => by
    simp only [TreeOKL] at hok
    simp only [nodeIdsL] at hnd
    simp only [PT.leavesL] at hlv
    have hnd' := List.nodup_append.mp hnd
    have hlv' := List.nodup_append.mp hlv
    simp only [IsParentL] at hpar
    rcases hpar with hhead | htail
    · obtain ⟨osn, k, wk, w1, w2, w3⟩ := walk_node p q t top os seen hhead hnd'.1 hlv'.1 hok.1
        (fun x hx => hseen x (by simp [nodeIdsL, hx]))
      have hpt : p ∈ t.leaves := isParent_mem q p t hhead
      have hpts : p ∉ PT.leavesL ts := fun h => hlv'.2.2 p hpt p h rfl
      refine ⟨osn, k, fun x hx => (wk x hx).imp id (fun h => by simp [nodeIdsL, h]), w1, ?_, ?_⟩
      · have hts : TreeOKL osn top ts := treeOKL_keeps os osn ts top hok.2
          (fun x hx => keepsKeys_of_eq _ (w3 x (fun hx' => hnd'.2.2 x hx' x hx rfl)))
        cases t with
        | page id => cases hhead
        | pages id ks2 =>
          simp only [removeLeafL, TreeOKL]
          rw [removeLeafL_of_not_mem p ts hpts]
          exact ⟨by simpa [removeLeaf] using w2, hts⟩
      · intro x hx
        simp only [nodeIdsL, List.mem_append, not_or] at hx
        exact w3 x hx.1
    · obtain ⟨osn, k, wk, w1, w2, w3⟩ := walk_list p q ts top os seen htail hnd'.2.1 hlv'.2.1 hok.2
        (fun x hx => hseen x (by simp [nodeIdsL, hx]))
      have hpts : p ∈ PT.leavesL ts := isParentL_mem q p ts htail
      have hpt : p ∉ t.leaves := fun h => hlv'.2.2 p h p hpts rfl
      have ht : TreeOK osn top t := treeOK_keeps os osn t top hok.1
        (fun x hx => keepsKeys_of_eq _ (w3 x (fun hx' => hnd'.2.2 x hx x hx' rfl)))
      refine ⟨osn, k, fun x hx => (wk x hx).imp id (fun h => by simp [nodeIdsL, h]), w1, ?_, ?_⟩
      · cases t with
        | page id =>
          have : ¬ id = p := fun e => hpt (by simp [PT.leaves, e])
          simp only [removeLeafL, this, if_false, TreeOKL]; exact ⟨trivial, w2⟩
        | pages id ks2 =>
          simp only [removeLeafL, TreeOKL]
          rw [removeLeafL_of_not_mem p ks2 (by simpa [PT.leaves] using hpt)]
          exact ⟨ht, w2⟩
      · intro x hx
        simp only [nodeIdsL, List.mem_append, not_or] at hx
        exact w3 x hx.2
end

theorem nodup_subset_length {l m : List ObjId} (hn : l.Nodup) (hs : ∀ x ∈ l, x ∈ m) : l.length ≤ m.length := by
  induction l generalizing m with
  | nil => simp
  | cons x xs ih =>
    simp only [List.nodup_cons] at hn
    have hx : x ∈ m := hs x (by simp)
    have := ih (m := m.erase x) hn.2 (fun y hy => by
      have hne : y ≠ x := fun e => hn.1 (e ▸ hy)
      exact (List.mem_erase_of_ne hne).mpr (hs y (by simp [hy])))
    rw [List.length_erase_of_mem hx] at this
    have hpos : 0 < m.length := List.length_pos_of_mem hx
    simp only [List.length_cons]; omega

mutual
theorem treeOK_nodes_keys (os : Objects) : ∀ (t : PT) (top : Option ObjId), TreeOK os top t → ∀ x ∈ nodeIds t, x ∈ os.keys
  | .page _, _, _, x, hx => by simp [nodeIds] at hx
  | .pages id ks, top, h, x, hx => by
    simp only [TreeOK] at h
    obtain ⟨⟨d, h1, _, _⟩, h4⟩ := h
    simp only [nodeIds, List.mem_cons] at hx
    rcases hx with rfl | hx
    · exact Objects.mem_keys_of_get h1
    · exact treeOKL_nodes_keys os ks (some id) h4 x hx
theorem treeOKL_nodes_keys (os : Objects) : ∀ (ks : List PT) (top : Option ObjId), TreeOKL os top ks → ∀ x ∈ nodeIdsL ks, x ∈ os.keys
  | [], _, _, x, hx => by simp [nodeIdsL] at hx
  | t :: ts, top, h, x, hx => by
    simp only [TreeOKL] at h
    simp only [nodeIdsL, List.mem_append] at hx
    rcases hx with hx | hx
    · exact treeOK_nodes_keys os t top h.1 x hx
    · exact treeOKL_nodes_keys os ts top h.2 x hx
end

/-- **C11, delete_pages_count.**  Let the document hold a page tree `t` with exact bookkeeping (`TreeOK`:
every `Pages` node's `Count` = number of leaf pages below it, `Parent` = its parent; the root has no
`Parent` reference), pairwise distinct node ids and no page listed twice, and let `q` be the node that had
the leaf `p` as a direct child.  Then the `Parent` walk of `delete_pages` (which since the fix of F-C11-c
stops at an ancestor it has seen before, and so always returns) leaves the bookkeeping exact for the tree
WITHOUT `p`: on the path from `q` to the root every `Count` went down by one, every other object is untouched. -/
theorem delete_pages_count (p q : ObjId) (t : PT) (os : Objects)
    (hpar : IsParent q p t) (hnd : (nodeIds t).Nodup) (hlv : t.leaves.Nodup) (hok : TreeOK os none t) :
    TreeOK (decCounts os [] (some q)) none (removeLeaf p t) ∧
      (∀ x, x ∉ nodeIds t → (decCounts os [] (some q)).get x = os.get x) := by
  obtain ⟨osn, seen', _, w1, w2, w3⟩ := walk_node p q t none os [] hpar hnd hlv hok (by simp)
  rw [w1, decCounts_none]
  exact ⟨w2, w3⟩

/- non-vacuity: a two-level tree with exact counts -/
example : TreeOK [((1,0), .dict [(COUNT, .int 2)]), ((2,0), .dict [(COUNT, .int 1), (PARENT, .ref 1 0)])] none
    (.pages (1,0) [.page (5,0), .pages (2,0) [.page (6,0)]]) ∧
    IsParent (2,0) (6,0) (.pages (1,0) [.page (5,0), .pages (2,0) [.page (6,0)]]) := by
  exact ⟨⟨⟨_, rfl, rfl, rfl⟩, trivial, ⟨⟨_, rfl, rfl, rfl⟩, trivial, trivial⟩, trivial⟩,
    Or.inr (Or.inr (Or.inl (Or.inl ⟨rfl, Or.inl rfl⟩)))⟩


open Lopdf.DictL

/-- content edits, with the dictionary hypothesis discharged: for a stream dictionary with pairwise
distinct keys (every `IndexMap`) `set_plain_content` really leaves no `Filter` key -/
theorem change_content_decodes_nodup (inflate : Bytes → Option Bytes) (deflate : Bytes → Bytes)
    (hcodec : ∀ x, inflate (deflate x) = some x) (dict : Dict) (hn : NoDup dict) (c : Bytes) :
    decodeStream inflate (plainThenCompress (deflate c) dict c) = some c :=
  change_content_decodes inflate deflate hcodec dict c (Dict.get_remove_same (Dict.nodup_remove hn _) _)

theorem get_deep_del (p : ObjId) (nd : Dict) (hn : NoDup nd) (key : Bytes) (v : Obj)
    (hv : Dict.get nd key = some v) (hnr : isRefTo p v = false) :
    ∃ nd', deepObj (delAct p) (.dict nd) = .dict nd' ∧ Dict.get nd' key = some (deepObj (delAct p) v) :=
  ⟨_, deep_del_dict p nd, get_delDict_of_get p nd hn hv hnr⟩

theorem deep_del_int (p : ObjId) (i : Int) : deepObj (delAct p) (.int i) = .int i := by
  rw [deepObj_mapKids]; rfl

theorem delDict_parent (p : ObjId) (nd : Dict) (hn : NoDup nd) (top : Option ObjId) (htop : top ≠ some p)
    (hp : (Dict.get nd PARENT).bind Obj.asRef = top) : (Dict.get (delDict p nd) PARENT).bind Obj.asRef = top := by
  rw [delDict_asRef p nd hn, hp]
  cases top with
  | none => rfl
  | some q => simp [Option.filter, show q ≠ p from fun e => htop (e ▸ rfl)]

/-- the dictionaries of the tree's `Pages` nodes have pairwise distinct keys (every `IndexMap`) -/
def NodesNoDup (os : Objects) (ids : List ObjId) : Prop := ∀ id ∈ ids, ∀ nd, os.get id = some (.dict nd) → NoDup nd

mutual
/-- `delete_object(p)` for a leaf page `p` leaves the tree's bookkeeping (`Count`, `Parent`) as it was -/
theorem treeOK_delete (d : Doc) (p : ObjId) : ∀ (t : PT) (top : Option ObjId),
    TreeOK d.objects top t → top ≠ some p → p ∉ nodeIds t → NodesNoDup d.objects (nodeIds t) →
    TreeOK (deleteObject d p).1.objects top t
  | .page _, _, _, _, _, _ => trivial
  | .pages id ks, top, h, htop, hp, hnd => by
    simp only [TreeOK] at h ⊢
    obtain ⟨⟨nd, h1, h2, h3⟩, h4⟩ := h
    simp only [nodeIds, List.mem_cons, not_or] at hp
    have hne : id ≠ p := fun e => hp.1 e.symm
    have hnn : NoDup nd := hnd id (by simp [nodeIds]) nd h1
    refine ⟨?_, treeOKL_delete d p ks (some id) h4 (by simp; exact hne) hp.2
      (fun x hx => hnd x (by simp [nodeIds, hx]))⟩
    rw [(delete_effect d p).2.2 id hne, h1]
    split
    · exact ⟨delDict p nd, by rw [Option.map_some, deep_del_dict], by rw [delDict_asInt p nd hnn, h2],
        delDict_parent p nd hnn top htop h3⟩
    · exact ⟨nd, rfl, h2, h3⟩
theorem treeOKL_delete (d : Doc) (p : ObjId) : ∀ (ks : List PT) (top : Option ObjId),
    TreeOKL d.objects top ks → top ≠ some p → p ∉ nodeIdsL ks → NodesNoDup d.objects (nodeIdsL ks) →
    TreeOKL (deleteObject d p).1.objects top ks
  | [], _, _, _, _, _ => trivial
  | t :: ts, top, h, htop, hp, hnd => by
    simp only [TreeOKL] at h ⊢
    simp only [nodeIdsL, List.mem_append, not_or] at hp
    exact ⟨treeOK_delete d p t top h.1 htop hp.1 (fun x hx => hnd x (by simp [nodeIdsL, hx])),
           treeOKL_delete d p ts top h.2 htop hp.2 (fun x hx => hnd x (by simp [nodeIdsL, hx]))⟩
end

theorem deletePage1_eq (d : Doc) (pages : List ObjId) (n : Nat) (p q : ObjId) (pd : Dict)
    (hn0 : n ≠ 0) (hpg : pages[n - 1]? = some p)
    (hpo : d.objects.get p = some (.dict pd)) (hpdn : NoDup pd)
    (hpp : (Dict.get pd PARENT).bind Obj.asRef = some q) (hqp : q ≠ p) :
    deletePage1 pages d n =
      { (deleteObject d p).1 with objects := decCounts (deleteObject d p).1.objects [] (some q) } := by
  have hret : ∃ pd', (deleteObject d p).2 = some (.dict pd') ∧ (Dict.get pd' PARENT).bind Obj.asRef = some q := by
    have hv := (traverse_visits_once (delAct p) (stripDict p d.trailer) d.objects).2.2 p
    simp only [deleteObject]
    rw [hv, hpo]
    split
    · exact ⟨delDict p pd, by rw [Option.map_some, deep_del_dict], delDict_parent p pd hpdn (some q) (by simp; exact hqp) hpp⟩
    · exact ⟨pd, rfl, hpp⟩
  obtain ⟨pd', hr1, hr2⟩ := hret
  unfold deletePage1
  simp only [hn0, if_false, hpg]
  cases hdo : deleteObject d p with
  | mk d1 ro =>
    rw [hdo] at hr1
    simp only at hr1
    subst hr1
    simp only [Obj.asDict, Option.bind_some, hr2]

/-- **C11, `delete_pages` on one page: the `Count` bookkeeping end to end.**  The document holds a page
tree `t` with exact bookkeeping, distinct node ids, no page listed twice; page number `n` of the page list
is the leaf `p`, a dictionary whose `Parent` is the node `q` that has it as a direct child; node and page
dictionaries have distinct keys.  Then after `delete_pages(&[n])`'s iteration the page object is gone,
and the bookkeeping is exact for the tree without `p`. -/
theorem deletePage1_count (d : Doc) (pages : List ObjId) (n : Nat) (p q : ObjId) (t : PT) (pd : Dict)
    (hn0 : n ≠ 0) (hpg : pages[n - 1]? = some p)
    (hok : TreeOK d.objects none t) (hpar : IsParent q p t) (hnd : (nodeIds t).Nodup) (hlv : t.leaves.Nodup)
    (hpn : p ∉ nodeIds t) (hdup : NodesNoDup d.objects (nodeIds t))
    (hpo : d.objects.get p = some (.dict pd)) (hpdn : NoDup pd)
    (hpp : (Dict.get pd PARENT).bind Obj.asRef = some q) (hqp : q ≠ p) :
    (deletePage1 pages d n).objects.get p = none ∧ TreeOK (deletePage1 pages d n).objects none (removeLeaf p t) := by
  have hD := treeOK_delete d p t none hok (by simp) hpn hdup
  obtain ⟨w2, w3⟩ := delete_pages_count p q t (deleteObject d p).1.objects hpar hnd hlv hD
  rw [deletePage1_eq d pages n p q pd hn0 hpg hpo hpdn hpp hqp]
  refine ⟨?_, w2⟩
  simp only
  rw [w3 p hpn]
  exact (delete_effect d p).1

end Lopdf.Ed
