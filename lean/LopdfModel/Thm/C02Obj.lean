import LopdfModel.Thm.C02
import LopdfModel.Thm.C02Space
import LopdfModel.Thm.C02Num
import LopdfModel.Thm.C02Lit
/-
  C02 — from tokens to direct objects: the order of the alternatives in `_direct_objects`
  (null, true, false, reference, real, integer, name, literal string, hexadecimal string, array,
  dictionary) never shadows a legal spelling.  For every spelling of an atomic object the
  alternatives tried earlier fail and the right one reads the denoted value; references
  `n g R` with any white space / comments between the parts are read as references.
-/
namespace Lopdf.Grammar
open Lopdf Gen

theorem tag_none {k : UInt8} {ks inp : Bytes} (h : Ahead (· ≠ k) inp) : tag (k :: ks) inp = none := by
  cases inp with
  | nil => rfl
  | cons c r => simp [tag, Ne.symm (h c r rfl)]

theorem pReference_none {inp : Bytes} (h : NoDigitAhead inp) : pReference inp = none := by
  rw [pReference, ObjRt.pUnsigned_none _ _ h]; rfl

theorem pInteger_none {inp : Bytes} (h : Ahead (fun c => isDigit c = false ∧ c ≠ 43 ∧ c ≠ 45) inp) :
    pInteger inp = none := by
  unfold pInteger
  split
  · exact absurd rfl (h _ _ rfl).2.1
  · exact absurd rfl (h _ _ rfl).2.2
  · rw [ObjRt.digit1_none (h.mono fun _ hc => hc.1)]; rfl

theorem pReal_none {inp : Bytes} (h : Ahead (fun c => isDigit c = false ∧ c ≠ 43 ∧ c ≠ 45 ∧ c ≠ 46) inp) :
    pReal inp = none := by
  rw [pReal_eq, optSign_none inp (h.mono fun _ hc => ⟨hc.2.1, hc.2.2.1⟩)]
  exact realTail_none [] [] inp (fun _ hb => nomatch hb) (h.mono fun _ hc => hc.1)
    (fun r e => (h 46 r e).2.2.2 rfl)

/-- the alternatives before `name` / `literal_string` / `hexadecimal_string` fail on a byte that
starts none of null, true, false, a number -/
def NotKwNum (c : UInt8) : Prop :=
  c ≠ 110 ∧ c ≠ 116 ∧ c ≠ 102 ∧ isDigit c = false ∧ c ≠ 43 ∧ c ≠ 45 ∧ c ≠ 46

theorem early_alts_fail {inp : Bytes} (h : Ahead NotKwNum inp) :
    tag NULL_KW inp = none ∧ tag TRUE_KW inp = none ∧ tag FALSE_KW inp = none ∧
    pReference inp = none ∧ pReal inp = none ∧ pInteger inp = none :=
  ⟨tag_none (h.mono fun _ hc => hc.1), tag_none (h.mono fun _ hc => hc.2.1),
    tag_none (h.mono fun _ hc => hc.2.2.1), pReference_none (h.mono fun _ hc => hc.2.2.2.1),
    pReal_none (h.mono fun _ hc => hc.2.2.2), pInteger_none (h.mono fun _ hc => ⟨hc.2.2.2.1, hc.2.2.2.2.1, hc.2.2.2.2.2.1⟩)⟩

theorem pName_none {inp : Bytes} (h : Ahead (· ≠ 47) inp) : pName inp = none := by
  unfold pName
  split
  · exact absurd rfl (h _ _ rfl)
  · rfl

theorem pLiteral_none {inp : Bytes} (h : Ahead (· ≠ 40) inp) : pLiteral inp = none := by
  unfold pLiteral
  split
  · exact absurd rfl (h _ _ rfl)
  · rfl

/-- **Names as direct objects, every spelling.** -/
theorem direct_name_complete (n bs rest : Bytes) (fuel depth : Nat) (h : DerivesName n bs)
    (hs : NameStop rest) :
    directObjects (fuel + 1) depth (47 :: bs ++ rest) = .ok (.name n) rest := by
  obtain ⟨a1, a2, a3, a4, a5, a6⟩ := early_alts_fail (inp := 47 :: bs ++ rest) (ahead_cons (by unfold NotKwNum; decide))
  have hn := name_complete n bs rest h hs
  unfold directObjects; simp only [a1, a2, a3, a4, a5, a6, hn]

/-- **Literal strings as direct objects, every spelling.** -/
theorem direct_lit_complete (s bs rest : Bytes) (fuel depth : Nat) (h : DerivesLit MAX_BRACKET s bs) :
    directObjects (fuel + 1) depth (40 :: bs ++ 41 :: rest) = .ok (.str s .lit) rest := by
  obtain ⟨a1, a2, a3, a4, a5, a6⟩ := early_alts_fail (inp := 40 :: bs ++ 41 :: rest) (ahead_cons (by unfold NotKwNum; decide))
  have hl := lit_complete s bs rest h
  unfold directObjects
  simp only [a1, a2, a3, a4, a5, a6, hl, pName_none (inp := 40 :: bs ++ 41 :: rest) (ahead_cons (by decide))]

/-- **Hexadecimal strings as direct objects, every spelling.** -/
theorem direct_hex_complete (s bs rest : Bytes) (fuel depth : Nat) (h : DerivesHex s bs) :
    directObjects (fuel + 1) depth (60 :: bs ++ 62 :: rest) = .ok (.str s .hex) rest := by
  obtain ⟨a1, a2, a3, a4, a5, a6⟩ := early_alts_fail (inp := 60 :: bs ++ 62 :: rest) (ahead_cons (by unfold NotKwNum; decide))
  have hh := hexstr_complete s bs rest h
  unfold directObjects
  simp only [a1, a2, a3, a4, a5, a6, hh, pName_none (inp := 60 :: bs ++ 62 :: rest) (ahead_cons (by decide)),
    pLiteral_none (inp := 60 :: bs ++ 62 :: rest) (ahead_cons (by decide))]

/-- first byte of the spelling of a number -/
def NumHead (c : UInt8) : Prop := isDigit c = true ∨ c = 43 ∨ c = 45 ∨ c = 46

theorem int_starts {i : Int} {bs : Bytes} (h : DerivesInt i bs) : Starts NumHead bs := by
  cases h with
  | unsigned n _ hd hn => exact (nat_starts hd).mono fun _ => Or.inl
  | plus n ds hd hn => exact starts_cons (Or.inr (Or.inl rfl))
  | minus n ds hd hn => exact starts_cons (Or.inr (Or.inr (Or.inl rfl)))

theorem real_starts {bs : Bytes} (h : DerivesReal bs) : Starts NumHead bs := by
  cases h with
  | mk sign d1 d2 hs h1 h2 hne =>
    cases hs with
    | plus => exact starts_cons (Or.inr (Or.inl rfl))
    | minus => exact starts_cons (Or.inr (Or.inr (Or.inl rfl)))
    | none =>
      cases d1 with
      | nil => exact starts_cons (Or.inr (Or.inr (Or.inr rfl)))
      | cons a as => exact starts_cons (Or.inl (h1 a (by simp)))

theorem kw_fail_numhead {inp : Bytes} (h : Starts NumHead inp) :
    tag NULL_KW inp = none ∧ tag TRUE_KW inp = none ∧ tag FALSE_KW inp = none := by
  have : Ahead (fun c => c ≠ 110 ∧ c ≠ 116 ∧ c ≠ 102) inp := h.ahead fun c hc => by
    rcases hc with hc | rfl | rfl | rfl
    · exact ⟨ne_of_class hc (by decide), ne_of_class hc (by decide), ne_of_class hc (by decide)⟩
    all_goals decide
  exact ⟨tag_none (this.mono fun _ hc => hc.1), tag_none (this.mono fun _ hc => hc.2.1),
    tag_none (this.mono fun _ hc => hc.2.2)⟩

theorem pReference_nat {n : Nat} {ds : Bytes} (hd : DerivesNat n ds) (rest : Bytes) (hr : NoDigitAhead rest)
    (hsp : NoDigitAhead (space rest)) : pReference (ds ++ rest) = none := by
  rw [pReference, unsigned_eq hd _ rest hr]
  split
  · simp [ObjRt.pUnsigned_none U16_MAX (space rest) hsp]
  · rfl

theorem pReference_real (bs rest : Bytes) (h : DerivesReal bs) : pReference (bs ++ rest) = none := by
  cases h with
  | mk sign d1 d2 hs h1 h2 hne =>
    cases hs with
    | plus => exact pReference_none (ahead_cons (by decide))
    | minus => exact pReference_none (ahead_cons (by decide))
    | none =>
      cases d1 with
      | nil => exact pReference_none (ahead_cons (by decide))
      | cons a as =>
        -- the digits before the point are read as the object number; the point is no generation
        have e : [] ++ (a :: as) ++ [46] ++ d2 ++ rest = (a :: as) ++ 46 :: (d2 ++ rest) := by simp
        have hst : space (46 :: (d2 ++ rest)) = 46 :: (d2 ++ rest) := ObjRt.space_stop _ (ahead_cons (by decide))
        rw [e]
        exact pReference_nat (derivesNat_of_digits as.length (a :: as) rfl h1) _ (ahead_cons (by decide))
          (hst ▸ ahead_cons (by decide))

/-- **Reals as direct objects, every spelling.** -/
theorem direct_real_complete (bs rest : Bytes) (fuel depth : Nat) (h : DerivesReal bs)
    (hr : NoDigitAhead rest) :
    directObjects (fuel + 1) depth (bs ++ rest) = .ok (.real bs) rest := by
  obtain ⟨a1, a2, a3⟩ := kw_fail_numhead ((real_starts h).append rest)
  unfold directObjects; simp only [a1, a2, a3, pReference_real bs rest h, real_complete bs rest h hr]

/-- what may follow an integer for it to stand alone: no digit, no decimal point, and — after
white space and comments — no digit either (`12 0 R` is a reference, `12 0` followed by
anything else are two integers: that case is not covered here) -/
def IntStop (rest : Bytes) : Prop :=
  NoDigitAhead rest ∧ (∀ r, rest ≠ 46 :: r) ∧ NoDigitAhead (space rest)

theorem pReal_int (i : Int) (bs rest : Bytes) (h : DerivesInt i bs) (hr : NoDigitAhead rest)
    (hdot : ∀ r, rest ≠ 46 :: r) : pReal (bs ++ rest) = none := by
  rw [pReal_eq]
  cases h with
  | unsigned n _ hd hn =>
    rw [optSign_none _ (((nat_starts hd).append rest).ahead fun _ => digit_not_sign)]
    exact realTail_none [] bs rest (derivesNat_facts hd).2.1 hr hdot
  | plus n ds hd hn => exact realTail_none [43] ds rest (derivesNat_facts hd).2.1 hr hdot
  | minus n ds hd hn => exact realTail_none [45] ds rest (derivesNat_facts hd).2.1 hr hdot

theorem pReference_int (i : Int) (bs rest : Bytes) (h : DerivesInt i bs) (hr : NoDigitAhead rest)
    (hsp : NoDigitAhead (space rest)) : pReference (bs ++ rest) = none := by
  cases h with
  | unsigned n _ hd hn => exact pReference_nat hd rest hr hsp
  | plus n ds hd hn => exact pReference_none (ahead_cons (by decide))
  | minus n ds hd hn => exact pReference_none (ahead_cons (by decide))

theorem direct_int_of (i : Int) (bs rest : Bytes) (fuel depth : Nat) (h : DerivesInt i bs)
    (hr : NoDigitAhead rest) (hdot : ∀ r, rest ≠ 46 :: r) (href : pReference (bs ++ rest) = none) :
    directObjects (fuel + 1) depth (bs ++ rest) = .ok (.int i) rest := by
  obtain ⟨a1, a2, a3⟩ := kw_fail_numhead ((int_starts h).append rest)
  unfold directObjects
  simp only [a1, a2, a3, href, pReal_int i bs rest h hr hdot, int_complete i bs rest h hr]

/-- **Integers as direct objects, every spelling** (standing alone: see `IntStop`). -/
theorem direct_int_complete (i : Int) (bs rest : Bytes) (fuel depth : Nat) (h : DerivesInt i bs)
    (hr : IntStop rest) :
    directObjects (fuel + 1) depth (bs ++ rest) = .ok (.int i) rest :=
  direct_int_of i bs rest fuel depth h hr.1 hr.2.1 (pReference_int i bs rest h hr.1 hr.2.2)

/-- white space / comments that really separate two numerals: derivable and not empty -/
def IsGap (sp : Bytes) : Prop := DerivesSpace sp ∧ sp ≠ []

theorem gap_head (sp t : Bytes) (h : IsGap sp) : NoDigitAhead (sp ++ t) :=
  ((space_starts h.1 h.2).append t).ahead fun c hc => by
    rcases hc with hc | rfl
    · exact ws_not_digit hc
    · decide

theorem nat_spaceStop {n : Nat} {ds : Bytes} (h : DerivesNat n ds) (t : Bytes) : SpaceStop (ds ++ t) :=
  ((nat_starts h).append t).ahead fun _ hc => ⟨digit_not_ws hc, ne_of_class hc (by decide)⟩

/-- **References, every spelling.** Object number, generation number and the keyword `R`,
any numerals (leading zeros) within `u32` / `u16`, separated by ANY non-empty white space /
comments between the numbers and ANY (possibly empty) white space / comments before `R`. -/
theorem reference_complete (n g : Nat) (d1 sp1 d2 sp2 rest : Bytes) (h1 : DerivesNat n d1)
    (hn : n ≤ 4294967295) (h2 : DerivesNat g d2) (hg : g ≤ 65535) (hs1 : IsGap sp1)
    (hs2 : DerivesSpace sp2) :
    pReference (d1 ++ sp1 ++ d2 ++ sp2 ++ 82 :: rest) = some (.ref n g, rest) := by
  have eq0 : d1 ++ sp1 ++ d2 ++ sp2 ++ 82 :: rest = d1 ++ (sp1 ++ (d2 ++ (sp2 ++ 82 :: rest))) := by simp
  have hnd2 : NoDigitAhead (sp2 ++ 82 :: rest) := by
    by_cases hne : sp2 = []
    · subst hne; exact ahead_cons (by decide)
    · exact gap_head sp2 _ ⟨hs2, hne⟩
  rw [eq0, pReference, unsigned_complete h1 U32_MAX hn _ (gap_head sp1 _ hs1)]
  simp only [Option.bind]
  rw [space_complete sp1 _ hs1.1 (nat_spaceStop h2 _), unsigned_complete h2 U16_MAX hg _ hnd2]
  simp only
  rw [space_complete sp2 _ hs2 (ahead_cons (by decide))]
  rfl

/-- **References as direct objects.** -/
theorem direct_reference_complete (n g : Nat) (d1 sp1 d2 sp2 rest : Bytes) (fuel depth : Nat)
    (h1 : DerivesNat n d1) (hn : n ≤ 4294967295) (h2 : DerivesNat g d2) (hg : g ≤ 65535)
    (hs1 : IsGap sp1) (hs2 : DerivesSpace sp2) :
    directObjects (fuel + 1) depth (d1 ++ sp1 ++ d2 ++ sp2 ++ 82 :: rest) = .ok (.ref n g) rest := by
  have hr := reference_complete n g d1 sp1 d2 sp2 rest h1 hn h2 hg hs1 hs2
  obtain ⟨a1, a2, a3⟩ := kw_fail_numhead (inp := d1 ++ sp1 ++ d2 ++ sp2 ++ 82 :: rest)
    (((((nat_starts h1).append _).append _).append _).append _ |>.mono fun _ => Or.inl)
  unfold directObjects
  simp only [a1, a2, a3, hr]

theorem direct_null (rest : Bytes) (fuel depth : Nat) :
    directObjects (fuel + 1) depth (NULL_KW ++ rest) = .ok .null rest := by
  unfold directObjects; simp [NULL_KW, tag]

theorem direct_true (rest : Bytes) (fuel depth : Nat) :
    directObjects (fuel + 1) depth (TRUE_KW ++ rest) = .ok (.bool true) rest := by
  unfold directObjects; simp [NULL_KW, TRUE_KW, tag]

theorem direct_false (rest : Bytes) (fuel depth : Nat) :
    directObjects (fuel + 1) depth (FALSE_KW ++ rest) = .ok (.bool false) rest := by
  unfold directObjects; simp [NULL_KW, TRUE_KW, FALSE_KW, tag]

/-! ### `parser::direct_object`: the object and the white space / comments after it -/

/-- whatever `_direct_objects` reads (at every fuel and depth) in front of derivable white
space / comments and a next token, `direct_object` returns with that space skipped -/
theorem parseDirect_of_direct (inp sp rest : Bytes) (o : Obj)
    (h : ∀ fuel depth, directObjects (fuel + 1) depth inp = .ok o (sp ++ rest))
    (hsp : DerivesSpace sp) (hst : SpaceStop rest) : parseDirect inp = some (o, rest) := by
  unfold parseDirect directObject
  simp only [h, space_complete sp rest hsp hst]

/-- e.g. a name, in any spelling, followed by any white space / comments and another token -/
theorem parseDirect_name (n bs sp rest : Bytes) (h : DerivesName n bs) (hsp : DerivesSpace sp)
    (hst : SpaceStop rest) (hstop : NameStop (sp ++ rest)) :
    parseDirect (47 :: bs ++ (sp ++ rest)) = some (.name n, rest) :=
  parseDirect_of_direct _ sp rest _ (fun fuel depth => direct_name_complete n bs (sp ++ rest) fuel depth h hstop)
    hsp hst

theorem parseDirect_lit (s bs sp rest : Bytes) (h : DerivesLit MAX_BRACKET s bs) (hsp : DerivesSpace sp)
    (hst : SpaceStop rest) : parseDirect (40 :: bs ++ 41 :: (sp ++ rest)) = some (.str s .lit, rest) :=
  parseDirect_of_direct _ sp rest _ (fun fuel depth => direct_lit_complete s bs (sp ++ rest) fuel depth h) hsp hst

theorem parseDirect_hex (s bs sp rest : Bytes) (h : DerivesHex s bs) (hsp : DerivesSpace sp)
    (hst : SpaceStop rest) : parseDirect (60 :: bs ++ 62 :: (sp ++ rest)) = some (.str s .hex, rest) :=
  parseDirect_of_direct _ sp rest _ (fun fuel depth => direct_hex_complete s bs (sp ++ rest) fuel depth h) hsp hst

example : IsGap [32, 37, 120, 10] :=
  ⟨.ws 32 _ (by decide) (.comment [120] [10] [] (by intro b hb; simp at hb; subst hb; decide) .lf .nil), by simp⟩
example : IntStop [32, 47, 65] := by
  refine ⟨ahead_cons (by decide), ?_, ?_⟩
  · intro r h; injection h with h _; cases h
  · rw [ObjRt.space_ws 32 _ (by decide), ObjRt.space_stop [47, 65] (ahead_cons (by decide))]
    exact ahead_cons (by decide)

end Lopdf.Grammar
