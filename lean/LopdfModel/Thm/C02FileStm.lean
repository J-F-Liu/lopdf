import LopdfModel.Thm.C02File
import LopdfModel.Thm.C02XrefStm
/-
  C02 — the cross-reference-STREAM style: an `/XRef` stream object (any `W` incl. zero widths,
  any `Index`, unfiltered) as the last section of a file, read by `xref_and_trailer` at the offset
  the `startxref` section states.
-/
namespace Lopdf.Grammar
open Lopdf Gen

/-- **The cross-reference section of the stream style**: an `/XRef` stream object in any
spelling whose data are the reference encoding of the rows is read by `xref_and_trailer` to the
map the rows denote and the stream dictionary (without `Length`, `W`, `Index`) as the trailer. -/
theorem xrefAndTrailer_stream {id : ObjId} {ibs : Bytes} (dct : Dict) (size : Int) (w1 w2 w3 : Nat)
    (subs : List SSub) (rest : Bytes)
    (hX : DerivesIndirect id (.stream dct (encodeSubs w1 w2 w3 subs)) ibs)
    (hF : dct.has FILTER = false) (hS : dct.get SIZE = some (.int size))
    (hW : dct.get W_KEY = some (.arr [.int w1, .int w2, .int w3])) (hI : IndexDenotes dct size subs)
    (hok : SubsOk w1 w2 w3 subs) (hrows : 0 < totalRows subs) (hwid : 0 < w1 + w2 + w3) :
    xrefAndTrailer (ibs ++ rest) =
      .ok (streamTableOf subs, (size % (U32 : Int)).toNat, ((dct.remove LENGTH).remove W_KEY).remove INDEX) := by
  -- the object starts with a digit, not with `xref`
  obtain ⟨c, r, hcr, hc⟩ := indirect_head_digit hX rest
  have h1 : pXref (ibs ++ rest) = .ok none := by
    rw [hcr]
    have : tag pXref.XREF_WORD (c :: r) = none := by
      simp only [pXref.XREF_WORD, tag]
      have : (120 : UInt8) ≠ c := by intro e; subst e; simp [isDigit] at hc
      simp [this]
    simp [pXref, this]
  have h2 := indirect_any hX [] rest .nil (fun _ => none) none 0 (by intro e he; cases he)
  simp only [List.nil_append] at h2
  have h3 := xrefStream_complete dct size w1 w2 w3 subs hF hS hW hI hok hrows hwid
  unfold xrefAndTrailer
  simp only [h1, xrefAndTrailer.xrefStreamAlt, h2, h3]

/-- **A cross-reference stream as the last section of a file** (then ANY bytes `sp7`, then the
`startxref` section): what `Reader::read` finds at the end of the file and at the offset stated there -/
theorem streamFile_parts {id : ObjId} {ibs : Bytes} (head : Bytes) (dct : Dict) (size : Int)
    (w1 w2 w3 : Nat) (subs : List SSub) (sp7 e1 s1 ds s2 e2 post : Bytes) (hhead : 5 ≤ head.length)
    (hX : DerivesIndirect id (.stream dct (encodeSubs w1 w2 w3 subs)) ibs)
    (hF : dct.has FILTER = false) (hS : dct.get SIZE = some (.int size))
    (hW : dct.get W_KEY = some (.arr [.int w1, .int w2, .int w3])) (hI : IndexDenotes dct size subs)
    (hok : SubsOk w1 w2 w3 subs) (hrows : 0 < totalRows subs) (hwid : 0 < w1 + w2 + w3)
    (he1 : IsEol e1) (hs1 : AllSp s1) (hds : DerivesNat head.length ds) (hs2 : AllSp s2) (he2 : IsEol e2)
    (hpost : IsFileEnd post) (hshort : (STARTXREF ++ (e1 ++ (s1 ++ (ds ++ (s2 ++ e2))))).length ≤ 25)
    (file : Bytes)
    (hfile : file = head ++ (ibs ++ (sp7 ++ (STARTXREF ++ (e1 ++ (s1 ++ (ds ++
      (s2 ++ (e2 ++ (EOF_MARK ++ post)))))))))) :
    getXrefStart file = some head.length ∧ head.length ≤ file.length ∧
    xrefAndTrailer (file.drop head.length) =
      .ok (streamTableOf subs, (size % (U32 : Int)).toNat, ((dct.remove LENGTH).remove W_KEY).remove INDEX) := by
  refine ⟨?_, by rw [hfile, List.length_append]; omega, ?_⟩
  · have := indirect_length hX
    rw [hfile, ← List.append_assoc ibs]
    exact startxref_found head _ e1 s1 ds s2 e2 post he1 hs1 hds hs2 he2 hpost hshort
      (by rw [List.length_append]; omega)
  · rw [hfile, List.drop_left]
    exact xrefAndTrailer_stream dct size w1 w2 w3 subs _ hX hF hS hW hI hok hrows hwid

end Lopdf.Grammar
