import LopdfModel.Lemmas.ObjRtBase
/-
  C14 — operand / operator layer of the content grammar: what `Content::encode` writes for a name
  or hexadecimal-string operand followed by the separating space is read back by `operand`
  through its whole `alt`; every operator over the documented alphabet reads back; `content_space`
  skips the separating blank.  Whole operation lists: `ContentRt.content_rt` (`Thm/C14Content.lean`).
-/
namespace Lopdf
open Gen

theorem tag_cons_ne (t : UInt8) (ts : Bytes) (b : UInt8) (r : Bytes) (h : t ≠ b) :
    tag (t :: ts) (b :: r) = none := by
  simp [tag, h]

/-- the first byte of a written name is `/`, which no earlier alternative accepts -/
theorem operand_name_rt (n rest : Bytes) :
    pOperand (writeObj (.name n) ++ 32 :: rest) = .ok (.name n) (contentSpace (32 :: rest)) := by
  rw [pOperand, ObjRt.operandObj_eq, writeObj,
    ObjRt.scalars_name false n (32 :: rest) (nameStop_cons rest (by decide))]

/-- hexadecimal-string operands: `<` is rejected by every earlier alternative (incl. `name`,
`literal_string`) -/
theorem operand_hex_rt (s rest : Bytes) :
    pOperand (writeObj (.str s .hex) ++ 32 :: rest) = .ok (.str s .hex) (contentSpace (32 :: rest)) := by
  rw [pOperand, ObjRt.operandObj_eq, writeObj, ObjRt.scalars_hex false s (32 :: rest)]

/-- operators: any non-empty string over letters, `*`, `'`, `"` followed by a byte outside
that alphabet (or nothing) is read back whole -/
theorem operator_rt (op rest : Bytes) (hne : op ≠ []) (hop : ∀ b ∈ op, isOperatorByte b = true)
    (hr : ∀ b r, rest = b :: r → isOperatorByte b = false) :
    pOperator (op ++ rest) = some (op, rest) := by
  unfold pOperator
  rw [spanP_append isOperatorByte op rest hop hr]
  cases op with
  | nil => exact absurd rfl hne
  | cons a b => rfl

example : pOperator ([84, 42] ++ [10, 113]) = some ([84, 42], [10, 113]) :=
  operator_rt _ _ (by simp) (by decide) (by intro b r h; simp at h; obtain ⟨rfl, _⟩ := h; decide)

/-- `content_space` after an operand: the separating space written by `encode` and any further
blanks are skipped — the next operand / the operator starts at the first non-blank byte. -/
theorem contentSpace_cons_space (rest : Bytes) : contentSpace (32 :: rest) = contentSpace rest := by
  simp [contentSpace, spanP, isContentSpace, CONTENT_SPACE]

end Lopdf
