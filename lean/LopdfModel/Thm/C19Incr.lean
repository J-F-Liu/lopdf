import LopdfModel.Thm.C19Save
import LopdfModel.Thm.FileHistory
import LopdfModel.Thm.C07
/-
  C19 × C07 — `IncrementalDocument::save_to` through an arbitrary sink.

  The incremental writer hands the sink the previously loaded bytes first (`prev_document_bytes`,
  a newline if they do not end with one — `incrPre`), in whatever requests std cuts them into
  (`pc`), and then the new revision (`before ++ after`, cut at the writer's mutation point as in
  `CutOf`). The plain-save lemmas of `Thm/C19Save` are stated for such a prefix.
-/
namespace Lopdf
open Gen FileRT Lopdf.ObjRt

/-- **Success of an incremental save ⇒ the complete file and the saved state.** -/
theorem saveSink_incr_ok (pre : Bytes) (d : SDoc) (out : Bytes) (d' : SDoc) (pc before after : List Bytes)
    (s : List Resp) (hpc : pc.flatten = pre) (hc : CutOf pre d out before after)
    (hs : saveFrom pre d = some (out, d')) (h : (saveSink (pc ++ before) after s).ok = true) :
    (saveSink (pc ++ before) after s).delivered = out ∧
      docAfter d d' (saveSink (pc ++ before) after s) = d' :=
  saveSink_cut_ok d' hpc (saveFrom_prefix pre d out d' hs) hc h

/-- **Delivered bytes are a prefix of the file the incremental save defines** — every sink. -/
theorem saveSink_incr_prefix (pre : Bytes) (d : SDoc) (out : Bytes) (d' : SDoc) (pc before after : List Bytes)
    (s : List Resp) (hpc : pc.flatten = pre) (hc : CutOf pre d out before after)
    (hs : saveFrom pre d = some (out, d')) :
    (saveSink (pc ++ before) after s).delivered <+: out :=
  saveSink_cut_prefix s hpc (saveFrom_prefix pre d out d' hs) hc

/-- **A changed writer state ⇒ every previous revision is in the sink**, and the sink holds the
file up to the mutation point `mutationOffset pre d`. -/
theorem saveSink_incr_keeps_prev (pre : Bytes) (d : SDoc) (out : Bytes) (pc before after : List Bytes)
    (s : List Resp) (hpc : pc.flatten = pre) (hc : CutOf pre d out before after)
    (h : (saveSink (pc ++ before) after s).mutated = true) :
    pre <+: (saveSink (pc ++ before) after s).delivered ∧
      mutationOffset pre d ≤ (saveSink (pc ++ before) after s).delivered.length := by
  have hm := saveSink_mutated (pc ++ before) after s h
  refine ⟨.trans ?_ hm, hc.point_length hpc ▸ hm.length_le⟩
  rw [List.flatten_append, hpc]
  exact List.prefix_append _ _

/-- and an UNCHANGED writer state ⇒ the save failed and nothing beyond the mutation point was sent -/
theorem saveSink_incr_unmutated (pre : Bytes) (d : SDoc) (out : Bytes) (pc before after : List Bytes)
    (s : List Resp) (hpc : pc.flatten = pre) (hc : CutOf pre d out before after)
    (h : (saveSink (pc ++ before) after s).mutated = false) :
    (saveSink (pc ++ before) after s).ok = false ∧
      (saveSink (pc ++ before) after s).delivered.length ≤ mutationOffset pre d := by
  obtain ⟨h1, h2⟩ := saveSink_unmutated (pc ++ before) after s h
  exact ⟨h1, hc.point_length hpc ▸ h2.length_le⟩

/-- **An incremental save that reports success — through any sink, on a history of any length —
loads back, for every schedule, to the newest object under every id.** -/
theorem sink_incr_loads (order : Option (List Nat)) (d : SDoc) (prevs : List (SDoc × Bytes))
    (outprev out : Bytes) (d' : SDoc) (pc before after : List Bytes) (s : List Resp)
    (hist : History prevs outprev) (hrev : RevOK d) (hs : saveIncr outprev d = some (out, d'))
    (hprev : d.trailer.get PREV = some (.int (topX prevs : Int)))
    (hpc : pc.flatten = incrPre outprev) (hc : CutOf (incrPre outprev) d out before after)
    (hok : (saveSink (pc ++ before) after s).ok = true)
    (hlen : out.length < 4294967296) (hgen : GenConsistent ((d, incrPre outprev) :: prevs))
    (hv : ∀ d0, oldestDoc ((d, incrPre outprev) :: prevs) = some d0 →
      (∀ b ∈ d0.version, notEol b = true) ∧ validUtf8 d0.version = true) :
    ∃ L : Loaded, loadDocOrd order (saveSink (pc ++ before) after s).delivered = .ok L ∧
      (∀ id, L.objects.get id = ((allObjs ((d, incrPre outprev) :: prevs)).get id).map nfObj) ∧
      docAfter d d' (saveSink (pc ++ before) after s) = d' := by
  have hs' : saveFrom (incrPre outprev) d = some (out, d') := by rw [← saveIncr_eq]; exact hs
  obtain ⟨hdel, hdoc⟩ := saveSink_incr_ok (incrPre outprev) d out d' pc before after s hpc hc hs' hok
  rw [hdel]
  obtain ⟨L, h1, h2, _⟩ := file_rt_history order _ out (History.step d prevs outprev out d' hist hrev hs hprev) hlen hgen hv
  exact ⟨L, h1, h2, hdoc⟩

end Lopdf
