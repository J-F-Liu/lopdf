import LopdfModel.Thm.C01Obj
import LopdfModel.Model.Read
/-
  C01 — indirect objects.  `dictionary` (trailer / stream dictionaries) and `_indirect_object`
  read back what `write_dictionary` / `Writer::write_indirect_object` wrote: plain objects, and
  streams whose `Length` entry is consistent with the content.
-/
namespace Lopdf.ObjRt
open Lopdf Gen

/-- **`dictionary`** reads back a written dictionary, whatever follows (e.g. `\nstartxref…`
after a trailer dictionary, `stream\n…` after a stream dictionary). -/
theorem pDictionary_rt (es : List (Bytes × Obj)) (rest : Bytes) (hwf : WFObj (.dict es))
    (hh : height (.dict es) ≤ MAX_NESTING) :
    pDictionary (writeObj (.dict es) ++ rest) = some (normD es, rest) := by
  -- `dictionary` is the dictionary alternative of `compound` at depth 0
  have hc := (compound_rt _ litOK_all (.dict es) ((writeObj (.dict es) ++ rest).length + 1) 0 rest rfl hwf
    (by omega) (Nat.le_succ_of_le (size_le_input _ _ rest hwf))).2
  have hin : writeObj (.dict es) ++ rest = 60 :: 60 :: (writeDictBody es ++ 62 :: 62 :: rest) := by
    simp [writeObj]
  rw [hin] at hc ⊢
  simp only [compound, show ¬ 0 ≥ MAX_NESTING by decide, if_false] at hc
  simp only [pDictionary]
  split at hc
  · cases hc
  · rename_i d r1 hd
    rw [hd]
    split at hc
    · cases hc; rfl
    · cases hc

/-- in the shape the file-level theorems use: a dictionary without reals reads back unchanged -/
theorem pDictionary_rt_noReal (es : List (Bytes × Obj)) (rest : Bytes) (hwf : WFObj (.dict es))
    (hh : height (.dict es) ≤ MAX_NESTING) (hnr : NoRealD es) :
    pDictionary (writeObj (.dict es) ++ rest) = some (es, rest) := by
  rw [pDictionary_rt es rest hwf hh, normD_noReal es hnr]

theorem pDictionary_none (inp : Bytes) (h : ∀ r, inp ≠ 60 :: 60 :: r) : pDictionary inp = none := by
  unfold pDictionary
  split
  · rename_i r; exact absurd rfl (h r)
  · rfl

theorem hexBody_head (s x : Bytes) : ∀ r, writeHexBody s ++ 62 :: x ≠ 60 :: r := by
  intro r e
  cases s with
  | nil => simp [writeHexBody] at e
  | cons b bs =>
    simp only [writeHexBody, hex2U, List.cons_append, List.nil_append] at e
    injection e with e _
    have := (hexDigitU_facts (b >>> 4) (nibbles_join b).1).1
    rw [e] at this
    exact absurd this (by decide)

/-- what follows the object in an indirect object: the end separator, `\nendobj\n`, anything -/
def endObjTail (o : Obj) (rest : Bytes) : Bytes :=
  (if needEndSeparator o then [32] else []) ++ [10, 101, 110, 100, 111, 98, 106, 10] ++ rest

theorem space_endobj (rest : Bytes) :
    space (10 :: 101 :: 110 :: 100 :: 111 :: 98 :: 106 :: 10 :: rest) = 101 :: 110 :: 100 :: 111 :: 98 :: 106 :: 10 :: rest := by
  rw [space_ws 10 _ (by decide), space_head _ ⟨101, _, rfl, by decide, by decide⟩]

theorem follow_endobj (o : Obj) (rest : Bytes) : Follow true o (endObjTail o rest) := by
  -- the tail starts with a blank or the newline, and `endobj` is what `space` leaves
  have hsp : space (endObjTail o rest) = 101 :: 110 :: 100 :: 111 :: 98 :: 106 :: 10 :: rest := by
    unfold endObjTail
    split
    · exact (space_sp _).trans (space_endobj rest)
    · exact space_endobj rest
  refine follow_of ?_ (fun _ => refTail_nondigit hsp (by decide)) o
  unfold endObjTail
  split <;> exact nameStop_cons _ (by decide)

theorem writeIndirect_eq (num gen : Nat) (o : Obj) (rest : Bytes) :
    writeIndirect num gen o ++ rest =
      natDigits num ++ (32 :: (natDigits gen ++ (32 :: 111 :: 98 :: 106 :: 10 ::
        ((if needSeparator o then [32] else []) ++ (writeObj o ++ endObjTail o rest))))) := by
  simp [writeIndirect, endObjTail]

/-- what `_indirect_object` does after the header `N G obj`: `stream`, else a plain object -/
def afterHeader (len : ObjId → Option Int) (id : ObjId) (off : Nat) (Y : Bytes) : Option (ObjId × LObj) :=
  match pStream len Y with
  | .ok (.plain o) _ => some (id, .plain o)
  | .ok (.pending d p) _ => some (id, .pending d (off + p))
  | .failure => none
  | .error =>
    (match directObjects (Y.length + 1) 0 Y with
     | .ok o _ => some (id, .plain o)
     | _ => none)

theorem pIndirect_written (len : ObjId → Option Int) (expected : Option ObjId) (base : Nat) (num gen : Nat)
    (o : Obj) (rest : Bytes) (hn : num ≤ U32_MAX) (hg : gen ≤ U16_MAX)
    (hexp : expected = none ∨ expected = some (num, gen)) (hY : HeadTok (writeObj o ++ endObjTail o rest)) :
    ∃ off, pIndirect len expected base (writeIndirect num gen o ++ rest) =
      afterHeader len (num, gen) off (writeObj o ++ endObjTail o rest) := by
  have hnd : ∀ x : Bytes, NoDigitAhead (32 :: x) := fun x => noDigitAhead_cons x (by decide)
  rw [writeIndirect_eq]
  generalize hX : (if needSeparator o then [32] else []) ++ (writeObj o ++ endObjTail o rest) = X
  have h4 : space (10 :: X) = writeObj o ++ endObjTail o rest := by
    rw [space_ws 10 _ (by decide), ← hX]
    split
    · exact space_sp_head _ hY
    · exact space_head _ hY
  have h1 : pUnsigned U32_MAX (space (natDigits num ++ 32 :: (natDigits gen ++ 32 :: 111 :: 98 :: 106 :: 10 :: X))) =
      some (num, 32 :: (natDigits gen ++ 32 :: 111 :: 98 :: 106 :: 10 :: X)) := by
    rw [space_head _ (headTok_natDigits num _), pUnsigned_natDigits _ num _ hn (hnd _)]
  have h2 : pUnsigned U16_MAX (space (32 :: (natDigits gen ++ 32 :: 111 :: 98 :: 106 :: 10 :: X))) =
      some (gen, 32 :: 111 :: 98 :: 106 :: 10 :: X) := by
    rw [space_sp_head _ (headTok_natDigits gen _), pUnsigned_natDigits _ gen _ hg (hnd _)]
  have h3 : tag OBJ_WORD (space (32 :: 111 :: 98 :: 106 :: 10 :: X)) = some (10 :: X) := by
    rw [space_sp_head _ ⟨111, _, rfl, by decide, by decide⟩]; rfl
  simp only [pIndirect, h1, h2, h3, h4, Option.bind_some]
  rcases hexp with rfl | rfl
  · exact ⟨_, rfl⟩
  · simp only [decide_true, Bool.not_true, Bool.false_eq_true, if_false]
    exact ⟨_, rfl⟩

theorem idOk_of (expected : Option ObjId) (num gen : Nat) (h : expected = none ∨ expected = some (num, gen)) :
    (match expected with | some e => decide (e = (num, gen)) | none => true) = true := by
  rcases h with rfl | rfl <;> simp

/-- objects written with a separator start with a letter of a keyword, `-` or a digit -/
theorem head_sep {L : Bytes → Prop} (o : Obj) (x : Bytes) (h : WF L o) (hs : needSeparator o = true) :
    ∃ b r, writeObj o ++ x = b :: r ∧ b ≠ 60 :=
  head_obj_P _ o x h
    (fun _ => ⟨fun b hb e => by rw [e] at hb; exact absurd hb (by decide), by decide, by decide, by decide, by decide⟩)
    (fun h' => by rw [hs] at h'; cases h')

/-- `stream` declines (recoverably) on a written non-stream object followed by `endobj` -/
theorem pStream_plain (len : ObjId → Option Int) (o : Obj) (rest : Bytes) (hwf : WFObj o)
    (hh : height o ≤ MAX_NESTING) : pStream len (writeObj o ++ endObjTail o rest) = .error := by
  have hnone : ∀ (b : UInt8) (r : Bytes), b ≠ 60 → pStream len (b :: r) = .error := by
    intro b r hb
    unfold pStream
    rw [pDictionary_none _ (fun r' e => by injection e with e _; exact hb e)]
  cases o with
  | dict es =>
    unfold pStream
    rw [pDictionary_rt es _ hwf hh]
    simp only [endObjTail, needEndSeparator, Bool.false_eq_true, if_false, List.nil_append, List.cons_append]
    rw [space_endobj]
    simp [STREAM_WORD, tag]
  | str s f =>
    cases f
    · exact hnone 40 _ (by decide)
    · unfold pStream
      rw [pDictionary_none]
      intro r e
      simp only [writeObj, writeString, List.cons_append, List.nil_append, List.append_assoc] at e
      injection e with _ e
      exact hexBody_head s _ _ e
  | null => exact hnone 110 _ (by decide)
  | bool b =>
    cases b
    · exact hnone 102 _ (by decide)
    · exact hnone 116 _ (by decide)
  | name n => exact hnone 47 _ (by decide)
  | arr items => exact hnone 91 _ (by decide)
  | stream es c => simp [WFObj, WF] at hwf
  | int i =>
    obtain ⟨b, r, e, hb⟩ := head_sep (.int i) (endObjTail (.int i) rest) hwf rfl
    rw [e]; exact hnone b r hb
  | real t =>
    obtain ⟨b, r, e, hb⟩ := head_sep (.real t) (endObjTail (.real t) rest) hwf rfl
    rw [e]; exact hnone b r hb
  | ref n g =>
    obtain ⟨b, r, e, hb⟩ := head_sep (.ref n g) (endObjTail (.ref n g) rest) hwf rfl
    rw [e]; exact hnone b r hb

/-- **Indirect objects, plain.** `_indirect_object` reads back what `write_indirect_object`
wrote for every well-formed non-stream object, any object number within u32 and generation
within u16, with or without an expected id, whatever follows `endobj`. -/
theorem indirect_rt (len : ObjId → Option Int) (expected : Option ObjId) (base : Nat) (num gen : Nat)
    (o : Obj) (rest : Bytes) (hn : num ≤ U32_MAX) (hg : gen ≤ U16_MAX)
    (hexp : expected = none ∨ expected = some (num, gen))
    (hwf : WFObj o) (hh : height o ≤ MAX_NESTING) :
    pIndirect len expected base (writeIndirect num gen o ++ rest) = some ((num, gen), .plain (norm o)) := by
  obtain ⟨off, e⟩ := pIndirect_written len expected base num gen o rest hn hg hexp (headTok_obj o _ hwf)
  have hobj : directObjects ((writeObj o ++ endObjTail o rest).length + 1) 0 (writeObj o ++ endObjTail o rest) =
      .ok (norm o) (endObjTail o rest) :=
    obj_rt o _ 0 _ hwf (by omega) (size_le_input _ o _ hwf) (follow_endobj o rest)
  rw [e, afterHeader, pStream_plain len o rest hwf hh, hobj]

example : pIndirect (fun _ => none) (some (7, 0)) 0 (writeIndirect 7 0 sampleObj ++ [120]) =
    some ((7, 0), .plain (norm sampleObj)) :=
  indirect_rt _ _ _ 7 0 sampleObj _ (by decide) (by decide) (Or.inr rfl) sample_wf (by decide)

/-- in the shape the file-level theorems use: an object without reals comes back unchanged -/
theorem indirect_rt_noReal (len : ObjId → Option Int) (base : Nat) (num gen : Nat)
    (o : Obj) (rest : Bytes) (hn : num ≤ U32_MAX) (hg : gen ≤ U16_MAX)
    (hwf : WFObj o) (hh : height o ≤ MAX_NESTING) (hnr : NoReal o) :
    pIndirect len none base (writeIndirect num gen o ++ rest) = some ((num, gen), .plain o) := by
  rw [indirect_rt len none base num gen o rest hn hg (Or.inl rfl) hwf hh, norm_noReal o hnr]

/-- the `Length` the stream parser uses: a direct integer, or an indirect one resolved by `len` -/
def lengthOf (len : ObjId → Option Int) (d : Dict) : Option Int :=
  match d.get LENGTH with
  | some (.ref n g) => len (n, g)
  | some (.int i) => some i
  | _ => none

/-- `stream` reads back a written stream whose `Length` (direct or indirect) equals the content length -/
theorem pStream_rt (len : ObjId → Option Int) (es : List (Bytes × Obj)) (c E : Bytes)
    (hwf : WFObj (.dict es)) (hh : height (.dict es) ≤ MAX_NESTING)
    (hlen : lengthOf len (normD es) = some (Int.ofNat c.length)) :
    pStream len (writeObj (.stream es c) ++ E) =
      .ok (.plain (.stream (Dict.set (normD es) LENGTH (.int c.length)) c)) E := by
  have hin : writeObj (.stream es c) ++ E = writeObj (.dict es) ++ (STREAM_KW ++ (c ++ (ENDSTREAM_KW ++ E))) := by
    simp [writeObj]
  have hsp : space (STREAM_KW ++ (c ++ (ENDSTREAM_KW ++ E))) = STREAM_KW ++ (c ++ (ENDSTREAM_KW ++ E)) :=
    space_head _ ⟨115, _, rfl, by decide, by decide⟩
  have htag : tag STREAM_WORD (STREAM_KW ++ (c ++ (ENDSTREAM_KW ++ E))) = some (10 :: (c ++ (ENDSTREAM_KW ++ E))) := rfl
  have hs0 : eol (space0 (10 :: (c ++ (ENDSTREAM_KW ++ E)))) = some ([10], c ++ (ENDSTREAM_KW ++ E)) := rfl
  have htake : (c ++ (ENDSTREAM_KW ++ E)).take c.length = c := by simp
  have hdrop : (c ++ (ENDSTREAM_KW ++ E)).drop c.length = ENDSTREAM_KW ++ E := by simp
  have hlt : ¬ (c ++ (ENDSTREAM_KW ++ E)).length < c.length := by simp
  have hneg : ¬ ((c.length : Nat) : Int) < 0 := Int.not_lt.mpr (Int.natCast_nonneg _)
  rw [hin]
  unfold pStream
  rw [pDictionary_rt es _ hwf hh]
  simp only [hsp, htag, hs0]
  unfold lengthOf at hlen
  split at hlen
  · rename_i n g hget
    simp only [hget, hlen, Int.ofNat_eq_natCast, hneg, Int.toNat_natCast, hlt, if_false, htake, hdrop]
    rfl
  · rename_i i hget
    cases hlen
    simp only [hget, Int.ofNat_eq_natCast, hneg, Int.toNat_natCast, hlt, if_false, htake, hdrop]
    rfl
  · cases hlen

/-- **Indirect objects, streams.** `_indirect_object` reads back a written stream object whose
`Length` is consistent; the dictionary comes back with `Length` set to the direct integer. -/
theorem indirect_stream_rt (len : ObjId → Option Int) (expected : Option ObjId) (base : Nat) (num gen : Nat)
    (es : List (Bytes × Obj)) (c rest : Bytes) (hn : num ≤ U32_MAX) (hg : gen ≤ U16_MAX)
    (hexp : expected = none ∨ expected = some (num, gen))
    (hwf : WFObj (.dict es)) (hh : height (.dict es) ≤ MAX_NESTING)
    (hlen : lengthOf len (normD es) = some (Int.ofNat c.length)) :
    pIndirect len expected base (writeIndirect num gen (.stream es c) ++ rest) =
      some ((num, gen), .plain (.stream (Dict.set (normD es) LENGTH (.int c.length)) c)) := by
  obtain ⟨off, e⟩ := pIndirect_written len expected base num gen (.stream es c) rest hn hg hexp
    ⟨60, _, rfl, by decide, by decide⟩
  rw [e, afterHeader, pStream_rt len es c _ hwf hh hlen]

example : pIndirect (fun _ => none) none 0 (writeIndirect 3 0 (.stream [(LENGTH, .int 2)] [1, 2]) ++ []) =
    some ((3, 0), .plain (.stream [(LENGTH, .int 2)] [1, 2])) :=
  indirect_stream_rt _ _ _ 3 0 _ _ _ (by decide) (by decide) (Or.inl rfl)
    (by simp [WFObj, WF, WFD]; decide) (by decide) (by rfl)

end Lopdf.ObjRt
