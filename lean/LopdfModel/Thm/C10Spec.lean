import LopdfModel.Thm.C10Iso
/-
  C10 — the renaming of `renumber_objects_with`, explicitly (`renumber_spec`): what the
  page-order pass does to the pages, and that the dense pass hands `start + k` to the k-th id — so the order of
  ids is preserved and pages end up with ascending numbers in page order.
-/
namespace Lopdf.Ren
open Lopdf

theorem index_lt_of_idLt (K : List ObjId) (hs : K.Pairwise (fun a b => idLt a b = true)) (i j : Nat) (x y : ObjId)
    (hi : K[i]? = some x) (hj : K[j]? = some y) (hxy : idLt x y = true) : i < j := by
  rcases Nat.lt_trichotomy i j with h | h | h
  · exact h
  · subst h; rw [hi] at hj; cases hj; rw [idLt_irrefl] at hxy; cases hxy
  · exfalso
    obtain ⟨hj', ej⟩ := List.getElem?_eq_some_iff.mp hj
    obtain ⟨hi', ei⟩ := List.getElem?_eq_some_iff.mp hi
    have := List.pairwise_iff_getElem.mp hs j i hj' hi' h
    rw [ej, ei] at this
    rw [idLt_asymm _ _ this] at hxy; cases hxy

theorem sortBy_nums_lt (P : List ObjId) (hn : P.Nodup) (hinj : ∀ a ∈ P, ∀ b ∈ P, a.1 = b.1 → a = b)
    (i j : Nat) (qi qj : ObjId) (hij : i < j) (hi : (sortBy idLeE P)[i]? = some qi)
    (hj : (sortBy idLeE P)[j]? = some qj) : qi.1 < qj.1 := by
  obtain ⟨hi', rfl⟩ := List.getElem?_eq_some_iff.mp hi
  obtain ⟨hj', rfl⟩ := List.getElem?_eq_some_iff.mp hj
  have hperm := sortBy_perm idLeE P
  have hle := List.pairwise_iff_getElem.mp (sortBy_pairwise idLeE idLeE_total idLeE_trans P) i j hi' hj' hij
  have hne := List.pairwise_iff_getElem.mp (hperm.nodup_iff.mpr hn) i j hi' hj' hij
  have hnum : (sortBy idLeE P)[i].1 ≠ (sortBy idLeE P)[j].1 := fun e =>
    hne (hinj _ (hperm.mem_iff.mp (List.getElem_mem hi')) _ (hperm.mem_iff.mp (List.getElem_mem hj')) e)
  rw [idLeE_iff] at hle
  omega

theorem midKeys_eq (d : Doc) (hs : d.objects.Sorted) : midKeys d = (pagePass d).objects.keys :=
  sortBy_of_pairwise _ _
    (List.Pairwise.imp (fun {a b} h => by rw [idLeE, idLt_asymm a b h]; rfl) (pagePass_sorted d hs))

theorem midKeys_sorted (d : Doc) (hs : d.objects.Sorted) : (midKeys d).Pairwise (fun a b => idLt a b = true) := by
  rw [midKeys_eq d hs]; exact pagePass_sorted d hs

theorem midKeys_perm (d : Doc) (hs : d.objects.Sorted) (g2 : (d.objects.keys.map (·.1)).Nodup) :
    (midKeys d).Perm (d.objects.keys.map (pageRho d)) := by
  rw [midKeys_eq d hs]; exact (pagePass_isoStep d g2).keys_perm hs (pagePass_sorted d hs)

theorem denseRho_kth (d : Doc) (start : Nat) (hs : d.objects.Sorted) (k : Nat) (x : ObjId)
    (hk : (midKeys d)[k]? = some x) : denseRho d start x = (start + k, x.2) := by
  have hn : (midKeys d).Nodup := by
    rw [midKeys_eq d hs]; exact Objects.sorted_nodup _ (pagePass_sorted d hs)
  exact rho_assign (midKeys d) start hn (x, (start + k, x.2))
    (List.mem_of_getElem? (i := k) (by rw [assign_getElem?, hk]; rfl))

theorem pageRho_gen (d : Doc) (x : ObjId) : (pageRho d x).2 = x.2 :=
  rhoFn_rel (fun x y => y.2 = x.2) _ (fun _ => rfl)
    (fun p hp => by obtain ⟨y, -, rfl⟩ := List.mem_map.mp hp; rfl) x

/-- **C10, renumber_spec: the renaming of `renumber_objects_with(start)`, explicitly.**  Hypotheses of
`renumber_iso`.  The call returns `d2`, and with `rho = denseRho ∘ pageRho`:
* (isomorphism) `rho` is one-to-one on the ids in use, the new ids in use are exactly the images, the trailer is
  the original renamed, every object sits at `rho id` (renamed iff it was reachable; no captured dangling
  reference — `NoCap`);
* (page-order pass) the j-th page, in page order, takes the NUMBER of the j-th smallest page id and keeps its
  generation; these numbers ascend strictly; every other id is left alone;
* (dense pass) the ids after the page-order pass, sorted, are `midKeys` — a rearrangement of the original ids
  under `pageRho` — and the k-th of them becomes `(start + k, same generation)`. -/
theorem renumber_spec (d : Doc) (start : Nat) (hs : d.objects.Sorted)
    (g2 : (d.objects.keys.map (·.1)).Nodup)
    (hhi : start + d.objects.length ≤ U32_MAXE + 1) :
    ∃ d2, renumber d start = .ok d2 ∧ d2.maxId = start + d.objects.length - 1 ∧
      (∀ a b, (d.objects.get a).isSome → (d.objects.get b).isSome →
        denseRho d start (pageRho d a) = denseRho d start (pageRho d b) → a = b) ∧
      (∀ q, (d2.objects.get q).isSome ↔ ∃ k, (d.objects.get k).isSome ∧ denseRho d start (pageRho d k) = q) ∧
      d2.trailer = mapRefsD (denseRho d start ∘ pageRho d) d.trailer ∧
      (NoCap d.trailer d.objects (pagePass d).objects → NoCap d.trailer d.objects d2.objects →
        (∀ k o, d.objects.get k = some o →
          (ReachIn d.trailer d.objects k →
            d2.objects.get (denseRho d start (pageRho d k)) = some (mapRefs (denseRho d start ∘ pageRho d) o)) ∧
          (¬ ReachIn d.trailer d.objects k → d2.objects.get (denseRho d start (pageRho d k)) = some o))) ∧
      -- the page-order pass
      (∀ (j : Nat) (p q : ObjId), (pagesOf d)[j]? = some p → (sortBy idLeE (pagesOf d))[j]? = some q → pageRho d p = (q.1, p.2)) ∧
      (∀ (i j : Nat) (qi qj : ObjId), i < j → (sortBy idLeE (pagesOf d))[i]? = some qi → (sortBy idLeE (pagesOf d))[j]? = some qj → qi.1 < qj.1) ∧
      (∀ x, x ∉ pagesOf d → pageRho d x = x) ∧
      -- the dense pass
      (midKeys d).Perm (d.objects.keys.map (pageRho d)) ∧ (midKeys d).Pairwise (fun a b => idLt a b = true) ∧
      (∀ (k : Nat) (x : ObjId), (midKeys d)[k]? = some x → denseRho d start x = (start + k, x.2)) := by
  obtain ⟨d2, hd2, hmax, -, h1, h2, -⟩ := renumber_steps d start hs g2 hhi
  obtain ⟨hinj, hkeys, htr, -, -⟩ := h1.comp h2
  simp only [Function.comp_apply] at hinj hkeys
  refine ⟨d2, hd2, hmax, hinj, hkeys, htr,
    fun hc1 hc2 => by simpa only [Function.comp_apply] using (isoStep_comp h1 h2 hc1 hc2).2.2.2.2.1,
    pageRho_page (pagesOf d) (pagesOf_nodup d),
    sortBy_nums_lt (pagesOf d) (pagesOf_nodup d) (pagesOf_num_inj d g2),
    fun x hx => rho_fix_of_not_old _ x (by rw [pageSpec_olds]; exact hx),
    midKeys_perm d hs g2, midKeys_sorted d hs, denseRho_kth d start hs⟩

/-- the rank of an id after the page-order pass decides its new number; this does not depend on whether the
numbers fit into `u32` -/
theorem denseRho_rank (d : Doc) (start : Nat) (hs : d.objects.Sorted) (g2 : (d.objects.keys.map (·.1)).Nodup)
    (x : ObjId) (hx : (d.objects.get x).isSome) :
    ∃ k, (midKeys d)[k]? = some (pageRho d x) ∧ k < d.objects.length ∧
      denseRho d start (pageRho d x) = (start + k, x.2) := by
  have hperm := midKeys_perm d hs g2
  obtain ⟨k, hk⟩ := List.getElem?_of_mem
    (hperm.mem_iff.mpr (List.mem_map_of_mem ((Objects.mem_keys_iff _ x).mpr hx)))
  refine ⟨k, hk, ?_, by rw [denseRho_kth d start hs k _ hk, pageRho_gen]⟩
  have := (List.getElem?_eq_some_iff.mp hk).1
  rwa [hperm.length_eq, List.length_map, Objects.keys, List.length_map] at this

/-- **C10, the k-th object gets `start + k`.**  Every object's new id is `(start + k, its generation)`, `k` being
the rank of its id after the page-order pass among all such ids. -/
theorem renumber_kth (d : Doc) (start : Nat) (hs : d.objects.Sorted) (g2 : (d.objects.keys.map (·.1)).Nodup)
    (hhi : start + d.objects.length ≤ U32_MAXE + 1) (x : ObjId) (hx : (d.objects.get x).isSome) :
    ∃ k, (midKeys d)[k]? = some (pageRho d x) ∧ k < d.objects.length ∧
      denseRho d start (pageRho d x) = (start + k, x.2) := by
  exact denseRho_rank d start hs g2 x hx

theorem denseRho_monotone (d : Doc) (start : Nat) (hs : d.objects.Sorted) (g2 : (d.objects.keys.map (·.1)).Nodup)
    (a b : ObjId) (ha : (d.objects.get a).isSome) (hb : (d.objects.get b).isSome)
    (hab : idLt (pageRho d a) (pageRho d b) = true) :
    (denseRho d start (pageRho d a)).1 < (denseRho d start (pageRho d b)).1 := by
  obtain ⟨i, hi, _, ei⟩ := denseRho_rank d start hs g2 a ha
  obtain ⟨j, hj, _, ej⟩ := denseRho_rank d start hs g2 b hb
  have := index_lt_of_idLt (midKeys d) (midKeys_sorted d hs) i j _ _ hi hj hab
  rw [ei, ej]
  exact Nat.add_lt_add_left this start

/-- **C10, the dense assignment preserves the order** of the ids it is given -/
theorem renumber_monotone (d : Doc) (start : Nat) (hs : d.objects.Sorted) (g2 : (d.objects.keys.map (·.1)).Nodup)
    (hhi : start + d.objects.length ≤ U32_MAXE + 1) (a b : ObjId) (ha : (d.objects.get a).isSome)
    (hb : (d.objects.get b).isSome) (hab : idLt (pageRho d a) (pageRho d b) = true) :
    (denseRho d start (pageRho d a)).1 < (denseRho d start (pageRho d b)).1 := by
  exact denseRho_monotone d start hs g2 a b ha hb hab

theorem pageRho_lt (d : Doc) (g2 : (d.objects.keys.map (·.1)).Nodup) (i j : Nat) (a b : ObjId) (hij : i < j)
    (ha : (pagesOf d)[i]? = some a) (hb : (pagesOf d)[j]? = some b) : idLt (pageRho d a) (pageRho d b) = true := by
  have hlen := sortBy_length idLeE (pagesOf d)
  obtain ⟨qi, hqi⟩ : ∃ q, (sortBy idLeE (pagesOf d))[i]? = some q :=
    ⟨_, List.getElem?_eq_getElem (hlen ▸ (List.getElem?_eq_some_iff.mp ha).1)⟩
  obtain ⟨qj, hqj⟩ : ∃ q, (sortBy idLeE (pagesOf d))[j]? = some q :=
    ⟨_, List.getElem?_eq_getElem (hlen ▸ (List.getElem?_eq_some_iff.mp hb).1)⟩
  rw [pageRho, pageRho_page _ (pagesOf_nodup d) i a qi ha hqi, pageRho_page _ (pagesOf_nodup d) j b qj hb hqj, idLt_iff]
  exact Or.inl (sortBy_nums_lt _ (pagesOf_nodup d) (pagesOf_num_inj d g2) i j qi qj hij hqi hqj)

/-- **C10, pages end up with ascending numbers in page order** -/
theorem renumber_pages_ascending (d : Doc) (start : Nat) (hs : d.objects.Sorted) (g2 : (d.objects.keys.map (·.1)).Nodup)
    (hhi : start + d.objects.length ≤ U32_MAXE + 1) (i j : Nat) (a b : ObjId) (hij : i < j)
    (ha : (pagesOf d)[i]? = some a) (hb : (pagesOf d)[j]? = some b) :
    (denseRho d start (pageRho d a)).1 < (denseRho d start (pageRho d b)).1 := by
  exact denseRho_monotone d start hs g2 a b (pagesOf_isSome d a (List.mem_of_getElem? ha))
    (pagesOf_isSome d b (List.mem_of_getElem? hb)) (pageRho_lt d g2 i j a b hij ha hb)

end Lopdf.Ren
