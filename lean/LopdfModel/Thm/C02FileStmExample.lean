import LopdfModel.Thm.C02FileExample
/-
  Non-vacuity of `loadDoc_complete_stream`: a concrete file meets every hypothesis.
    %PDF-1.5 LF
    1 0 obj LF /A LF endobj LF                                            (offset 9)
    2 0 obj LF <</Size 3/W[1 1 0]/Index[1 2]/Length 4>> LF stream LF
      01 09 01 1B  LF endstream LF endobj LF                               (offset 27)
    startxref LF 27 LF %%EOF
-/
namespace Lopdf.Grammar
open Lopdf Gen

def sVer : Bytes := [49, 46, 53]
def sBody : Bytes := [49, 32, 48, 32, 111, 98, 106, 10, 47, 65, 10, 101, 110, 100, 111, 98, 106, 10]
def sSubs : List SSub := [(1, [(1, 9, 0), (1, 27, 0)])]


def sEntries : List (Bytes × Obj) :=
  [(kSize, .int 3), ([87], .arr [.int 1, .int 1, .int 0]), (kIndex, .arr [.int 1, .int 2]), (kLength, .int 4)]

def sEbs : Bytes :=
  47 :: kSize ++ [32] ++ [51] ++ [] ++
   (47 :: [87] ++ [] ++ (91 :: [] ++ ([49] ++ [32] ++ ([49] ++ [32] ++ ([48] ++ [] ++ []))) ++ [93]) ++ [] ++
    (47 :: kIndex ++ [] ++ (91 :: [] ++ ([49] ++ [32] ++ ([50] ++ [] ++ [])) ++ [93]) ++ [] ++
     (47 :: kLength ++ [32] ++ [52] ++ [] ++ [])))

theorem sEntries_derive : DerivesEntries 1 sEntries sEbs :=
  entrySp kSize_name (digitObj 1 3 51 (by decide) (by decide))
    (entryTight w_name (stopHead_delim 91 _ (by decide))
      (arrObj _ _ (spItem _ _ _ _ (digitObj 0 1 49 (by decide) (by decide))
        (spItem _ _ _ _ (digitObj 0 1 49 (by decide) (by decide)) (lastItem _ _ (digitObj 0 0 48 (by decide) (by decide))))))
      (entryTight kIndex_name (stopHead_delim 91 _ (by decide))
        (arrObj _ _ (spItem _ _ _ _ (digitObj 0 1 49 (by decide) (by decide))
          (lastItem _ _ (digitObj 0 2 50 (by decide) (by decide)))))
        (entrySp kLength_name (digitObj 1 4 52 (by decide) (by decide)) (.nil 1))))

def sDict : Dict := setEntries [] sEntries
def sData : Bytes := encodeSubs 1 1 0 sSubs

def sXrefObj : Bytes :=
  [50] ++ ([32] ++ ([48] ++ ([32] ++ ([111, 98, 106] ++ ([10] ++
    (streamSpelling [] sEbs [10] [] [10] sData [10] ++ ([10] ++ [101, 110, 100, 111, 98, 106])))))))

theorem sXrefObj_derives : DerivesIndirect (2, 0) (.stream sDict sData) sXrefObj :=
  streamLf 2 50 (by decide) (by decide) sData sEntries_derive (by decide) rfl

def sAfter : Bytes := [10] ++ (STARTXREF ++ ([10] ++ ([] ++ ([50, 55] ++ ([] ++ ([10] ++ (EOF_MARK ++ [])))))))
def sTail : Bytes := sXrefObj ++ sAfter

def sFile : Bytes := (PDF_KW ++ (sVer ++ ([10] ++ sBody))) ++ sTail

def sVal : Nat → Nat × Obj := fun k => if k = 1 then (0, .name [65]) else (0, .stream sDict sData)

/-- the concrete cross-reference-stream file loads to exactly object `1 0 = /A` and the
cross-reference stream `2 0` itself -/
theorem sFile_loads : ∃ L, loadDoc sFile = .ok L ∧ L.version = sVer ∧ L.xrefStart = 27 ∧
    L.trailer = [(kSize, .int 3)] ∧
    L.objects.get (1, 0) = some (.name [65]) ∧ L.objects.get (2, 0) = some (.stream sDict sData) ∧
    L.objects.get (3, 0) = none := by
  have htab : streamTableOf sSubs = [(1, .normal 9 0), (2, .normal 27 0)] := by decide +kernel
  obtain ⟨L, h1, h2, h3, h4, _, h6, h7⟩ := loadDoc_complete_stream sVer [10] sBody sDict 3 1 1 0 sSubs [10] [10] []
    [50, 55] [] [10] [] sVal (by decide) .lf sXrefObj_derives
    rfl rfl rfl (Or.inl rfl) (by unfold SubsOk sSubs RowOk; decide +kernel) (by decide) (by decide) rfl rfl
    .lf allSp_nil (natLit _ [50, 55] (by decide)) allSp_nil .lf .none
    (by decide) (by rw [htab]; decide) sFile rfl
    (by
      rw [htab]
      exact forall_get_cons ⟨9, rfl, definesAt_split (PDF_KW ++ (sVer ++ LF)) (LF ++ sTail)
          (indirectLf 1 49 (by decide) (by decide) (nameObj 0 [65] (by decide)) (by decide)) (notObjStm_name _) rfl rfl⟩
        (forall_get_cons ⟨27, rfl, definesAt_split (PDF_KW ++ (sVer ++ (LF ++ sBody))) sAfter sXrefObj_derives
          (notObjStm_stream _ _ rfl) rfl rfl⟩ forall_get_nil))
  refine ⟨L, h1, h2, h4, ?_, ?_, ?_, ?_⟩
  · rw [h3]; rfl
  · exact h6 1 (.normal 9 0) (by rw [htab]; rfl)
  · exact h6 2 (.normal 27 0) (by rw [htab]; rfl)
  · exact h7 (3, 0) (Or.inl (by rw [htab]; rfl))

end Lopdf.Grammar
