import LopdfModel.Thm.C11Count
import LopdfModel.Lemmas.Iso
import LopdfModel.Thm.C12
/-
  C11 — `delete_pages` on a well-formed page tree, the whole statement
  (`delete_pages_spec`): the enumeration afterwards is the former one without the named pages, every
  `Count` is exact, the page objects are gone — for arbitrary page-number lists.
-/
namespace Lopdf.Ed
open Lopdf Lopdf.DictL

mutual
/-- the document holds the tree's SHAPE: every leaf is a `Page` dictionary whose `Parent` is its parent node,
every `Pages` node is a dictionary of type `Pages` whose `Kids` is the array of references to its children,
in order; all these dictionaries have pairwise distinct keys -/
def Shape (os : Objects) : Option ObjId → PT → Prop
  | top, .page id => ∃ pd, os.get id = some (.dict pd) ∧ NoDup pd ∧ Dict.get pd TYPE = some (.name PAGE) ∧
      (Dict.get pd PARENT).bind Obj.asRef = top
  | _, .pages id ks => ∃ nd, os.get id = some (.dict nd) ∧ NoDup nd ∧ Dict.get nd TYPE = some (.name PAGES) ∧
      Dict.get nd KIDS = some (.arr (PT.idsL ks)) ∧ ShapeL os (some id) ks
def ShapeL (os : Objects) : Option ObjId → List PT → Prop
  | _, [] => True
  | top, t :: ts => Shape os top t ∧ ShapeL os top ts
end

mutual
theorem shape_keeps (os os' : Objects) : ∀ (t : PT) (top : Option ObjId), Shape os top t →
    (∀ x, (x ∈ nodeIds t ∨ x ∈ t.leaves) → KeepsKeys [TYPE, KIDS, PARENT] os os' x) → Shape os' top t
  | .page id, top, h, hk => by
    obtain ⟨pd, h1, hn, hty, hp⟩ := h
    obtain ⟨pd', e', n1, g⟩ := hk id (Or.inr List.mem_cons_self) pd h1
    exact ⟨pd', e', n1 hn, (g TYPE (.head _)).trans hty, by rw [g PARENT (.tail _ (.tail _ (.head _)))]; exact hp⟩
  | .pages id ks, top, h, hk => by
    obtain ⟨nd, h1, hn, hty, hkids, hch⟩ := h
    obtain ⟨nd', e', n1, g⟩ := hk id (Or.inl List.mem_cons_self) nd h1
    exact ⟨nd', e', n1 hn, (g TYPE (.head _)).trans hty, (g KIDS (.tail _ (.head _))).trans hkids,
      shapeL_keeps os os' ks (some id) hch (fun x hx => hk x (hx.imp (List.mem_cons_of_mem _) fun h => h))⟩
theorem shapeL_keeps (os os' : Objects) : ∀ (ks : List PT) (top : Option ObjId), ShapeL os top ks →
    (∀ x, (x ∈ nodeIdsL ks ∨ x ∈ PT.leavesL ks) → KeepsKeys [TYPE, KIDS, PARENT] os os' x) → ShapeL os' top ks
  | [], _, _, _ => trivial
  | t :: ts, top, h, hk =>
    ⟨shape_keeps os os' t top h.1 (fun x hx => hk x (hx.imp (List.mem_append_left _) (List.mem_append_left _))),
     shapeL_keeps os os' ts top h.2 (fun x hx => hk x (hx.imp (List.mem_append_right _) (List.mem_append_right _)))⟩
end

theorem deepList_refs (p : ObjId) : ∀ ts : List PT, deepList (delAct p) (PT.idsL ts) = PT.idsL ts := by
  intro ts
  induction ts with
  | nil => rw [show PT.idsL [] = [] from rfl, deepList]
  | cons t rest ih =>
    rw [idsL_cons, deepList, ih]
    simp [PT.kidObj, deep_del_ref]

theorem isRefTo_kid (p : ObjId) (t : PT) : isRefTo p t.kidObj = decide (t.id = p) := by
  simp [PT.kidObj, isRefTo]

theorem idsL_removeLeafL (p : ObjId) : ∀ ks : List PT, (∀ t ∈ ks, ∀ id ks2, t = .pages id ks2 → id ≠ p) →
    (PT.idsL ks).filter (fun o => !isRefTo p o) = PT.idsL (removeLeafL p ks)
  | [], _ => by simp [PT.idsL, removeLeafL]
  | t :: ts, h => by
    have ih := idsL_removeLeafL p ts (fun t ht => h t (List.mem_cons_of_mem _ ht))
    rw [idsL_cons, List.filter_cons, isRefTo_kid, ih]
    cases t with
    | page id => rw [removeLeafL_page]; by_cases e : id = p <;> simp [e, PT.id, idsL_cons]
    | pages id ks2 => simp [removeLeafL_pages, h _ List.mem_cons_self id ks2 rfl, PT.id, idsL_cons, PT.kidObj]

theorem deep_del_kids (p : ObjId) (ks : List PT) (h : ∀ t ∈ ks, ∀ id ks2, t = .pages id ks2 → id ≠ p) :
    deepObj (delAct p) (.arr (PT.idsL ks)) = .arr (PT.idsL (removeLeafL p ks)) := by
  rw [deepObj_arr (a := delAct p) (items := (PT.idsL ks).filter (fun o => !isRefTo p o)) rfl,
    idsL_removeLeafL p ks h, deepList_refs]

theorem mem_refs_idsL : ∀ (ks : List PT) (t : PT), t ∈ ks → t.id ∈ refsOfL (PT.idsL ks)
  | [], _, h => by cases h
  | x :: xs, t, h => by
    rw [idsL_cons]
    simp only [refsOfL, List.mem_append]
    rcases List.mem_cons.mp h with rfl | h'
    · left; simp [PT.kidObj, refsOf]
    · right; exact mem_refs_idsL xs t h'

theorem mem_removeLeafL_pages (p : ObjId) : ∀ (ks : List PT) (id : ObjId) (ks2 : List PT),
    PT.pages id ks2 ∈ ks → PT.pages id (removeLeafL p ks2) ∈ removeLeafL p ks
  | [], _, _, h => by cases h
  | t :: ts, id, ks2, h => by
    have ih := mem_removeLeafL_pages p ts id ks2
    cases t with
    | page i =>
      have := ih ((List.mem_cons.mp h).resolve_left (by simp))
      rw [removeLeafL_page]; split
      · exact this
      · exact List.mem_cons_of_mem _ this
    | pages i k =>
      rw [removeLeafL_pages]
      rcases List.mem_cons.mp h with e | h'
      · cases e; exact List.mem_cons_self
      · exact List.mem_cons_of_mem _ (ih h')

theorem mem_nodeIdsL_of_pages : ∀ (ks : List PT) (i : ObjId) (k2 : List PT), PT.pages i k2 ∈ ks → i ∈ nodeIdsL ks
  | [], _, _, h => by cases h
  | x :: xs, i, k2, h => by
    simp only [nodeIdsL, List.mem_append]
    rcases List.mem_cons.mp h with e | h'
    · left; rw [← e]; simp [nodeIds]
    · right; exact mem_nodeIdsL_of_pages xs i k2 h'

section DeleteShape
variable (d : Doc) (p : ObjId)

/-- the ids `delete_object(p)`'s traversal pushed -/
abbrev delRefs : List ObjId := (traverse (delAct p) (stripDict p d.trailer) d.objects).2.2

/-- the object map before the final `objects.remove(p)` -/
abbrev delMid : Objects := (traverse (delAct p) (stripDict p d.trailer) d.objects).2.1

theorem delMid_get (k : ObjId) : (delMid d p).get k =
    if k ∈ delRefs d p then (d.objects.get k).map (deepObj (delAct p)) else d.objects.get k :=
  (traverse_visits_once (delAct p) (stripDict p d.trailer) d.objects).2.2 k

theorem delete_get (k : ObjId) (hk : k ≠ p) : (deleteObject d p).1.objects.get k = (delMid d p).get k := by
  simp [deleteObject, Objects.get_remove, Ne.symm hk]

theorem delete_get_self : (deleteObject d p).1.objects.get p = none := by
  simp [deleteObject, Objects.get_remove]

theorem delete_trailer : (deleteObject d p).1.trailer = delDict p d.trailer :=
  (traverse_visits_once (delAct p) (stripDict p d.trailer) d.objects).1

theorem delMid_dict {id : ObjId} {nd : Dict} (hv : id ∈ delRefs d p) (h1 : d.objects.get id = some (.dict nd)) :
    (delMid d p).get id = some (.dict (delDict p nd)) := by
  rw [delMid_get, if_pos hv, h1, Option.map_some, deep_del_dict]

theorem delRefs_of_trailer {key : Bytes} {v : Obj} (hk : Dict.get (delDict p d.trailer) key = some v) :
    ∀ r ∈ refsOf v, r ∈ delRefs d p := fun r hr =>
  (traverse_closed (delAct p) (stripDict p d.trailer) d.objects).1 r
    ((traverse_visits_once (delAct p) (stripDict p d.trailer) d.objects).1 ▸ Ren.mem_refsOfD_of_get _ key v hk r hr)

theorem delRefs_of_entry {id : ObjId} {nd : Dict} (hv : id ∈ delRefs d p) (h1 : d.objects.get id = some (.dict nd))
    {key : Bytes} {v : Obj} (hk : Dict.get (delDict p nd) key = some v) : ∀ r ∈ refsOf v, r ∈ delRefs d p := fun r hr =>
  (traverse_closed (delAct p) (stripDict p d.trailer) d.objects).2 id hv _ (delMid_dict d p hv h1) r
    (Ren.mem_refsOfD_of_get _ key v hk r hr)

theorem leaf_after (id : ObjId) (hid : id ≠ p) (pd : Dict) (top : Option ObjId) (htop : top ≠ some p)
    (h1 : d.objects.get id = some (.dict pd)) (hn : NoDup pd) (ht : Dict.get pd TYPE = some (.name PAGE))
    (hp : (Dict.get pd PARENT).bind Obj.asRef = top) :
    ∃ pd', (deleteObject d p).1.objects.get id = some (.dict pd') ∧ NoDup pd' ∧
      Dict.get pd' TYPE = some (.name PAGE) ∧ (Dict.get pd' PARENT).bind Obj.asRef = top := by
  rw [delete_get d p id hid, delMid_get, h1]
  split
  · exact ⟨delDict p pd, by rw [Option.map_some, deep_del_dict], nodup_delDict p pd hn,
      by rw [get_delDict_of_get p pd hn ht rfl, deep_del_name], delDict_parent p pd hn top htop hp⟩
  · exact ⟨pd, rfl, hn, ht, hp⟩

mutual
/-- a visited `Pages` node keeps its shape, with the references to `p` gone from `Kids`, and so do its descendants
(which are visited because the node's new `Kids` still names them) -/
theorem shape_delete_tree : ∀ (t : PT) (top : Option ObjId), Shape d.objects top t → (∀ id, t ≠ .page id) →
    t.id ∈ delRefs d p → t.id ≠ p → p ∉ nodeIds t → Shape (deleteObject d p).1.objects top (removeLeaf p t)
  | .page id, _, _, hne, _, _, _ => absurd rfl (hne id)
  | .pages id ks, top, h, _, hvis, hid, hpn => by
    simp only [nodeIds, List.mem_cons, not_or] at hpn
    simp only [Shape, removeLeaf] at h ⊢
    obtain ⟨nd, h1, hn, hty, hkids, hch⟩ := h
    have hkidsne : ∀ t ∈ ks, ∀ i k2, t = .pages i k2 → i ≠ p := by
      rintro t ht i k2 rfl rfl
      exact hpn.2 (mem_nodeIdsL_of_pages ks i k2 ht)
    have hkids' : Dict.get (delDict p nd) KIDS = some (.arr (PT.idsL (removeLeafL p ks))) := by
      rw [get_delDict_of_get p nd hn hkids rfl, deep_del_kids p ks hkidsne]
    refine ⟨delDict p nd, by rw [delete_get d p id hid]; exact delMid_dict d p hvis h1, nodup_delDict p nd hn, ?_, hkids', ?_⟩
    · rw [get_delDict_of_get p nd hn hty rfl, deep_del_name]
    · refine shapeL_delete ks id hch hid (fun t ht i k2 e => ?_) hpn.2
      subst e
      exact delRefs_of_entry d p hvis h1 hkids' _ (mem_refs_idsL _ _ (mem_removeLeafL_pages p ks i k2 ht))
theorem shapeL_delete : ∀ (ks : List PT) (par : ObjId),
    ShapeL d.objects (some par) ks → par ≠ p → (∀ t ∈ ks, ∀ i k2, t = .pages i k2 → i ∈ delRefs d p) →
    p ∉ nodeIdsL ks → ShapeL (deleteObject d p).1.objects (some par) (removeLeafL p ks)
  | [], _, _, _, _, _ => by simp [removeLeafL, ShapeL]
  | t :: ts, par, h, hpar, hvis, hpn => by
    simp only [ShapeL] at h
    simp only [nodeIdsL, List.mem_append, not_or] at hpn
    have ih := shapeL_delete ts par h.2 hpar (fun t ht => hvis t (List.mem_cons_of_mem _ ht)) hpn.2
    cases t with
    | page id =>
      obtain ⟨pd, h1, hn, hty, hp⟩ := h.1
      rw [removeLeafL_page]
      split
      · exact ih
      · rename_i e
        exact ⟨leaf_after d p id e pd (some par) (by simpa using hpar) h1 hn hty hp, ih⟩
    | pages id ks2 =>
      have hid : id ≠ p := fun e => hpn.1 (by simp [nodeIds, e])
      rw [removeLeafL_pages]
      exact ⟨shape_delete_tree (.pages id ks2) (some par) h.1 (by simp) (hvis _ List.mem_cons_self id ks2 rfl) hid hpn.1, ih⟩
end

theorem shape_delete_node : ∀ (id : ObjId) (ks : List PT) (top : Option ObjId),
    Shape d.objects top (.pages id ks) → id ∈ delRefs d p → id ≠ p → p ∉ nodeIdsL ks →
    Shape (deleteObject d p).1.objects top (.pages id (removeLeafL p ks)) :=
  fun id ks top h hvis hid hpn =>
    shape_delete_tree d p (.pages id ks) top h (by simp) hvis hid (by simpa [nodeIds, Ne.symm hid] using hpn)

end DeleteShape

/-- an object before / after the `Parent` walk: untouched, or a dictionary in which only `Count` may differ -/
def CountOnly (o o' : Obj) : Prop :=
  o' = o ∨ ∃ nd nd', o = .dict nd ∧ o' = .dict nd' ∧ (NoDup nd → NoDup nd') ∧
    ∀ key, key ≠ COUNT → Dict.get nd' key = Dict.get nd key

theorem countOnly_refl (o : Obj) : CountOnly o o := Or.inl rfl

theorem countOnly_trans {a b c : Obj} (h1 : CountOnly a b) (h2 : CountOnly b c) : CountOnly a c := by
  rcases h1 with rfl | ⟨nd, nd', rfl, rfl, n1, g1⟩
  · exact h2
  · rcases h2 with rfl | ⟨md, md', e, rfl, n2, g2⟩
    · exact Or.inr ⟨nd, nd', rfl, rfl, n1, g1⟩
    · cases e
      exact Or.inr ⟨nd, md', rfl, rfl, fun h => n2 (n1 h), fun k hk => (g2 k hk).trans (g1 k hk)⟩

theorem countOnly_decCount (nd : Dict) : CountOnly (.dict nd) (.dict (decCount nd)) := by
  unfold decCount
  split
  · refine Or.inr ⟨nd, _, rfl, rfl, fun h => Dict.nodup_set h _ _, ?_⟩
    intro key hk; rw [Dict.get_set]; simp [Ne.symm hk]
  · exact Or.inl rfl

/-- pointwise: every object after the walk is `CountOnly`-related to what it was; no key appears or disappears -/
def WalkRel (os os' : Objects) : Prop :=
  ∀ x, (os.get x = none → os'.get x = none) ∧ ∀ o, os.get x = some o → ∃ o', os'.get x = some o' ∧ CountOnly o o'

theorem decCounts_walkRel (os : Objects) (seen : List ObjId) (r : Option ObjId) : WalkRel os (decCounts os seen r) :=
  Objects.Rel.decCounts countOnly_refl (fun _ _ _ => countOnly_trans) countOnly_decCount os seen r

theorem keepsKeys_of_walkRel {L : List Bytes} {os os' : Objects} (hr : WalkRel os os') (hL : COUNT ∉ L) (x : ObjId) :
    KeepsKeys L os os' x := by
  intro nd hg
  obtain ⟨o', e', r⟩ := (hr x).2 _ hg
  rcases r with rfl | ⟨nd0, nd', e, rfl, n1, g1⟩
  · exact ⟨nd, e', id, fun _ _ => rfl⟩
  · cases e
    exact ⟨nd', e', n1, fun key hk => g1 key fun e => hL (e ▸ hk)⟩

theorem count_not_shapeKey : COUNT ∉ [TYPE, KIDS, PARENT] := by decide

theorem shape_walk (os os' : Objects) (hr : WalkRel os os') (t : PT) (top : Option ObjId) (h : Shape os top t) :
    Shape os' top t :=
  shape_keeps os os' t top h fun x _ => keepsKeys_of_walkRel hr count_not_shapeKey x

theorem shapeL_walk (os os' : Objects) (hr : WalkRel os os') : ∀ (ks : List PT) (top : Option ObjId), ShapeL os top ks → ShapeL os' top ks :=
  fun ks top h => shapeL_keeps os os' ks top h fun x _ => keepsKeys_of_walkRel hr count_not_shapeKey x

theorem getType_of_name (dd : Dict) (n : Bytes) (h : Dict.get dd TYPE = some (.name n)) : Dict.getType dd = some n := by
  simp [Dict.getType, h, Obj.asName]

theorem kidsOf_direct (os : Objects) (id : ObjId) (dd : Dict) (items : List Obj) (h : os.get id = some (.dict dd))
    (hk : Dict.get dd KIDS = some (.arr items)) : kidsOf os id = some items := by
  simp [kidsOf, getDictionary_of_get h, hk, deref, derefAux, Obj.asArr]

theorem page_ne_pages : ¬ (PAGES = PAGE) := by decide

mutual
theorem embeds_of_shape (os : Objects) : ∀ (t : PT) (top : Option ObjId), Shape os top t → Embeds (classify os) t
  | .page id, top, h => by
    simp only [Shape] at h
    obtain ⟨pd, h1, _, hty, _⟩ := h
    simp only [Embeds]
    simp [classify, Obj.asRef, getDictionary_of_get h1, getType_of_name pd PAGE hty]
  | .pages id ks, top, h => by
    simp only [Shape] at h
    obtain ⟨nd, h1, _, hty, hk, hch⟩ := h
    simp only [Embeds]
    refine ⟨?_, embedsL_of_shape os ks (some id) hch⟩
    simp [classify, Obj.asRef, getDictionary_of_get h1, getType_of_name nd PAGES hty, page_ne_pages,
      kidsOf_direct os id nd _ h1 hk]
theorem embedsL_of_shape (os : Objects) : ∀ (ks : List PT) (top : Option ObjId), ShapeL os top ks → EmbedsL (classify os) ks
  | [], _, _ => by simp [EmbedsL]
  | t :: ts, top, h => by
    simp only [ShapeL] at h
    simp only [EmbedsL]
    exact ⟨embeds_of_shape os t top h.1, embedsL_of_shape os ts top h.2⟩
end

mutual
theorem size_eq : ∀ t : PT, t.size = (nodeIds t).length + t.leaves.length
  | .page _ => by simp [PT.size, nodeIds, PT.leaves]
  | .pages id ks => by simp [PT.size, nodeIds, PT.leaves, sizeL_eq ks]; omega
theorem sizeL_eq : ∀ ks : List PT, PT.sizeL ks = (nodeIdsL ks).length + (PT.leavesL ks).length
  | [] => by simp [PT.sizeL, nodeIdsL, PT.leavesL]
  | t :: ts => by simp [PT.sizeL, nodeIdsL, PT.leavesL, size_eq t, sizeL_eq ts]; omega
end

mutual
theorem shape_dict (os : Objects) : ∀ (t : PT) (top : Option ObjId), Shape os top t →
    ∀ x, (x ∈ nodeIds t ∨ x ∈ t.leaves) → ∃ nd, os.get x = some (.dict nd) ∧ NoDup nd
  | .page id, top, h, x, hx => by
    obtain ⟨pd, h1, hn, _⟩ := h
    obtain rfl : x = id := by simpa [nodeIds, PT.leaves] using hx
    exact ⟨pd, h1, hn⟩
  | .pages id ks, top, h, x, hx => by
    obtain ⟨nd, h1, hn, _, _, hch⟩ := h
    simp only [nodeIds, List.mem_cons, PT.leaves] at hx
    rcases hx with (rfl | hx) | hx
    · exact ⟨nd, h1, hn⟩
    · exact shapeL_dict os ks (some id) hch x (Or.inl hx)
    · exact shapeL_dict os ks (some id) hch x (Or.inr hx)
theorem shapeL_dict (os : Objects) : ∀ (ks : List PT) (top : Option ObjId), ShapeL os top ks →
    ∀ x, (x ∈ nodeIdsL ks ∨ x ∈ PT.leavesL ks) → ∃ nd, os.get x = some (.dict nd) ∧ NoDup nd
  | [], _, _, x, hx => by simp [nodeIdsL, PT.leavesL] at hx
  | t :: ts, top, h, x, hx => by
    simp only [nodeIdsL, PT.leavesL, List.mem_append] at hx
    rcases hx with (hx | hx) | (hx | hx)
    · exact shape_dict os t top h.1 x (Or.inl hx)
    · exact shapeL_dict os ts top h.2 x (Or.inl hx)
    · exact shape_dict os t top h.1 x (Or.inr hx)
    · exact shapeL_dict os ts top h.2 x (Or.inr hx)
end

theorem shape_leaves_keys (os : Objects) : ∀ (t : PT) (top : Option ObjId), Shape os top t →
    (∀ x ∈ t.leaves, x ∈ os.keys) ∧ (∀ x ∈ nodeIds t, x ∈ os.keys) := fun t top h =>
  ⟨fun x hx => let ⟨_, h1, _⟩ := shape_dict os t top h x (Or.inr hx); Objects.mem_keys_of_get h1,
   fun x hx => let ⟨_, h1, _⟩ := shape_dict os t top h x (Or.inl hx); Objects.mem_keys_of_get h1⟩

/-- **the well-formed document around a page tree**: trailer → catalog → root `Pages` node `rid` with children
`ks`; shape and bookkeeping exact; node ids, leaf ids and the catalog id pairwise distinct; nesting within the
documented limit -/
structure PagesInv (d : Doc) (cat rid : ObjId) (ks : List PT) : Prop where
  trN : NoDup d.trailer
  trRoot : Dict.get d.trailer ROOT = some (.ref cat.1 cat.2)
  catObj : ∃ cd, d.objects.get cat = some (.dict cd) ∧ NoDup cd ∧ Dict.get cd PAGES = some (.ref rid.1 rid.2)
  shape : Shape d.objects none (.pages rid ks)
  counts : TreeOK d.objects none (.pages rid ks)
  nodesN : (nodeIds (.pages rid ks)).Nodup
  leavesN : (PT.leavesL ks).Nodup
  disj : ∀ x ∈ PT.leavesL ks, x ∉ nodeIds (.pages rid ks)
  catOut : cat ∉ nodeIds (.pages rid ks) ∧ cat ∉ PT.leavesL ks
  height : PT.heightL ks ≤ Gen.PAGE_TREE_DEPTH_LIMIT

/-- in a well-formed document `page_iter` enumerates exactly the tree's leaves, in order -/
theorem pageIter_of_inv (d : Doc) (cat rid : ObjId) (ks : List PT) (h : PagesInv d cat rid ks) :
    pageIter d.trailer d.objects = PT.leavesL ks := by
  obtain ⟨cd, hc1, _, hc3⟩ := h.catObj
  have hsh := h.shape
  simp only [Shape] at hsh
  obtain ⟨nd, h1, _, _, hk, hch⟩ := hsh
  unfold pageIter
  simp only [h.trRoot, Option.bind_some, Obj.asRef, getDictionary_of_get hc1, hc3,
    kidsOf_direct d.objects rid nd _ h1 hk]
  apply iter_dfs (classify d.objects) ks d.objects.length (embedsL_of_shape d.objects ks (some rid) hch) _ h.height
  rw [sizeL_eq]
  have hkeys : ∀ x, (x ∈ nodeIdsL ks ∨ x ∈ PT.leavesL ks) → x ∈ d.objects.keys := fun x hx =>
    let ⟨_, h1, _⟩ := shapeL_dict d.objects ks (some rid) hch x hx; Objects.mem_keys_of_get h1
  have hnd : (nodeIdsL ks ++ PT.leavesL ks).Nodup := by
    rw [List.nodup_append]
    have hn := h.nodesN
    simp only [nodeIds, List.nodup_cons] at hn
    refine ⟨hn.2, h.leavesN, ?_⟩
    intro a ha b hb e
    subst e
    exact h.disj a hb (by simp [nodeIds, ha])
  have := nodup_subset_length hnd (m := d.objects.keys) (fun x hx => hkeys x (List.mem_append.mp hx))
  simpa [Objects.keys] using this

theorem shape_nodesNoDup (os : Objects) (t : PT) (top : Option ObjId) (h : Shape os top t) : NodesNoDup os (nodeIds t) :=
  fun x hx nd' hx' => by
    obtain ⟨nd, h1, hn⟩ := shape_dict os t top h x (Or.inl hx)
    rw [h1] at hx'; cases hx'; exact hn

theorem shapeL_nodesNoDup (os : Objects) : ∀ (ks : List PT) (top : Option ObjId), ShapeL os top ks → NodesNoDup os (nodeIdsL ks) :=
  fun ks top h x hx nd' hx' => by
    obtain ⟨nd, h1, hn⟩ := shapeL_dict os ks top h x (Or.inl hx)
    rw [h1] at hx'; cases hx'; exact hn

mutual
theorem height_removeLeaf (p : ObjId) : ∀ t : PT, (removeLeaf p t).height ≤ t.height
  | .page _ => by simp [removeLeaf]
  | .pages id ks => by simp only [removeLeaf, PT.height]; have := heightL_removeLeafL p ks; omega
theorem heightL_removeLeafL (p : ObjId) : ∀ ks : List PT, PT.heightL (removeLeafL p ks) ≤ PT.heightL ks
  | [] => by simp [removeLeafL]
  | t :: ts => by
    have ih := heightL_removeLeafL p ts
    cases t with
    | page id => rw [removeLeafL_page]; split <;> simp only [PT.heightL, PT.height] <;> omega
    | pages id ks =>
      have := height_removeLeaf p (.pages id ks)
      simp only [removeLeaf] at this
      simp only [removeLeafL_pages, PT.heightL]; omega
end

theorem isRefTo_ref_ne (p x : ObjId) (h : x ≠ p) : isRefTo p (.ref x.1 x.2) = false := by
  simp [isRefTo]; intro e; exact h (Prod.ext (by simpa using congrArg Prod.fst e) (by simpa using congrArg Prod.snd e))

/-- what `delete_object(p)` leaves of a well-formed document when `p` is neither a `Pages` node nor the catalog:
the anchoring (trailer → catalog → root), the shape of the tree without the leaf `p`, and the OLD bookkeeping -/
theorem inv_deleteObject (d : Doc) (cat rid : ObjId) (ks : List PT) (h : PagesInv d cat rid ks) (p : ObjId)
    (hpn : p ∉ nodeIds (.pages rid ks)) (hpc : p ≠ cat) :
    NoDup (deleteObject d p).1.trailer ∧
    Dict.get (deleteObject d p).1.trailer ROOT = some (.ref cat.1 cat.2) ∧
    (∃ cd, (deleteObject d p).1.objects.get cat = some (.dict cd) ∧ NoDup cd ∧ Dict.get cd PAGES = some (.ref rid.1 rid.2)) ∧
    Shape (deleteObject d p).1.objects none (.pages rid (removeLeafL p ks)) ∧
    TreeOK (deleteObject d p).1.objects none (.pages rid ks) := by
  have hcp : cat ≠ p := fun e => hpc e.symm
  have hrp : rid ≠ p := fun e => hpn (by simp [nodeIds, e])
  have htr := delete_trailer d p
  have hroot : Dict.get (delDict p d.trailer) ROOT = some (.ref cat.1 cat.2) := by
    rw [get_delDict_of_get p d.trailer h.trN h.trRoot (isRefTo_ref_ne p cat hcp), deep_del_ref]
  obtain ⟨cd, hc1, hc2, hc3⟩ := h.catObj
  -- the catalog is visited, and so is the root
  have hcatv : cat ∈ delRefs d p := delRefs_of_trailer d p hroot cat (by simp [refsOf])
  have hpages : Dict.get (delDict p cd) PAGES = some (.ref rid.1 rid.2) := by
    rw [get_delDict_of_get p cd hc2 hc3 (isRefTo_ref_ne p rid hrp), deep_del_ref]
  have hrootv : rid ∈ delRefs d p := delRefs_of_entry d p hcatv hc1 hpages rid (by simp [refsOf])
  refine ⟨by rw [htr]; exact nodup_delDict p _ h.trN, by rw [htr]; exact hroot,
    ⟨delDict p cd, by rw [delete_get d p cat hcp]; exact delMid_dict d p hcatv hc1, nodup_delDict p cd hc2, hpages⟩, ?_, ?_⟩
  · exact shape_delete_node d p rid ks none h.shape hrootv hrp (fun hm => hpn (by simp [nodeIds, hm]))
  · exact treeOK_delete d p (.pages rid ks) none h.counts (by simp) hpn (shape_nodesNoDup d.objects _ none h.shape)

theorem deletePage1_absent (d : Doc) (pages : List ObjId) (n : Nat) (p : ObjId)
    (hn0 : n ≠ 0) (hpg : pages[n - 1]? = some p) (hpo : d.objects.get p = none) :
    deletePage1 pages d n = (deleteObject d p).1 := by
  have hret : (deleteObject d p).2 = none := by
    have hv := (traverse_visits_once (delAct p) (stripDict p d.trailer) d.objects).2.2 p
    simp only [deleteObject]; rw [hv, hpo]; simp
  unfold deletePage1
  simp only [hn0, if_false, hpg]
  cases hdo : deleteObject d p with
  | mk d1 ro => rw [hdo] at hret; simp only at hret; subst hret; rfl

mutual
theorem leaf_parent_node (os : Objects) (p : ObjId) : ∀ (t : PT) (top : Option ObjId),
    Shape os top t → (∀ id, t ≠ .page id) → p ∈ t.leaves →
    ∃ q pd, IsParent q p t ∧ q ∈ nodeIds t ∧ os.get p = some (.dict pd) ∧ NoDup pd ∧
      (Dict.get pd PARENT).bind Obj.asRef = some q
  | .page id, _, _, hne, _ => absurd rfl (hne id)
  | .pages id ks, top, h, _, hp => by
    obtain ⟨_, _, _, _, _, hch⟩ := h
    obtain ⟨q, pd, hq, r⟩ := leaf_parent_list os p ks id hch hp
    refine ⟨q, pd, ?_, ?_, r⟩
    · exact hq.imp (fun a => ⟨a.1.symm, a.2⟩) (fun a => a.1)
    · rcases hq with a | a
      · simp [nodeIds, a.1]
      · simp [nodeIds, a.2]
theorem leaf_parent_list (os : Objects) (p : ObjId) : ∀ (ks : List PT) (par : ObjId),
    ShapeL os (some par) ks → p ∈ PT.leavesL ks →
    ∃ q pd, ((q = par ∧ DirectLeaf p ks) ∨ (IsParentL q p ks ∧ q ∈ nodeIdsL ks)) ∧
      os.get p = some (.dict pd) ∧ NoDup pd ∧ (Dict.get pd PARENT).bind Obj.asRef = some q
  | [], _, _, hp => by simp [PT.leavesL] at hp
  | t :: ts, par, h, hp => by
    simp only [ShapeL] at h
    simp only [PT.leavesL, List.mem_append] at hp
    have tail : p ∈ PT.leavesL ts → ∃ q pd, ((q = par ∧ DirectLeaf p (t :: ts)) ∨
        (IsParentL q p (t :: ts) ∧ q ∈ nodeIdsL (t :: ts))) ∧
        os.get p = some (.dict pd) ∧ NoDup pd ∧ (Dict.get pd PARENT).bind Obj.asRef = some q := fun hp => by
      obtain ⟨q, pd, hq, r⟩ := leaf_parent_list os p ts par h.2 hp
      refine ⟨q, pd, hq.imp (fun a => ⟨a.1, ?_⟩) (fun a => ⟨Or.inr a.1, by simp [nodeIdsL, a.2]⟩), r⟩
      cases t <;> simp [DirectLeaf, a.2]
    cases t with
    | page id =>
      obtain ⟨pd, h1, hn, _, hpar⟩ := h.1
      rcases hp with hp | hp
      · obtain rfl : p = id := by simpa [PT.leaves] using hp
        exact ⟨par, pd, Or.inl ⟨rfl, Or.inl rfl⟩, h1, hn, hpar⟩
      · exact tail hp
    | pages id ks2 =>
      rcases hp with hp | hp
      · obtain ⟨q, pd, hq, hqn, r⟩ := leaf_parent_node os p (.pages id ks2) (some par) h.1 (by simp) hp
        exact ⟨q, pd, Or.inr ⟨Or.inl hq, by simp [nodeIdsL, hqn]⟩, r⟩
      · exact tail hp
end

theorem deleteObject_none (d : Doc) (p x : ObjId) (h : d.objects.get x = none) : (deleteObject d p).1.objects.get x = none := by
  simp only [deleteObject, Objects.get_remove]
  split
  · rfl
  · exact Option.not_isSome_iff_eq_none.mp (by rw [traverse_isSome, h]; simp)

theorem inv_struct (d : Doc) (cat rid : ObjId) (ks : List PT) (h : PagesInv d cat rid ks) (p : ObjId) :
    (nodeIds (.pages rid (removeLeafL p ks))).Nodup ∧ (PT.leavesL (removeLeafL p ks)).Nodup ∧
    (∀ x ∈ PT.leavesL (removeLeafL p ks), x ∉ nodeIds (.pages rid (removeLeafL p ks))) ∧
    (cat ∉ nodeIds (.pages rid (removeLeafL p ks)) ∧ cat ∉ PT.leavesL (removeLeafL p ks)) ∧
    PT.heightL (removeLeafL p ks) ≤ Gen.PAGE_TREE_DEPTH_LIMIT := by
  have e1 : nodeIds (.pages rid (removeLeafL p ks)) = nodeIds (.pages rid ks) := by simp [nodeIds, nodeIdsL_removeLeafL]
  have hsub : ∀ x ∈ PT.leavesL (removeLeafL p ks), x ∈ PT.leavesL ks := by
    intro x hx; rw [leavesL_removeLeafL] at hx; exact (List.mem_filter.mp hx).1
  refine ⟨by rw [e1]; exact h.nodesN, ?_, ?_, ⟨by rw [e1]; exact h.catOut.1, fun hm => h.catOut.2 (hsub _ hm)⟩,
    Nat.le_trans (heightL_removeLeafL p ks) h.height⟩
  · rw [leavesL_removeLeafL]; exact List.Nodup.sublist List.filter_sublist h.leavesN
  · intro x hx; rw [e1]; exact h.disj x (hsub x hx)

/-- **one iteration of `delete_pages` keeps the document well-formed**, for the tree without the page. The page
named by number `n` is a leaf of the current tree, or was deleted before (no object any more). -/
theorem inv_deletePage1 (d : Doc) (cat rid : ObjId) (ks : List PT) (h : PagesInv d cat rid ks)
    (pages : List ObjId) (n : Nat) (p : ObjId) (hn0 : n ≠ 0) (hpg : pages[n - 1]? = some p)
    (hpn : p ∉ nodeIds (.pages rid ks)) (hpc : p ≠ cat)
    (hp : p ∈ PT.leavesL ks ∨ d.objects.get p = none) :
    PagesInv (deletePage1 pages d n) cat rid (removeLeafL p ks) ∧ (deletePage1 pages d n).objects.get p = none ∧
    ∀ x, d.objects.get x = none → (deletePage1 pages d n).objects.get x = none := by
  obtain ⟨i1, i2, i3, i4, i5⟩ := inv_deleteObject d cat rid ks h p hpn hpc
  obtain ⟨s1, s2, s3, s4, s5⟩ := inv_struct d cat rid ks h p
  by_cases hgone : d.objects.get p = none
  · -- already deleted: nothing but the (idle) stripping pass happens
    rw [deletePage1_absent d pages n p hn0 hpg hgone]
    have hnl : p ∉ PT.leavesL ks := by
      intro hm
      obtain ⟨_, h1, _⟩ := shape_dict d.objects _ none h.shape p (Or.inr hm)
      rw [hgone] at h1; cases h1
    have e : removeLeafL p ks = ks := removeLeafL_of_not_mem p ks hnl
    refine ⟨?_, deleteObject_none d p p hgone, fun x hx => deleteObject_none d p x hx⟩
    rw [e]; rw [e] at i4
    exact ⟨i1, i2, i3, i4, i5, h.nodesN, h.leavesN, h.disj, h.catOut, h.height⟩
  · have hpl : p ∈ PT.leavesL ks := hp.resolve_right hgone
    obtain ⟨q, pd, hq, hqn, hpo, hpdn, hpp⟩ := leaf_parent_node d.objects p (.pages rid ks) none h.shape (by simp) hpl
    have hqp : q ≠ p := fun e => hpn (e ▸ hqn)
    rw [deletePage1_eq d pages n p q pd hn0 hpg hpo hpdn hpp hqp]
    obtain ⟨w1, w2⟩ := delete_pages_count p q (.pages rid ks) (deleteObject d p).1.objects hq h.nodesN
      (by simpa [PT.leaves] using h.leavesN) i5
    have hrel := decCounts_walkRel (deleteObject d p).1.objects [] (some q)
    refine ⟨⟨i1, i2, ?_, ?_, ?_, s1, s2, s3, s4, s5⟩, ?_, ?_⟩
    · obtain ⟨cd, c1, c2, c3⟩ := i3
      exact ⟨cd, by simp only; rw [w2 cat h.catOut.1]; exact c1, c2, c3⟩
    · exact shape_walk _ _ hrel _ none i4
    · simpa [removeLeaf] using w1
    · simp only; rw [w2 p hpn]; exact delete_get_self d p
    · intro x hx; exact (hrel x).1 (deleteObject_none d p x hx)

/-- the page a 1-based page number names in the enumeration taken at entry (`pages.get(page_number)`) -/
def pickPage (pages : List ObjId) (n : Nat) : Option ObjId := if n = 0 then none else pages[n - 1]?

/-- the pages a list of page numbers names: duplicates, 0 and numbers past the end simply name nothing new -/
def namedPages (pages : List ObjId) (ns : List Nat) : List ObjId := ns.filterMap (pickPage pages)

theorem deletePage1_noop (pages : List ObjId) (d : Doc) (n : Nat) (h : pickPage pages n = none) :
    deletePage1 pages d n = d := by
  unfold deletePage1; unfold pickPage at h; rw [h]

/-- what the loop of `delete_pages` carries from one page number to the next -/
structure LoopInv (pages : List ObjId) (cat rid : ObjId) (nodes : List ObjId) (d : Doc) (ks : List PT) : Prop where
  inv : PagesInv d cat rid ks
  nodesEq : nodeIds (.pages rid ks) = nodes
  live : ∀ x ∈ pages, x ∈ PT.leavesL ks ∨ d.objects.get x = none

theorem loop_step (pages : List ObjId) (cat rid : ObjId) (nodes : List ObjId)
    (hpn : ∀ x ∈ pages, x ∉ nodes) (hpc : cat ∉ pages) (d : Doc) (ks : List PT) (n : Nat) (p : ObjId)
    (h : LoopInv pages cat rid nodes d ks) (hp : pickPage pages n = some p) :
    LoopInv pages cat rid nodes (deletePage1 pages d n) (removeLeafL p ks) ∧
    (deletePage1 pages d n).objects.get p = none ∧
    ∀ x, d.objects.get x = none → (deletePage1 pages d n).objects.get x = none := by
  have hn0 : n ≠ 0 := by intro e; simp [pickPage, e] at hp
  have hpg : pages[n - 1]? = some p := by simpa [pickPage, hn0] using hp
  have hmem : p ∈ pages := List.mem_of_getElem? hpg
  obtain ⟨r1, r2, r3⟩ := inv_deletePage1 d cat rid ks h.inv pages n p hn0 hpg
    (by rw [h.nodesEq]; exact hpn p hmem) (fun e => hpc (e ▸ hmem)) (h.live p hmem)
  refine ⟨⟨r1, by rw [← h.nodesEq]; simp [nodeIds, nodeIdsL_removeLeafL], ?_⟩, r2, r3⟩
  intro x hx
  by_cases e : x = p
  · right; rw [e]; exact r2
  · rcases h.live x hx with hl | hg
    · left; rw [leavesL_removeLeafL]; exact List.mem_filter.mpr ⟨hl, by simp [e]⟩
    · right; exact r3 x hg

theorem loop_run (pages : List ObjId) (cat rid : ObjId) (nodes : List ObjId)
    (hpn : ∀ x ∈ pages, x ∉ nodes) (hpc : cat ∉ pages) : ∀ (ns : List Nat) (d : Doc) (ks : List PT),
    LoopInv pages cat rid nodes d ks →
    ∃ ks', LoopInv pages cat rid nodes (ns.foldl (fun acc n => deletePage1 pages acc n) d) ks' ∧
      PT.leavesL ks' = (PT.leavesL ks).filter (fun x => !(namedPages pages ns).contains x) ∧
      (∀ x, d.objects.get x = none → (ns.foldl (fun acc n => deletePage1 pages acc n) d).objects.get x = none) ∧
      (∀ x ∈ namedPages pages ns, (ns.foldl (fun acc n => deletePage1 pages acc n) d).objects.get x = none) := by
  intro ns
  induction ns with
  | nil =>
    intro d ks h
    exact ⟨ks, h, (List.filter_eq_self.mpr (by simp [namedPages])).symm, fun _ hx => hx, by simp [namedPages]⟩
  | cons n rest ih =>
    intro d ks h
    simp only [List.foldl_cons]
    cases hp : pickPage pages n with
    | none =>
      rw [deletePage1_noop pages d n hp]
      obtain ⟨ks', a1, a2, a3, a4⟩ := ih d ks h
      refine ⟨ks', a1, ?_, a3, ?_⟩
      · rw [a2]; simp [namedPages, hp]
      · intro x hx; apply a4; simpa [namedPages, hp] using hx
    | some p =>
      obtain ⟨s1, s2, s3⟩ := loop_step pages cat rid nodes hpn hpc d ks n p h hp
      obtain ⟨ks', a1, a2, a3, a4⟩ := ih _ _ s1
      refine ⟨ks', a1, ?_, fun x hx => a3 x (s3 x hx), ?_⟩
      · rw [a2, leavesL_removeLeafL, List.filter_filter]
        apply List.filter_congr
        intro x _
        simp only [namedPages, List.filterMap_cons, hp, List.contains_cons]
        by_cases e : x = p <;> simp [e]
      · intro x hx
        simp only [namedPages, List.filterMap_cons, hp, List.mem_cons] at hx
        rcases hx with rfl | hx
        · exact a3 _ s2
        · exact a4 x hx

/-- **C11, `delete_pages` on a well-formed page tree — the whole statement.**  Let `d` be a document whose page
tree (any shape, nesting within the documented limit) is well-formed (`PagesInv`: trailer → catalog → root,
every node a `Pages` dictionary whose `Kids` lists its children and whose `Count` is the number of leaf pages
below it, every leaf a `Page` dictionary naming its parent, ids pairwise distinct).  For EVERY list of page
numbers — repeated numbers, 0 and numbers past the end included — after `delete_pages(ns)`:
* the document is again well-formed, for a tree `ks'` whose leaves are the former pages without the named ones,
  in the former order; in particular every `Count` is the number of leaf pages below its node;
* `page_iter` enumerates exactly those pages, in that order;
* the named pages' objects are gone. -/
theorem delete_pages_spec (d : Doc) (cat rid : ObjId) (ks : List PT) (h : PagesInv d cat rid ks) (ns : List Nat) :
    ∃ ks', PagesInv (deletePages d ns) cat rid ks' ∧
      PT.leavesL ks' = (PT.leavesL ks).filter (fun x => !(namedPages (PT.leavesL ks) ns).contains x) ∧
      pageIter (deletePages d ns).trailer (deletePages d ns).objects =
        (pageIter d.trailer d.objects).filter (fun x => !(namedPages (pageIter d.trailer d.objects) ns).contains x) ∧
      ∀ x ∈ namedPages (pageIter d.trailer d.objects) ns, (deletePages d ns).objects.get x = none := by
  have hpi := pageIter_of_inv d cat rid ks h
  have hkeys : ∀ x ∈ PT.leavesL ks, x ∈ PT.leavesL ks ∨ d.objects.get x = none := fun x hx => Or.inl hx
  obtain ⟨ks', a1, a2, _, a4⟩ := loop_run (PT.leavesL ks) cat rid (nodeIds (.pages rid ks))
    (fun x hx => h.disj x hx) h.catOut.2 ns d ks ⟨h, rfl, hkeys⟩
  have hdp : deletePages d ns = ns.foldl (fun acc n => deletePage1 (PT.leavesL ks) acc n) d := by
    unfold deletePages; simp only [hpi]
  rw [hdp, hpi]
  refine ⟨ks', a1.inv, a2, ?_, a4⟩
  rw [pageIter_of_inv _ cat rid ks' a1.inv, a2]

/-! #### non-vacuity: a concrete well-formed document -/

/-- catalog 1, root 3 with pages 2 and 4 -/
def wsound : Doc :=
  { trailer := [(ROOT, .ref 1 0)], maxId := 5, bookmarks := [], bmTable := [],
    objects := [((1,0), .dict [(PAGES, .ref 3 0)]),
                ((2,0), .dict [(TYPE, .name PAGE), (PARENT, .ref 3 0)]),
                ((3,0), .dict [(TYPE, .name PAGES), (KIDS, .arr [.ref 2 0, .ref 4 0]), (COUNT, .int 2)]),
                ((4,0), .dict [(TYPE, .name PAGE), (PARENT, .ref 3 0)])] }

theorem wsound_pages : PagesInv wsound (1,0) (3,0) [.page (2,0), .page (4,0)] where
  trN := by unfold NoDup; decide
  trRoot := rfl
  catObj := ⟨_, rfl, by unfold NoDup; decide, rfl⟩
  shape := ⟨_, rfl, by unfold NoDup; decide, rfl, rfl,
    ⟨_, rfl, by unfold NoDup; decide, rfl, rfl⟩, ⟨_, rfl, by unfold NoDup; decide, rfl, rfl⟩, trivial⟩
  counts := ⟨⟨_, rfl, rfl, rfl⟩, trivial, trivial, trivial⟩
  nodesN := by decide
  leavesN := by decide
  disj := by decide
  catOut := by decide
  height := by decide

example : PagesInv
    { trailer := [(ROOT, .ref 1 0)], maxId := 5, bookmarks := [], bmTable := [],
      objects := [((1,0), .dict [(PAGES, .ref 3 0)]),
                  ((2,0), .dict [(TYPE, .name PAGE), (PARENT, .ref 3 0)]),
                  ((3,0), .dict [(TYPE, .name PAGES), (KIDS, .arr [.ref 2 0, .ref 4 0]), (COUNT, .int 2)]),
                  ((4,0), .dict [(TYPE, .name PAGE), (PARENT, .ref 3 0)])] }
    (1,0) (3,0) [.page (2,0), .page (4,0)] := wsound_pages

end Lopdf.Ed
