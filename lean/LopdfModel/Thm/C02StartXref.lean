import LopdfModel.Thm.C02Xref
/-
  C02 — the `startxref` section: `startxref` EOL [blanks] offset [blanks] EOL `%%EOF`, any of the
  three end-of-line markers, any number of blanks around the offset, any numeral (leading
  zeros) within i64: `xref_start` reads the offset.
-/
namespace Lopdf.Grammar
open Lopdf Gen

/-- blanks (SP only — what `xref_start` tolerates around the offset) -/
def AllSp (s : Bytes) : Prop := ∀ b ∈ s, (b == 32) = true

theorem skipSpaces_append (s t : Bytes) (hs : AllSp s) (ht : ∀ b r, t = b :: r → (b == 32) = false) :
    skipSpaces (s ++ t) = t := by
  unfold skipSpaces
  rw [spanP_append (fun b => b == 32) s t hs ht]

theorem allSp_ahead {s t : Bytes} {Q : UInt8 → Prop} (hs : AllSp s) (hq : Q 32) (ht : Ahead Q t) :
    Ahead Q (s ++ t) :=
  Ahead.append (fun b r e => by
    have := hs b (e ▸ List.mem_cons_self)
    simp only [beq_iff_eq] at this
    exact this ▸ hq) ht

theorem xrefStart_complete (n : Nat) (e1 s1 ds s2 e2 rest : Bytes) (he1 : IsEol e1) (hs1 : AllSp s1)
    (hd : DerivesNat n ds) (hn : n ≤ I64MAX) (hs2 : AllSp s2) (he2 : IsEol e2) :
    pXrefStart (STARTXREF ++ (e1 ++ (s1 ++ (ds ++ (s2 ++ (e2 ++ (EOF_MARK ++ rest))))))) = some (Int.ofNat n) := by
  -- first bytes: the offset starts with a digit, a marker with CR or LF
  have hdig : ∀ {Q : UInt8 → Prop} (t : Bytes), (∀ c, isDigit c = true → Q c) → Ahead Q (ds ++ t) :=
    fun t hq => ((nat_starts hd).append t).ahead hq
  have heol : ∀ {Q : UInt8 → Prop} (t : Bytes), Q 13 → Q 10 → Ahead Q (e2 ++ t) := fun t h13 h10 =>
    ((eol_starts he2).append t).ahead (by rintro c (rfl | rfl) <;> assumption)
  obtain ⟨m1, st1⟩ := eol_exact e1 (s1 ++ (ds ++ (s2 ++ (e2 ++ (EOF_MARK ++ rest))))) he1
    (allSp_ahead hs1 (by decide) (hdig _ fun _ => digit_not_eol))
  have st2 : skipSpaces (s1 ++ (ds ++ (s2 ++ (e2 ++ (EOF_MARK ++ rest))))) = ds ++ (s2 ++ (e2 ++ (EOF_MARK ++ rest))) :=
    skipSpaces_append s1 _ hs1 (hdig _ fun c hc => by simpa using ne_of_class hc (by decide : isDigit 32 = false))
  have st3 : pInteger (ds ++ (s2 ++ (e2 ++ (EOF_MARK ++ rest)))) = some (Int.ofNat n, s2 ++ (e2 ++ (EOF_MARK ++ rest))) :=
    int_complete _ ds _ (.unsigned n ds hd hn) (allSp_ahead hs2 (by decide) (heol _ (by decide) (by decide)))
  have st4 : skipSpaces (s2 ++ (e2 ++ (EOF_MARK ++ rest))) = e2 ++ (EOF_MARK ++ rest) :=
    skipSpaces_append s2 _ hs2 (heol _ (by decide) (by decide))
  obtain ⟨m2, st5⟩ := eol_exact e2 (EOF_MARK ++ rest) he2 (ahead_cons (by decide))
  unfold pXrefStart
  simp only [tag_append, Option.bind, st1, st2, st3, st4, st5, Option.map]

example : pXrefStart (STARTXREF ++ ([13, 10] ++ ([32] ++ ([48, 49, 50] ++ ([] ++ ([13] ++ (EOF_MARK ++ [10]))))))) = some 12 :=
  xrefStart_complete 12 _ _ _ _ _ _ .crlf (by intro b hb; simp at hb; subst hb; decide)
    (derivesNat_lit 12 [48, 49, 50] 2 rfl (by unfold AllDigits; decide) rfl) (by decide)
    (by intro b hb; simp at hb) .cr

end Lopdf.Grammar
