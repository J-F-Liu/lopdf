import LopdfModel.Thm.C02File
import LopdfModel.Thm.C02Load
import LopdfModel.Thm.C02ObjStm
import LopdfModel.Lemmas.LoadObjects
import LopdfModel.Lemmas.Dict
/-
  The OBJECT PASS of `Reader::read`, forwards: `loadDocWith_objectPass` is the front (header,
  `startxref`, cross-reference data, `Prev` walk) handing over to `objectPass`; `loadSteps_blocks`
  is the fold of `loadStep` over the sorted cross-reference table when the file provides what each
  entry needs (`EntryOk`): the objects read directly (`loadedOfN`, looked up by `loadedOfN_sorted_get`)
  and the blocks of object-stream members (`blocksOf`); `objectPass_of_steps` is the rest of the pass
  when no stream was deferred.
-/
namespace Lopdf.FileRT
open Lopdf Gen

/-- the rest of `Reader::read` after the cross-reference data are known (the code of
`loadDocWith` from the object pass on, verbatim) -/
def objectPass (arr : List Block → List Block) (arr2 : List ObjId → List ObjId) (buf version mark : Bytes) (x : XTable) (tr : Dict) (xs : Nat) :
    Outcome Loaded :=
  let size := x.maxId + 1
  let xs' := x.sorted
  let nEntries := xs'.length
  match xs'.foldl (loadStep buf x nEntries) (.ok ([], [])) with
  | .panic s => .panic s
  | .err e => .err e
  | .ok (os, fromStm) =>
    let arrived := arr fromStm
    let os1 := mergeBlocksX x os arrived
    let os2 := (arr2 (pendingIds os1)).foldl (completeOne buf) os1
    let fin := os2.map fun (p : ObjId × LObj) =>
      match p.2 with
      | .plain o => (p.1, o)
      | .pending d _ => (p.1, Obj.stream d [])
    let objects := fin.foldr (fun (p : ObjId × Obj) acc => insertSortedO p.1 p.2 acc) []
    .ok { version := version, binaryMark := mark, trailer := tr, objects := objects,
          maxId := size - 1, xrefStart := xs }

end Lopdf.FileRT

namespace Lopdf.Grammar
open Lopdf Gen

/-- **The front of `Reader::read`**: once header, `startxref`, the newest cross-reference section and
the `Prev` walk are read as stated, the reader enters the object pass with the merged table. -/
theorem loadDocWith_objectPass (arr : List Block → List Block) (arr2 : List ObjId → List ObjId) (file version : Bytes)
    (xs : Nat) (x0 : XTable) (size0 : Nat) (tr0 : Dict) (x : XTable) (tr : Dict)
    (h0 : findFrom PDF_KW (file.length + 1) file 0 = some 0)
    (h1 : pHeader file = some version)
    (h2 : getXrefStart file = some xs) (h2' : xs ≤ file.length)
    (h3 : xrefAndTrailer (file.drop xs) = .ok (x0, size0, tr0))
    (h4 : prevLoop file (file.length + 2) (tr0.get PREV) [] x0 (tr0.remove PREV) = .ok (x, tr))
    (h5 : x.maxId + 1 < U32) (h6 : tr.has ENCRYPT = false) :
    loadDocWith arr arr2 file = FileRT.objectPass arr arr2 file version (markOf file) x tr xs := by
  have hx : ¬ (xs > file.length) := by omega
  have hm : ¬ (x.maxId + 1 ≥ U32) := by omega
  unfold loadDocWith
  simp only [h0, List.drop_zero, h1, h2, hx, if_false, h3, h4, hm, h6, Bool.false_eq_true]
  rfl

theorem allPlain_insert (os : LObjects) (id : ObjId) (o : Obj) (h : AllPlain os) : AllPlain (os.insert id (.plain o)) := by
  induction os with
  | nil => intro p hp; exact ⟨o, by rw [List.mem_singleton.mp hp]⟩
  | cons a rest ih =>
    intro p hp
    rw [LObjects.insert] at hp
    split at hp <;> rcases List.mem_cons.mp hp with rfl | hp
    · exact ⟨o, rfl⟩
    · exact h p (List.mem_cons_of_mem _ hp)
    · exact h _ List.mem_cons_self
    · exact ih (fun q hq => h q (List.mem_cons_of_mem _ hq)) p hp

theorem asObjects_get (os : LObjects) (id : ObjId) :
    Objects.get (asObjects (os.map fun p => (p.1, unplain p.2))) id = (os.get id).map unplain := by
  induction os with
  | nil => rfl
  | cons p rest ih =>
    obtain ⟨i, lo⟩ := p
    have : asObjects (((i, lo) :: rest).map fun p => (p.1, unplain p.2)) =
        insertSortedO i (unplain lo) (asObjects (rest.map fun p => (p.1, unplain p.2))) := rfl
    rw [this, Objects.get_insertSortedO, ih]
    by_cases h : i = id <;> simp [LObjects.get, h]

theorem allPlain_mergeBlocks (blocks : List Block) : ∀ (os : LObjects), AllPlain os → AllPlain (mergeBlocks os blocks) := by
  unfold mergeBlocks
  generalize (blocks.map (·.2)).flatten = l
  induction l with
  | nil => intro os h; exact h
  | cons p rest ih =>
    intro os h
    simp only [List.foldl_cons]
    apply ih
    cases hg : os.get p.1 with
    | some _ => exact h
    | none =>
      intro q hq
      rcases List.mem_append.mp hq with hq | hq
      · exact h q hq
      · simp at hq; exact ⟨p.2, by rw [hq]⟩

/-- the object pass after its fold over the table, when every object read is complete: the members
of the object streams are merged in and nothing is left to do for the deferred streams -/
theorem objectPass_of_steps (arr : List Block → List Block) (arr2 : List ObjId → List ObjId) (harr2 : arr2 [] = [])
    (buf version mark : Bytes) (x : XTable) (tr : Dict) (xs : Nat) (os : LObjects) (blocks : List Block)
    (h7 : x.sorted.foldl (loadStep buf x x.sorted.length) (.ok ([], [])) = .ok (os, blocks))
    (h9 : AllPlain os) :
    FileRT.objectPass arr arr2 buf version mark x tr xs =
      .ok (Loaded.mk version mark tr (asObjects ((mergeBlocksX x os (arr blocks)).map fun p => (p.1, unplain p.2)))
        x.maxId xs) := by
  have hpl : AllPlain (mergeBlocksX x os (arr blocks)) := allPlain_mergeBlocks _ os h9
  unfold FileRT.objectPass
  simp only [h7, Nat.add_sub_cancel, pendingIds_allPlain _ hpl, harr2, List.foldl_nil]
  -- the last lines of `loadDocWith` spell `unplain` out
  have hmap : ∀ F : ObjId × LObj → ObjId × Obj, (∀ p, F p = (p.1, unplain p.2)) →
      (mergeBlocksX x os (arr blocks)).map F = (mergeBlocksX x os (arr blocks)).map fun p => (p.1, unplain p.2) :=
    fun F hF => List.map_congr_left fun p _ => hF p
  rw [hmap _ fun ⟨_, lo⟩ => by cases lo <;> rfl]
  rfl

theorem prevLoop_none (file : Bytes) (x0 : XTable) (tr0 : Dict) (h4 : tr0.get PREV = none) :
    prevLoop file (file.length + 2) (tr0.get PREV) [] x0 (tr0.remove PREV) = .ok (x0, tr0) := by
  rw [h4, Dict.remove_of_get_none h4]
  simp [prevLoop]

/-- the skeleton of `Reader::read` for one revision without object streams and without encryption:
when header, `startxref`, cross-reference section + trailer and every listed object are read as
stated, the document is made of exactly these pieces -/
theorem loadDocWith_of_parts (arr : List Block → List Block) (arr2 : List ObjId → List ObjId) (file version : Bytes) (xs : Nat)
    (x0 : XTable) (size0 : Nat) (tr0 : Dict) (os : LObjects)
    (h0 : findFrom PDF_KW (file.length + 1) file 0 = some 0)
    (h1 : pHeader file = some version)
    (h2 : getXrefStart file = some xs) (h2' : xs ≤ file.length)
    (h3 : xrefAndTrailer (file.drop xs) = .ok (x0, size0, tr0))
    (h4 : tr0.get PREV = none) (h5 : x0.maxId + 1 < U32) (h6 : tr0.has ENCRYPT = false)
    (h7 : x0.sorted.foldl (loadStep file x0 x0.sorted.length) (.ok ([], [])) = .ok (os, []))
    (h8 : arr [] = []) (h8' : arr2 [] = []) (h9 : AllPlain os) :
    ∃ mark, loadDocWith arr arr2 file =
      .ok (Loaded.mk version mark tr0 (asObjects (os.map fun p => (p.1, unplain p.2))) x0.maxId xs) :=
  ⟨markOf file, by
    rw [loadDocWith_objectPass arr arr2 file version xs x0 size0 tr0 x0 tr0 h0 h1 h2 h2' h3
        (prevLoop_none file x0 tr0 h4) h5 h6,
      objectPass_of_steps arr arr2 h8' file version _ x0 tr0 xs os [] h7 h9, h8, mergeBlocksX_nil]⟩

def isNormalE : XEntry → Bool
  | .normal _ _ => true
  | .compressed _ _ => false

/-- objects read directly: one per type-1 binding -/
def loadedOfN (val : Nat → Nat × Obj) (os : LObjects) (l : XTable) : LObjects :=
  l.foldl (fun acc p => if isNormalE p.2 then acc.insert (p.1, (val p.1).1) (.plain (val p.1).2) else acc) os

/-- the blocks of members: one per type-1 binding that is a (non-empty) object-stream container -/
def blocksOf (cont : Nat → List (Nat × Obj)) (l : XTable) : List Block :=
  l.filterMap fun p => if isNormalE p.2 && !(cont p.1).isEmpty then some (p.1, memberPairs (cont p.1)) else none

/-- what the file provides for one binding of the cross-reference map -/
def EntryOk (buf : Bytes) (len : ObjId → Option Int) (val : Nat → Nat × Obj) (cont : Nat → List (Nat × Obj))
    (p : Nat × XEntry) : Prop :=
  match p.2 with
  | .normal off g =>
    g = (val p.1).1 ∧ off ≤ buf.length ∧
    pIndirect len none off (buf.drop off) = some ((p.1, g), .plain (val p.1).2) ∧
    ((NotObjStm (val p.1).2 ∧ cont p.1 = []) ∨
     (∃ dct c, (val p.1).2 = .stream dct c ∧ Dict.getTypeIs dct OBJSTM = true ∧
        objStmObjects dct c = .ok (memberPairs (cont p.1)) ∧ cont p.1 ≠ []))
  | .compressed _ _ => True

theorem loadedOfN_cons (val : Nat → Nat × Obj) (os : LObjects) (k : Nat) (e : XEntry) (l : XTable) :
    loadedOfN val os ((k, e) :: l) =
      loadedOfN val (if isNormalE e then os.insert (k, (val k).1) (.plain (val k).2) else os) l := rfl

theorem blocksOf_cons (cont : Nat → List (Nat × Obj)) (k : Nat) (e : XEntry) (l : XTable) :
    blocksOf cont ((k, e) :: l) =
      if isNormalE e && !(cont k).isEmpty then (k, memberPairs (cont k)) :: blocksOf cont l else blocksOf cont l := by
  unfold blocksOf
  rw [List.filterMap_cons]
  by_cases h : (isNormalE e && !(cont k).isEmpty) = true <;> simp only [h, if_true, Bool.false_eq_true, if_false]

theorem loadStep_compressed (buf : Bytes) (x : XTable) (N : Nat) (os : LObjects) (bl : List Block) (k c i : Nat) :
    loadStep buf x N (.ok (os, bl)) (k, .compressed c i) = .ok (os, bl) := rfl

theorem getTypeIs_notObjStm (d : Dict) (h : d.get TYPE ≠ some (Obj.name OBJSTM)) : Dict.getTypeIs d OBJSTM = false := by
  unfold Dict.getTypeIs
  cases hg : d.get TYPE with
  | none => rfl
  | some v =>
    cases v <;> simp [Obj.asName]
    rename_i n
    intro hn; subst hn; exact h hg

theorem loadStep_plain (buf : Bytes) (x : XTable) (N : Nat) (os : LObjects) (bl : List Block) (k off g : Nat)
    (id : ObjId) (o : Obj) (hoff : off ≤ buf.length)
    (hind : pIndirect (lengthOf buf x (N + 1) []) none off (buf.drop off) = some (id, .plain o))
    (hno : NotObjStm o) :
    loadStep buf x N (.ok (os, bl)) (k, .normal off g) = .ok (os.insert id (.plain o), bl) := by
  have h1 : ¬ (off > buf.length) := by omega
  unfold loadStep
  simp only [h1, if_false, hind]
  split
  · rename_i d c heq
    cases heq
    rw [getTypeIs_notObjStm d (hno d c rfl)]
    rfl
  · rename_i heq; cases heq
  · rfl

theorem loadStep_container (buf : Bytes) (x : XTable) (N : Nat) (os : LObjects) (bl : List Block) (k off g : Nat)
    (id : ObjId) (d : Dict) (c : Bytes) (objs : List (ObjId × Obj)) (hoff : off ≤ buf.length)
    (hind : pIndirect (lengthOf buf x (N + 1) []) none off (buf.drop off) = some (id, .plain (.stream d c)))
    (hty : Dict.getTypeIs d OBJSTM = true) (hobjs : objStmObjects d c = .ok objs) :
    loadStep buf x N (.ok (os, bl)) (k, .normal off g) =
      .ok (os.insert id (.plain (.stream d c)), bl ++ [(k, objs)]) := by
  have h1 : ¬ (off > buf.length) := by omega
  unfold loadStep
  simp only [h1, if_false, hind, hty, if_true, hobjs]

theorem loadSteps_blocks (buf : Bytes) (x : XTable) (N : Nat) (val : Nat → Nat × Obj) (cont : Nat → List (Nat × Obj)) :
    ∀ (l : XTable) (os : LObjects) (bl : List Block), (∀ p ∈ l, EntryOk buf (lengthOf buf x (N + 1) []) val cont p) →
    l.foldl (loadStep buf x N) (.ok (os, bl)) = .ok (loadedOfN val os l, bl ++ blocksOf cont l) := by
  intro l
  induction l with
  | nil => intro os bl _; simp [loadedOfN, blocksOf]
  | cons p rest ih =>
    intro os bl h
    have hp := h p (by simp)
    have ih' := fun os' bl' => ih os' bl' (fun q hq => h q (List.mem_cons_of_mem _ hq))
    obtain ⟨k, e⟩ := p
    rw [List.foldl_cons, loadedOfN_cons, blocksOf_cons]
    cases e with
    | compressed c i => rw [loadStep_compressed, ih']; rfl
    | normal off g =>
      simp only [EntryOk] at hp
      obtain ⟨hg, hoff, hind, hkind⟩ := hp
      subst hg
      rcases hkind with ⟨hno, hc⟩ | ⟨dct, c, hv, hty, hobjs, hc⟩
      · rw [loadStep_plain buf x N os bl k off _ _ _ hoff hind hno, ih', hc]
        rfl
      · have hne : (cont k).isEmpty = false := by
          cases hck : cont k with
          | nil => exact absurd hck hc
          | cons a as => rfl
        rw [hv] at hind
        rw [loadStep_container buf x N os bl k off _ _ dct c _ hoff hind hty hobjs, ih', hne, List.append_assoc, hv]
        rfl

theorem allPlain_loadedOfN (val : Nat → Nat × Obj) : ∀ (l : XTable) (os : LObjects), AllPlain os →
    AllPlain (loadedOfN val os l) := by
  intro l
  induction l with
  | nil => intro os h; exact h
  | cons p rest ih =>
    intro os h
    rw [loadedOfN_cons]
    apply ih
    split
    · exact allPlain_insert os _ _ h
    · exact h

theorem loadedOfN_get (val : Nat → Nat × Obj) : ∀ (l : XTable) (os : LObjects) (id : ObjId),
    (loadedOfN val os l).get id =
      if (∃ p ∈ l, p.1 = id.1 ∧ isNormalE p.2 = true) ∧ id.2 = (val id.1).1 then some (.plain (val id.1).2)
      else os.get id := by
  intro l
  induction l with
  | nil => intro os id; simp [loadedOfN]
  | cons p rest ih =>
    intro os id
    -- the head inserts under `(p.1, (val p.1).1)`, if at all
    have hid : (p.1, (val p.1).1) = id ↔ p.1 = id.1 ∧ id.2 = (val id.1).1 := by
      constructor
      · rintro rfl; exact ⟨rfl, rfl⟩
      · rintro ⟨h1, h2⟩; exact Prod.ext h1 (by rw [h2, h1])
    rw [loadedOfN_cons, ih]
    simp only [List.mem_cons, exists_eq_or_imp]
    by_cases hr : (∃ q ∈ rest, q.1 = id.1 ∧ isNormalE q.2 = true) ∧ id.2 = (val id.1).1
    · rw [if_pos hr, if_pos ⟨Or.inr hr.1, hr.2⟩]
    · rw [if_neg hr]
      by_cases hn : isNormalE p.2 = true
      · rw [if_pos hn, LObjects.get_insert]
        by_cases hp : (p.1, (val p.1).1) = id
        · rw [if_pos hp, if_pos ⟨Or.inl ⟨(hid.mp hp).1, hn⟩, (hid.mp hp).2⟩, ← hp]
        · rw [if_neg hp, if_neg]
          rintro ⟨h | h, h2⟩
          · exact hp (hid.mpr ⟨h.1, h2⟩)
          · exact hr ⟨h, h2⟩
      · rw [if_neg hn, if_neg]
        rintro ⟨h | h, h2⟩
        · exact hn h.2
        · exact hr ⟨h, h2⟩

theorem loadedOfN_sorted_get (val : Nat → Nat × Obj) (x0 : XTable) (id : ObjId) :
    (loadedOfN val [] x0.sorted).get id =
      match x0.get id.1 with
      | some (.normal _ _) => if id.2 = (val id.1).1 then some (.plain (val id.1).2) else none
      | _ => none := by
  -- the sorted list has exactly the bindings of the map
  have hex : (∃ p ∈ x0.sorted, p.1 = id.1 ∧ isNormalE p.2 = true) ↔ (x0.get id.1).any isNormalE = true := by
    constructor
    · rintro ⟨⟨k, e⟩, hp, rfl, hn⟩
      rw [(mem_sorted_iff _ _ _).mp hp]
      exact hn
    · intro h
      cases hx : x0.get id.1 with
      | none => rw [hx] at h; cases h
      | some e => rw [hx] at h; exact ⟨(id.1, e), (mem_sorted_iff _ _ _).mpr hx, rfl, h⟩
  rw [loadedOfN_get]
  simp only [hex]
  cases x0.get id.1 with
  | none => simp [LObjects.get]
  | some e => cases e <;> simp [LObjects.get, isNormalE]

theorem loadedOfN_nodup (val : Nat → Nat × Obj) : ∀ (l : XTable) (os : LObjects), (os.map (·.1)).Nodup →
    ((loadedOfN val os l).map (·.1)).Nodup := by
  intro l
  induction l with
  | nil => intro os h; exact h
  | cons p rest ih =>
    intro os h
    rw [loadedOfN_cons]
    apply ih
    split
    · exact FileRT.LObjects_insert_nodup os _ _ h
    · exact h

theorem blocksOf_no_members (l : XTable) : blocksOf (fun _ => []) l = [] :=
  List.filterMap_eq_nil_iff.mpr fun p _ => by simp

end Lopdf.Grammar
