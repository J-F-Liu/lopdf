import LopdfModel.Thm.C11Count
/-
  C11 — frame lemmas for `add_page_contents`, `remove_object` (annotation) and
  `change_page_content` at page level.
-/
namespace Lopdf.Ed
open Lopdf Lopdf.DictL

/-- `get_object_mut(id)` + `as_dict_mut` + `set(key, v)`: either nothing happens (`Err`), or exactly one object —
the dictionary the reference chain of `id` ends in — gets `key := v`; every other key of it is kept -/
theorem setDictEntry_frame (d : Doc) (id : ObjId) (key : Bytes) (v : Obj) :
    ((setDictEntry d id key v).2 = .err ∧ (setDictEntry d id key v).1 = d) ∨
    ∃ t pd, objectMutId d.objects id = some t ∧ d.objects.get t = some (.dict pd) ∧
      (setDictEntry d id key v).1.trailer = d.trailer ∧ (setDictEntry d id key v).1.maxId = d.maxId ∧
      (setDictEntry d id key v).1.objects.get t = some (.dict (Dict.set pd key v)) ∧
      ∀ k, k ≠ t → (setDictEntry d id key v).1.objects.get k = d.objects.get k := by
  fun_cases setDictEntry d id key v
  · exact Or.inl ⟨rfl, rfl⟩
  · rename_i t ht pd hg
    refine Or.inr ⟨t, pd, ht, hg, rfl, rfl, ?_, fun k hk => ?_⟩
    · simp only [Objects.get_set, hg, if_true, Option.map_some]
    · simp only [Objects.get_set, Ne.symm hk, if_false]
  · exact Or.inl ⟨rfl, rfl⟩

theorem addObject_get (d : Doc) (o : Obj) (k : ObjId) :
    (addObject d o).objects.get k = if (d.maxId + 1, 0) = k then some o else d.objects.get k := by
  simp [addObject, Objects.get_insert]

/-- what `add_page_contents` and `change_page_content` share: a fresh stream holding `content` is added, then the page
dictionary `pg` resolves to gets `Contents := v` — unless `pg` does not resolve to a dictionary (`Err`), and then
the stream is all that changed -/
theorem newContent_frame (d : Doc) (pg : ObjId) (content : Bytes) (v : Obj) (r : Doc × Out)
    (h : setDictEntry (addObject d (streamNew [] content)) pg CONTENTS v = r) :
    r.1.trailer = d.trailer ∧ r.1.maxId = d.maxId + 1 ∧
    r.1.objects.get (d.maxId + 1, 0) = some (streamNew [] content) ∧
    ((r.2 = .err ∧ ∀ k, k ≠ (d.maxId + 1, 0) → r.1.objects.get k = d.objects.get k) ∨
     ∃ t pd, t ≠ (d.maxId + 1, 0) ∧ d.objects.get t = some (.dict pd) ∧
       r.1.objects.get t = some (.dict (Dict.set pd CONTENTS v)) ∧
       ∀ k, k ≠ t → k ≠ (d.maxId + 1, 0) → r.1.objects.get k = d.objects.get k) := by
  have hadd : ∀ k, k ≠ (d.maxId + 1, 0) → (addObject d (streamNew [] content)).objects.get k = d.objects.get k :=
    fun k hk => by rw [addObject_get, if_neg (Ne.symm hk)]
  rcases setDictEntry_frame (addObject d (streamNew [] content)) pg CONTENTS v with ⟨h1, he⟩ | ⟨t, pd, _, hg, f1, f2, f3, f4⟩ <;>
    rw [h] at *
  · rw [he]
    exact ⟨rfl, rfl, by rw [addObject_get, if_pos rfl], Or.inl ⟨h1, hadd⟩⟩
  · have hne : t ≠ (d.maxId + 1, 0) := by
      intro e; rw [e, addObject_get, if_pos rfl] at hg; cases hg
    refine ⟨f1, f2, by rw [f4 _ (Ne.symm hne), addObject_get, if_pos rfl], Or.inr ⟨t, pd, hne, ?_, f3, ?_⟩⟩
    · rw [← hadd t hne]; exact hg
    · intro k hk hk2; rw [f4 k hk, hadd k hk2]

/-- **frame of `add_page_contents`.** When the call succeeds: `max_id` grew by one; the new id holds the stream
`Stream::new({}, content)` (`Length` = length of the content); exactly one other object changed — the page
dictionary `t` the id resolves to — and in it only `Contents`, which is now the old content list followed by
the reference to the new stream; the trailer and every other object are as before. -/
theorem addPageContents_frame (d : Doc) (pg : ObjId) (content : Bytes) (d' : Doc) (hinv : Inv d)
    (h : addPageContents d pg content = .ok (d', .unit)) :
    ∃ page t pd, getDictionary d.objects pg = some page ∧ d.objects.get t = some (.dict pd) ∧
      d'.trailer = d.trailer ∧ d'.maxId = d.maxId + 1 ∧
      d'.objects.get (d.maxId + 1, 0) = some (streamNew [] content) ∧
      d'.objects.get t = some (.dict (Dict.set pd CONTENTS (.arr (contentsList page ++ [.ref (d.maxId + 1) 0])))) ∧
      (∀ key, key ≠ CONTENTS → Dict.get (Dict.set pd CONTENTS (.arr (contentsList page ++ [.ref (d.maxId + 1) 0]))) key = Dict.get pd key) ∧
      ∀ k, k ≠ t → k ≠ (d.maxId + 1, 0) → d'.objects.get k = d.objects.get k := by
  revert h
  fun_cases addPageContents d pg content <;> intro h
  · cases h
  · cases h
  · rename_i page hp _
    have e := Outcome.ok.inj h
    obtain ⟨f1, f2, f3, f4⟩ := newContent_frame d pg content _ (d', .unit) e
    rcases f4 with ⟨he, _⟩ | ⟨t, pd, _, hg, f5, f6⟩
    · cases he
    · exact ⟨page, t, pd, hp, hg, f1, f2, f3, f5, fun key hk => Dict.get_set_ne _ _ _ _ (Ne.symm hk), f6⟩

/-- an object before / after `remove_object(id)`: untouched, or a dictionary whose `Annots` array lost its
references to `id` and nothing else -/
def AnnotRel (id : ObjId) (o o' : Obj) : Prop :=
  o' = o ∨ ∃ pd a, o = .dict pd ∧ Dict.get pd kAnnots = some (.arr a) ∧
    o' = .dict (Dict.set pd kAnnots (.arr (retainNotRef id a)))

theorem retain_idem (id : ObjId) (a : List Obj) : retainNotRef id (retainNotRef id a) = retainNotRef id a := by
  simp [retainNotRef, List.filter_filter]

theorem annotRel_trans (id : ObjId) {a b c : Obj} (h1 : AnnotRel id a b) (h2 : AnnotRel id b c) : AnnotRel id a c := by
  rcases h1 with rfl | ⟨pd, ar, rfl, hg, rfl⟩
  · exact h2
  · rcases h2 with rfl | ⟨pd2, ar2, e, hg2, rfl⟩
    · exact Or.inr ⟨pd, ar, rfl, hg, rfl⟩
    · cases e
      rw [Dict.get_set] at hg2; simp at hg2; subst hg2
      exact Or.inr ⟨pd, ar, rfl, hg, by rw [Dict.set_set, retain_idem]⟩

/-- **frame of `remove_object`**: trailer and `max_id` are untouched, no object appears or disappears, and every
object is what it was — except page dictionaries, whose `Annots` arrays lost their references to `id` (all other
entries, and all other array items in their order, kept). -/
theorem removeAnnot_frame (id : ObjId) : ∀ (pages : List ObjId) (d : Doc),
    (removeAnnot id pages d).1.trailer = d.trailer ∧ (removeAnnot id pages d).1.maxId = d.maxId ∧
    ∀ x, (d.objects.get x = none → (removeAnnot id pages d).1.objects.get x = none) ∧
      ∀ o, d.objects.get x = some o → ∃ o', (removeAnnot id pages d).1.objects.get x = some o' ∧ AnnotRel id o o' := by
  intro pages d
  fun_induction removeAnnot id pages d with
  | case3 pid rest d t ht pd hg a ha ih =>
    have h1 : Objects.Rel (AnnotRel id) d.objects (d.objects.set t _) :=
      Objects.Rel.set (fun _ => Or.inl rfl) d.objects hg (Or.inr ⟨pd, a, rfl, ha, rfl⟩)
    exact ⟨ih.1, ih.2.1, Objects.Rel.trans (R := AnnotRel id) (fun _ _ _ => annotRel_trans id) h1 ih.2.2⟩
  | _ => exact ⟨rfl, rfl, Objects.Rel.refl (R := AnnotRel id) (fun _ => Or.inl rfl) _⟩

theorem changeContentStream_frame (deflate : Bytes → Bytes) (d : Doc) (sid : ObjId) (content : Bytes) :
    (changeContentStream deflate d sid content).trailer = d.trailer ∧
    (changeContentStream deflate d sid content).maxId = d.maxId ∧
    ∀ k, k ≠ sid → (changeContentStream deflate d sid content).objects.get k = d.objects.get k := by
  unfold changeContentStream
  split
  · refine ⟨rfl, rfl, fun k hk => ?_⟩
    simp [Objects.get_set, Ne.symm hk]
  · exact ⟨rfl, rfl, fun _ _ => rfl⟩

/-- **page level, `Contents` names one stream** (a reference, or a one-element array): after
`change_page_content(page, content)` that stream — and nothing else in the document — changed, and it decodes
to `content` (codec hypothesis `inflate (deflate x) = x`; stream dictionary with distinct keys) -/
theorem changePageContent_one (inflate : Bytes → Option Bytes) (deflate : Bytes → Bytes)
    (hcodec : ∀ x, inflate (deflate x) = some x) (d : Doc) (pg : ObjId) (content : Bytes) (page : Dict)
    (n g : Nat) (sd : Dict) (sc : Bytes)
    (hp : getDictionary d.objects pg = some page)
    (hc : Dict.get page CONTENTS = some (.ref n g) ∨ Dict.get page CONTENTS = some (.arr [.ref n g]))
    (hs : d.objects.get (n, g) = some (.stream sd sc)) (hn : NoDup sd) :
    ∃ d' s', changePageContent deflate d pg content = .ok (d', .unit) ∧
      d'.trailer = d.trailer ∧ d'.maxId = d.maxId ∧
      d'.objects.get (n, g) = some s' ∧ decodeStream inflate s' = some content ∧
      ∀ k, k ≠ (n, g) → d'.objects.get k = d.objects.get k := by
  have hres : changePageContent deflate d pg content = .ok (changeContentStream deflate d (n, g) content, .unit) := by
    unfold changePageContent
    rcases hc with hc | hc <;> simp [hp, hc]
  obtain ⟨f1, f2, f3⟩ := changeContentStream_frame deflate d (n, g) content
  refine ⟨_, plainThenCompress (deflate content) sd content, hres, f1, f2, ?_, change_content_decodes_nodup inflate deflate hcodec sd hn content, f3⟩
  unfold changeContentStream
  simp [hs, Objects.get_set]

theorem decode_streamNew (inflate : Bytes → Option Bytes) (content : Bytes) :
    decodeStream inflate (streamNew [] content) = some content := by
  have hne : (LENGTHE = kFilter) = False := by decide
  simp [streamNew, decodeStream, Dict.set, Dict.get, hne]

/-- **page level, `Contents` is an array of another length** (empty, or two and more streams): a fresh stream
holding `content` is added and the page's `Contents` becomes the reference to it; the old content streams stay
in the document untouched (they are no longer the page's content) -/
theorem changePageContent_many (inflate : Bytes → Option Bytes) (deflate : Bytes → Bytes)
    (d : Doc) (hinv : Inv d) (pg : ObjId) (content : Bytes) (page : Dict) (items : List Obj)
    (hp : getDictionary d.objects pg = some page) (hc : Dict.get page CONTENTS = some (.arr items))
    (hlen : items.length ≠ 1) (hfit : ¬ d.maxId + 1 > U32_MAXE) :
    ∃ d', changePageContent deflate d pg content = .ok (d', .unit) ∧
      d'.trailer = d.trailer ∧ d'.maxId = d.maxId + 1 ∧
      d.objects.get (d.maxId + 1, 0) = none ∧
      (∃ s', d'.objects.get (d.maxId + 1, 0) = some s' ∧ decodeStream inflate s' = some content) ∧
      ((∀ k, k ≠ (d.maxId + 1, 0) → d'.objects.get k = d.objects.get k) ∨
       ∃ t pd, t ≠ (d.maxId + 1, 0) ∧ d.objects.get t = some (.dict pd) ∧
         d'.objects.get t = some (.dict (Dict.set pd CONTENTS (.ref (d.maxId + 1) 0))) ∧
         ∀ k, k ≠ t → k ≠ (d.maxId + 1, 0) → d'.objects.get k = d.objects.get k) := by
  have hres : changePageContent deflate d pg content =
      .ok ((setDictEntry (addObject d (streamNew [] content)) pg CONTENTS (.ref (d.maxId + 1) 0)).1, .unit) := by
    unfold changePageContent
    simp only [hp, hc, Option.bind_some]
    cases items with
    | nil => simp [hfit]
    | cons x xs =>
      cases xs with
      | nil => simp at hlen
      | cons y ys => simp [hfit]
  obtain ⟨f1, f2, f3, f4⟩ := newContent_frame d pg content (.ref (d.maxId + 1) 0) _ rfl
  exact ⟨_, hres, f1, f2, fresh_id d hinv, ⟨_, f3, decode_streamNew inflate content⟩, f4.imp (fun h => h.2) id⟩

end Lopdf.Ed
