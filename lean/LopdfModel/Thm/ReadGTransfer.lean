import LopdfModel.Thm.ReadG
/-
  **Transfer.** Whenever the reader of Model/Read.lean answers anything but `err "ext"` ("outside
  the model"), the reader the driver runs against lopdf (`loadDocWithG flateDec`, filtered
  structural streams decoded by the specification codecs) answers THE SAME. Hence every theorem of
  the form `loadDocOrd order file = .ok L` — `file_rt_table`, `file_rt_stream`, `file_rt_history`,
  `loadDoc_complete*`, `strict`-side lemmas, C07's newest-wins theorems — is literally a theorem
  about the reader that is compared with lopdf on every run.
-/
namespace Lopdf
open Gen

/-- `b` (the answer with filtered streams decoded) agrees with `a` unless `a` declined -/
def Agree {α} (a b : Outcome α) : Prop := a ≠ .err "ext" → b = a

theorem agree_refl {α} (a : Outcome α) : Agree a a := fun _ => rfl

theorem xref_agree (d : Dict) (c : Bytes) : Agree (plainDec.xref d c) (flateDec.xref d c) := by
  intro h
  simp only [plainDec, flateDec] at h ⊢
  by_cases hf : d.has FILTER = true
  · exfalso; apply h; unfold decodeXrefStream; simp [hf]
  · simp only [hf, Bool.false_eq_true, if_false]

theorem objstm_agree (d : Dict) (c : Bytes) : Agree (plainDec.objstm d c) (flateDec.objstm d c) := by
  intro h
  simp only [plainDec, flateDec] at h ⊢
  by_cases hf : d.has FILTER = true
  · exfalso; apply h; unfold objStmObjects; simp [hf]
  · simp only [hf, Bool.false_eq_true, if_false]

theorem deferred_agree (d : Dict) : Agree (plainDec.deferred d) (flateDec.deferred d) := by
  intro h
  simp only [plainDec, flateDec] at h ⊢
  by_cases hf : d.has FILTER = true
  · exfalso; apply h; simp [hf]
  · simp only [hf, Bool.false_eq_true, if_false]

theorem xrefStreamAltG_agree (inp : Bytes) : Agree (xrefStreamAltG plainDec inp) (xrefStreamAltG flateDec inp) := by
  unfold xrefStreamAltG
  split
  · exact xref_agree _ _
  · exact xref_agree _ _
  · exact agree_refl _

theorem xrefAndTrailerG_agree (inp : Bytes) : Agree (xrefAndTrailerG plainDec inp) (xrefAndTrailerG flateDec inp) := by
  unfold xrefAndTrailerG
  split
  · exact agree_refl _
  · exact agree_refl _
  · split
    · split <;> exact agree_refl _
    · exact xrefStreamAltG_agree inp
  · exact xrefStreamAltG_agree inp

/-- two computations that consult the structural-stream decoders agree as soon as the consulted
answers agree and `err "ext"` is handed on -/
theorem Agree.elim2 {α β} {A B : Outcome α} (ha : Agree A B) (fp ff : Outcome α → Outcome β)
    (hext : fp (.err "ext") = .err "ext")
    (hk : ∀ r, r ≠ .err "ext" → Agree (fp r) (ff r)) : Agree (fp A) (ff B) := by
  intro h
  have hA : A ≠ .err "ext" := by intro e; apply h; rw [e, hext]
  rw [ha hA]
  exact hk A hA h

theorem Agree.bind {α β} {A B : Outcome α} {f g : α → Outcome β} (hA : Agree A B)
    (hfg : ∀ a, Agree (f a) (g a)) : Agree (A.bind f) (B.bind g) :=
  hA.elim2 (·.bind f) (·.bind g) rfl fun r _ => by
    cases r with
    | ok a => exact hfg a
    | err e => exact agree_refl _
    | panic s => exact agree_refl _

theorem Agree.foldl {α β} {f g : Outcome α → β → Outcome α} (hf : Outcome.Strict f)
    (h : ∀ acc e, Agree (f acc e) (g acc e)) (l : List β) (acc : Outcome α) :
    Agree (l.foldl f acc) (l.foldl g acc) := by
  induction l generalizing acc with
  | nil => exact agree_refl _
  | cons e rest ih =>
    intro hne
    rw [List.foldl_cons] at hne ⊢
    have hx : f acc e ≠ .err "ext" := fun hx =>
      hne (by rw [hx]; exact Outcome.foldl_of_not_ok hf rest (by simp))
    rw [List.foldl_cons, h acc e hx]
    exact ih _ hne

/- Where the model matches on what a decoder (or a function that consults one) answered and hands
`err "ext"` on, the proofs below argue as `Agree.elim2` does: the plain side did not decline, so the
consulted answer is not `err "ext"`, so the other side was given the same answer. -/

theorem hybridMergeG_agree (buf : Bytes) (x1 : XTable) (stm : Option Obj) :
    Agree (hybridMergeG plainDec buf x1 stm) (hybridMergeG flateDec buf x1 stm) := by
  unfold hybridMergeG
  split
  · exact agree_refl _
  · split
    · exact agree_refl _
    · intro h
      rw [xrefAndTrailerG_agree _ fun e => h (by rw [e])]

theorem prevLoopG_agree (buf : Bytes) (fuel : Nat) (p : Option Obj) (seen : List Int) (x : XTable) (tr : Dict) :
    Agree (prevLoopG plainDec buf fuel p seen x tr) (prevLoopG flateDec buf fuel p seen x tr) := by
  induction fuel generalizing p seen x tr with
  | zero => exact agree_refl _
  | succ n ih =>
    unfold prevLoopG
    split
    · exact agree_refl _
    · split
      · exact agree_refl _
      · split
        · exact agree_refl _
        · intro h
          rw [xrefAndTrailerG_agree _ fun e => h (by rw [e])]
          cases hx : xrefAndTrailerG plainDec (List.drop _ buf) with
          | panic s => rfl
          | err e => rfl
          | ok v =>
            rw [hx] at h
            simp only at h ⊢
            rw [hybridMergeG_agree _ _ _ fun e => h (by rw [e])]
            cases hm : hybridMergeG plainDec buf (x.merge v.1) (tr.get XREFSTM) with
            | panic s => rfl
            | err e => rfl
            | ok x3 => rw [hm] at h; exact ih _ _ _ _ h

theorem loadStepG_agree (buf : Bytes) (x : XTable) (n : Nat) (acc : Outcome (LObjects × List Block)) (e : Nat × XEntry) :
    Agree (loadStepG plainDec buf x n acc e) (loadStepG flateDec buf x n acc e) := by
  unfold loadStepG
  cases acc with
  | err s => exact agree_refl _
  | panic s => exact agree_refl _
  | ok p =>
    obtain ⟨os, fromStm⟩ := p
    simp only
    cases e.2 with
    | compressed a b => exact agree_refl _
    | normal off g =>
      simp only
      split
      · exact agree_refl _
      · cases hp : pIndirect (lengthOf buf x (n + 1) []) none off (List.drop off buf) with
        | none => exact agree_refl _
        | some r =>
          obtain ⟨id, lo⟩ := r
          simp only
          cases lo with
          | plain o =>
            cases o with
            | stream d c =>
              simp only
              split
              · intro h
                rw [objstm_agree d c fun e => h (by rw [e]; rfl)]
              · exact agree_refl _
            | _ => exact agree_refl _
          | pending d st =>
            simp only
            split
            · intro h
              rw [deferred_agree d fun e => h (by rw [e]; rfl)]
            · exact agree_refl _

theorem readObjects_agree (arr : List Block → List Block) (arr2 : List ObjId → List ObjId)
    (buf version mark : Bytes) (xs : Nat) (x : XTable) (tr : Dict) :
    Agree (readObjects plainDec arr arr2 buf version mark xs x tr)
          (readObjects flateDec arr arr2 buf version mark xs x tr) := by
  unfold readObjects
  split
  · exact agree_refl _
  · split
    · exact agree_refl _
    · exact (Agree.foldl (loadStepG_strict plainDec buf x _) (loadStepG_agree buf x _) _ _).bind
        fun _ => agree_refl _

/-- wherever the reader with the plain decoders does not decline, the reader that decodes filtered
structural streams returns the same -/
theorem loadDocWithG_agree (arr : List Block → List Block) (arr2 : List ObjId → List ObjId) (file : Bytes) :
    Agree (loadDocWithG plainDec arr arr2 file) (loadDocWithG flateDec arr arr2 file) := by
  rcases loadDocWithG_front file with ⟨e, he⟩ | ⟨buf, version, mark, xs, hb⟩
  · rw [he, he]; exact agree_refl _
  · rw [hb, hb]
    exact (xrefAndTrailerG_agree _).bind fun _ => (prevLoopG_agree _ _ _ _ _ _).bind fun _ =>
      readObjects_agree _ _ _ _ _ _ _ _

/-- **Every `ok` answer of the reader of Model/Read.lean is the answer of the reader the driver
runs** — for every schedule of both hooks. -/
theorem loadDocF2_of_loadDocOrd2 (order : Option (List Nat)) (zero : Option Nat) (file : Bytes) (L : Loaded)
    (h : loadDocOrd2 order zero file = .ok L) : loadDocF2 order zero file = .ok L := by
  unfold loadDocOrd2 at h
  unfold loadDocF2
  have h' := h
  rw [← loadDocWithG_plain] at h'
  have := loadDocWithG_agree _ _ file (by rw [h']; simp)
  exact this.trans h'

end Lopdf
