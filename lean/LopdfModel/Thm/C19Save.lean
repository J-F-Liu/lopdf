import LopdfModel.Model.SaveSink
import LopdfModel.Thm.C19
import LopdfModel.Thm.FileRt
import LopdfModel.Thm.FileMaxId
/-
  C19 — the sink theorems composed with the writer / reader model of C01. A save through ANY sink is the flat run of
  `Thm/C19` on `before ++ after`: it delivers a prefix of the bytes `saveFrom` defines and leaves the caller with `d`
  or `d'`, nothing in between. Success means the whole file was delivered, and it loads back (`file_rt_*`); after any
  run, failed or not, saving what the caller holds to a healthy sink gives a file that loads to the same content.
-/
namespace Lopdf
open Gen FileRT Lopdf.ObjRt

theorem saveRunS_fst : ∀ (cs : List Bytes) (s : List Resp), (saveRunS cs s).1 = saveRun cs s := by
  intro cs
  induction cs with
  | nil => intro s; rfl
  | cons c cs ih =>
    intro s
    simp only [saveRunS, saveRun]
    split
    · simp [ih]
    · rfl

theorem saveRun_append : ∀ (a b : List Bytes) (s : List Resp),
    (saveRun (a ++ b) s).ok = ((saveRun a s).ok && (saveRun b (saveRunS a s).2).ok) ∧
    (saveRun (a ++ b) s).delivered =
      (saveRun a s).delivered ++ if (saveRun a s).ok then (saveRun b (saveRunS a s).2).delivered else [] := by
  intro a
  induction a with
  | nil => intro b s; simp [saveRun, saveRunS]
  | cons c cs ih =>
    intro b s
    rw [List.cons_append, saveRun, saveRun, saveRunS]
    cases hw : (writeAll c s).ok
    · simp
    · simp only [if_true, ih b (writeAll c s).script, List.append_assoc, and_self]

theorem saveSink_of_ok {before : List Bytes} {s : List Resp} (h : (saveRun before s).ok = true) (after : List Bytes) :
    saveSink before after s =
      { ok := (saveRun after (saveRunS before s).2).ok,
        delivered := (saveRun before s).delivered ++ (saveRun after (saveRunS before s).2).delivered,
        mutated := true } := by
  simp only [saveSink, saveRunS_fst, h, if_true]

theorem saveSink_of_fail {before : List Bytes} {s : List Resp} (h : (saveRun before s).ok = false) (after : List Bytes) :
    saveSink before after s = { ok := false, delivered := (saveRun before s).delivered, mutated := false } := by
  simp only [saveSink, saveRunS_fst, h, Bool.false_eq_true, if_false]

/-- **The two-phase run IS the flat run** of the request list `before ++ after`. -/
theorem saveSink_flat (before after : List Bytes) (s : List Resp) :
    (saveSink before after s).ok = (saveRun (before ++ after) s).ok ∧
    (saveSink before after s).delivered = (saveRun (before ++ after) s).delivered := by
  rw [(saveRun_append before after s).1, (saveRun_append before after s).2]
  cases h : (saveRun before s).ok
  · simp [saveSink_of_fail h]
  · simp [saveSink_of_ok h]

theorem saveSink_benign (before after : List Bytes) (s : List Resp) (h : s.all Resp.benign = true) :
    (saveSink before after s).ok = true := by
  rw [(saveSink_flat before after s).1]
  exact no_fail_ok _ s h

/-- a run that did not reach the mutation point delivered less than the bytes before it, or
failed exactly there: in particular it is an error -/
theorem saveSink_unmutated (before after : List Bytes) (s : List Resp)
    (h : (saveSink before after s).mutated = false) :
    (saveSink before after s).ok = false ∧ (saveSink before after s).delivered <+: before.flatten := by
  cases h1 : (saveRun before s).ok
  · rw [saveSink_of_fail h1]; exact ⟨rfl, delivered_prefix _ s⟩
  · rw [saveSink_of_ok h1] at h; cases h

theorem saveSink_mutated (before after : List Bytes) (s : List Resp)
    (h : (saveSink before after s).mutated = true) :
    before.flatten <+: (saveSink before after s).delivered := by
  cases h1 : (saveRun before s).ok
  · rw [saveSink_of_fail h1] at h; cases h
  · rw [saveSink_of_ok h1, ok_delivers_all before s h1]; exact List.prefix_append _ _

/-- `before` / `after` are a cut, at the mutation point, of the bytes `save` writes -/
structure CutOf (pre : Bytes) (d : SDoc) (out : Bytes) (before after : List Bytes) : Prop where
  whole : (before ++ after).flatten = out.drop pre.length
  point : pre.length + before.flatten.length = mutationOffset pre d

/-- **After ANY run the caller holds `d` or `d'`** (the document a complete save leaves). -/
theorem saveSink_state (d d' : SDoc) (before after : List Bytes) (s : List Resp) :
    docAfter d d' (saveSink before after s) = d ∨ docAfter d d' (saveSink before after s) = d' := by
  unfold docAfter
  split
  · exact Or.inr rfl
  · exact Or.inl rfl

theorem CutOf.flatten {pre : Bytes} {d : SDoc} {out : Bytes} {before after : List Bytes}
    (hc : CutOf pre d out before after) {pc : List Bytes} (hpc : pc.flatten = pre) (hpre : pre <+: out) :
    ((pc ++ before) ++ after).flatten = out := by
  obtain ⟨t, rfl⟩ := hpre
  rw [List.append_assoc, List.flatten_append, hpc, hc.whole]
  simp

theorem CutOf.point_length {pre : Bytes} {d : SDoc} {out : Bytes} {before after : List Bytes}
    (hc : CutOf pre d out before after) {pc : List Bytes} (hpc : pc.flatten = pre) :
    (pc ++ before).flatten.length = mutationOffset pre d := by
  rw [List.flatten_append, List.length_append, hpc, hc.point]

/-- **Success ⇒ the complete file and the saved state**, for a plain save (`pre = []`, `pc = []`) and for an
incremental one -/
theorem saveSink_cut_ok {pre : Bytes} {d : SDoc} {out : Bytes} (d' : SDoc) {pc before after : List Bytes}
    {s : List Resp} (hpc : pc.flatten = pre) (hpre : pre <+: out) (hc : CutOf pre d out before after)
    (h : (saveSink (pc ++ before) after s).ok = true) :
    (saveSink (pc ++ before) after s).delivered = out ∧ docAfter d d' (saveSink (pc ++ before) after s) = d' := by
  have hf := saveSink_flat (pc ++ before) after s
  refine ⟨?_, ?_⟩
  · rw [hf.2, ok_delivers_all _ s (hf.1 ▸ h)]
    exact hc.flatten hpc hpre
  · cases hm : (saveSink (pc ++ before) after s).mutated
    · rw [(saveSink_unmutated _ _ _ hm).1] at h; cases h
    · rw [docAfter, hm, if_pos rfl]

/-- **Delivered bytes are a prefix of the file**, whatever the sink does -/
theorem saveSink_cut_prefix {pre : Bytes} {d : SDoc} {out : Bytes} {pc before after : List Bytes}
    (s : List Resp) (hpc : pc.flatten = pre) (hpre : pre <+: out) (hc : CutOf pre d out before after) :
    (saveSink (pc ++ before) after s).delivered <+: out :=
  hc.flatten hpc hpre ▸ (saveSink_flat (pc ++ before) after s).2 ▸ delivered_prefix _ s

/-- **Success ⇒ the complete output and the saved state** — for every document, every cut of the
output into requests, every sink. -/
theorem saveSink_ok (d : SDoc) (out : Bytes) (d' : SDoc) (before after : List Bytes) (s : List Resp)
    (hc : CutOf [] d out before after) (h : (saveSink before after s).ok = true) :
    (saveSink before after s).delivered = out ∧ docAfter d d' (saveSink before after s) = d' :=
  saveSink_cut_ok (pc := []) d' rfl (List.nil_prefix) hc h

/-- **Delivered bytes are a prefix of the file `save` defines** — every sink, every failure. -/
theorem saveSink_prefix_out (d : SDoc) (out : Bytes) (before after : List Bytes) (s : List Resp)
    (hc : CutOf [] d out before after) : (saveSink before after s).delivered <+: out :=
  saveSink_cut_prefix (pc := []) s rfl (List.nil_prefix) hc

/-- **A save that reports success — through any sink — loads back to the document (table kind).**
`file_rt_table` applied to the delivered bytes. -/
theorem sink_save_loads_table (order : Option (List Nat)) (d : SDoc) (out : Bytes) (d' : SDoc)
    (before after : List Bytes) (s : List Resp) (hc : CutOf [] d out before after)
    (hok : (saveSink before after s).ok = true)
    (hk : d.xrefKind = .table) (h : saveFrom [] d = some (out, d')) (hlen : out.length < 4294967296)
    (hmax : d.maxId + 1 ≤ 4294967295) (hwf : DocWF d)
    (hobjs : ∀ p ∈ d.objects, ObjOK p.2)
    (htr : WFObj (.dict d.trailer) ∧ height (.dict d.trailer) ≤ MAX_NESTING ∧ NoRealD d.trailer)
    (hv1 : ∀ b ∈ d.version, notEol b = true) (hv2 : validUtf8 d.version = true)
    (hprev : d.trailer.get PREV = none) (henc : d.trailer.has ENCRYPT = false) :
    ∃ L : Loaded, loadDocOrd order (saveSink before after s).delivered = .ok L ∧ L.version = d.version ∧
      L.binaryMark = d.binaryMark ∧ L.trailer = d'.trailer ∧
      (∀ id, L.objects.get id = d.objects.get id) := by
  rw [(saveSink_ok d out d' before after s hc hok).1]
  obtain ⟨L, h1, h2, h3, h4, -, -, h7, -⟩ :=
    file_rt_table order d out d' hk h hlen hmax hwf hobjs htr hv1 hv2 hprev henc
  exact ⟨L, h1, h2, h3, h4, h7⟩

/-- what `file_rt_stream` asks of a document saved with a cross-reference stream -/
structure StreamSaveable (d : SDoc) : Prop where
  kind : d.xrefKind = .stream
  wf : DocWF d
  objs : ∀ p ∈ d.objects, ObjOK p.2
  tr : WFObj (.dict d.trailer) ∧ height (.dict d.trailer) ≤ MAX_NESTING ∧ NoRealD d.trailer
  v1 : ∀ b ∈ d.version, notEol b = true
  v2 : validUtf8 d.version = true
  prev : d.trailer.get PREV = none
  enc : d.trailer.has ENCRYPT = false

theorem StreamSaveable.loads {d : SDoc} (S : StreamSaveable d) (order : Option (List Nat)) {out : Bytes} {d' : SDoc}
    (h : saveFrom [] d = some (out, d')) (hlen : out.length < 4294967296) (hmax : d.maxId + 2 ≤ 4294967295) :
    ∃ L : Loaded, loadDocOrd order out = .ok L ∧ L.version = d.version ∧ L.binaryMark = d.binaryMark ∧
      ∀ id, L.objects.get id = (objectsWithXref d).get id := by
  obtain ⟨L, h1, h2, h3, -, -, -, h7⟩ :=
    file_rt_stream order d out d' S.kind h hlen hmax S.wf S.objs S.tr S.v1 S.v2 S.prev S.enc
  exact ⟨L, h1, h2, h3, h7⟩

/-- the same for the cross-reference-stream kind (`file_rt_stream` applied to the delivered bytes) -/
theorem sink_save_loads_stream (order : Option (List Nat)) (d : SDoc) (out : Bytes) (d' : SDoc)
    (before after : List Bytes) (s : List Resp) (hc : CutOf [] d out before after)
    (hok : (saveSink before after s).ok = true)
    (hk : d.xrefKind = .stream) (h : saveFrom [] d = some (out, d')) (hlen : out.length < 4294967296)
    (hmax : d.maxId + 2 ≤ 4294967295) (hwf : DocWF d)
    (hobjs : ∀ p ∈ d.objects, ObjOK p.2)
    (htr : WFObj (.dict d.trailer) ∧ height (.dict d.trailer) ≤ MAX_NESTING ∧ NoRealD d.trailer)
    (hv1 : ∀ b ∈ d.version, notEol b = true) (hv2 : validUtf8 d.version = true)
    (hprev : d.trailer.get PREV = none) (henc : d.trailer.has ENCRYPT = false) :
    ∃ L : Loaded, loadDocOrd order (saveSink before after s).delivered = .ok L ∧ L.version = d.version ∧
      L.binaryMark = d.binaryMark ∧ (∀ id, L.objects.get id = (objectsWithXref d).get id) := by
  rw [(saveSink_ok d out d' before after s hc hok).1]
  exact StreamSaveable.loads ⟨hk, hwf, hobjs, htr, hv1, hv2, hprev, henc⟩ order h hlen hmax

/-- the state a table save leaves: only the trailer's `Size` is set -/
theorem saveFrom_table_doc (pre : Bytes) (d : SDoc) (out : Bytes) (d' : SDoc) (hk : d.xrefKind = .table)
    (h : saveFrom pre d = some (out, d')) :
    d' = { d with trailer := d.trailer.set SIZE (.int (d.maxId + 1)) } := by
  have hm := saveFrom_mark pre d out d' h
  simp only [saveFrom, hm, hk, Bool.not_true, Bool.false_eq_true, if_false, Option.some.injEq, Prod.mk.injEq] at h
  rw [← h.2, hk]

/-- the state a cross-reference-stream save leaves: the trailer becomes the stream's dictionary, `max_id` counts the
stream object -/
theorem saveFrom_stream_doc (pre : Bytes) (d : SDoc) (out : Bytes) (d' : SDoc) (hk : d.xrefKind = .stream)
    (h : saveFrom pre d = some (out, d')) :
    d' = { d with trailer := streamTrailer pre d, maxId := d.maxId + 1 } := by
  have ht := (saveFrom_stream_eq pre d out d' hk h).2
  have hm := saveFrom_mark pre d out d' h
  simp only [saveFrom, hm, hk, Bool.not_true, Bool.false_eq_true, if_false, Option.some.injEq, Prod.mk.injEq] at h
  obtain ⟨-, rfl⟩ := h
  rw [← ht, hk]

/-- table kind: the state a save leaves saves to the same bytes and stays as it is (`Size` is set to the value it has) -/
theorem saveFrom_table_idem (pre : Bytes) (d : SDoc) (out : Bytes) (d' : SDoc) (hk : d.xrefKind = .table)
    (h : saveFrom pre d = some (out, d')) : saveFrom pre d' = some (out, d') := by
  have hm := saveFrom_mark pre d out d' h
  obtain rfl := saveFrom_table_doc pre d out d' hk h
  simp only [saveFrom, hm, hk, Dict.set_set] at h ⊢
  exact h

/-- **Table kind: a second save writes the very same file.** The only thing `save` changes is the
trailer's `Size`, to the value the next save would store again. Hence after ANY run — failed at
any byte, or successful — saving what the caller holds to a healthy sink yields exactly the bytes
`out` of an undisturbed save, which load back to the document by `file_rt_table`. -/
theorem resave_table (d : SDoc) (out : Bytes) (d' : SDoc) (before after : List Bytes) (s : List Resp)
    (hk : d.xrefKind = .table) (h : saveFrom [] d = some (out, d')) :
    saveFrom [] (docAfter d d' (saveSink before after s)) = some (out, d') := by
  rcases saveSink_state d d' before after s with e | e <;> rw [e]
  · exact h
  · exact saveFrom_table_idem [] d out d' hk h

/-- **the state a save leaves can be saved again**: the bookkeeping entries the interrupted save put into the
trailer (`Type`, `Size`, `W`, `Index`, `Length`) are values the reader accepts, `Prev` and `Encrypt` stay absent, and
`max_id` has grown by one -/
theorem StreamSaveable.save {d : SDoc} (S : StreamSaveable d) {out : Bytes} {d' : SDoc}
    (h : saveFrom [] d = some (out, d')) (hlen : out.length < 4294967296) (hmax : d.maxId + 2 ≤ 4294967295) :
    StreamSaveable d' := by
  have hok := xrefObjP_ok [] d out d' S.kind h hlen hmax S.wf.gens S.tr
  have hnd := dict_nodup S.tr.1
  obtain rfl := saveFrom_stream_doc [] d out d' S.kind h
  refine ⟨S.kind, ⟨S.wf.nodup, fun p hp => ⟨(S.wf.range p hp).1, Nat.le_succ_of_le (S.wf.range p hp).2⟩, S.wf.gens,
    S.wf.kept⟩, S.objs, ⟨hok.1, hok.2.1, hok.2.2.1⟩, S.v1, S.v2, ?_, ?_⟩
  · exact (streamTrailer_get_free [] d hnd freeKey_PREV).trans S.prev
  · rw [Dict.has_eq, streamTrailer_get_free [] d hnd freeKey_ENCRYPT, ← Dict.has_eq]
    exact S.enc

/-- the cross-reference stream object lies above every id the document uses -/
theorem objectsWithXref_get (d : SDoc) (id : ObjId) (hid : id.1 ≤ d.maxId) :
    (objectsWithXref d).get id = d.objects.get id := by
  have hne : ¬ (d.maxId + 1, 0) = id := fun e => Nat.not_succ_le_self _ (e ▸ hid)
  simp [objectsWithXref, Objects_get_append, Objects.get, hne]

/-- **Stream kind: saving again after ANY run loads to the same content.** After a run that did
not reach the mutation point the caller holds `d` itself (`file_rt_stream`). Otherwise the caller
holds `d'` — `max_id` raised by one, the trailer carrying the cross-reference bookkeeping of the
interrupted save — and a save of `d'` to a healthy sink produces a file that loads: same version
and binary mark, and for every id up to the old `max_id` exactly the object `d` holds. The
bookkeeping entries are overwritten (`Type`, `Size`, `W`, `Index`, `Length`), never trusted. -/
theorem resave_stream (order : Option (List Nat)) (d : SDoc) (out : Bytes) (d' : SDoc)
    (before after : List Bytes) (s : List Resp)
    (hk : d.xrefKind = .stream) (h : saveFrom [] d = some (out, d')) (hlen : out.length < 4294967296)
    (hmax : d.maxId + 3 ≤ 4294967295) (hwf : DocWF d)
    (hobjs : ∀ p ∈ d.objects, ObjOK p.2)
    (htr : WFObj (.dict d.trailer) ∧ height (.dict d.trailer) ≤ MAX_NESTING ∧ NoRealD d.trailer)
    (hv1 : ∀ b ∈ d.version, notEol b = true) (hv2 : validUtf8 d.version = true)
    (hprev : d.trailer.get PREV = none) (henc : d.trailer.has ENCRYPT = false) :
    ∃ out2 d2, saveFrom [] (docAfter d d' (saveSink before after s)) = some (out2, d2) ∧
      (out2.length < 4294967296 →
        ∃ L : Loaded, loadDocOrd order out2 = .ok L ∧ L.version = d.version ∧ L.binaryMark = d.binaryMark ∧
          ∀ id : ObjId, id.1 ≤ d.maxId → L.objects.get id = d.objects.get id) := by
  have S : StreamSaveable d := ⟨hk, hwf, hobjs, htr, hv1, hv2, hprev, henc⟩
  rcases saveSink_state d d' before after s with e | e <;> rw [e]
  · obtain ⟨L, l1, l2, l3, l4⟩ := S.loads order h hlen (by omega)
    exact ⟨out, d', h, fun _ => ⟨L, l1, l2, l3, fun id hid => (l4 id).trans (objectsWithXref_get d id hid)⟩⟩
  · have S' := S.save h hlen (by omega)
    obtain rfl := saveFrom_stream_doc [] d out d' hk h
    obtain ⟨out2, d2, h2⟩ := saveFrom_some [] { d with trailer := streamTrailer [] d, maxId := d.maxId + 1 }
      (saveFrom_mark [] d out _ h)
    refine ⟨out2, d2, h2, fun hlen2 => ?_⟩
    obtain ⟨L, l1, l2, l3, l4⟩ := S'.loads order h2 hlen2 (by show d.maxId + 1 + 2 ≤ _; omega)
    exact ⟨L, l1, l2, l3, fun id hid => (l4 id).trans (objectsWithXref_get _ id (Nat.le_succ_of_le hid))⟩

/-! ### non-vacuity -/

example : (saveSink [[1, 2], [3]] [[4, 5]] [.accept 1, .interrupted, .accept 1, .accept 1, .fail]).mutated = true ∧
    (saveSink [[1, 2], [3]] [[4, 5]] [.accept 1, .interrupted, .accept 1, .accept 1, .fail]).ok = false ∧
    (saveSink [[1, 2], [3]] [[4, 5]] [.accept 1, .interrupted, .accept 1, .accept 1, .fail]).delivered = [1, 2, 3] := by
  decide
example : (saveSink [[1, 2], [3]] [[4, 5]] [.accept 2, .accept 0]).mutated = false := by decide
example : splitRequests [[1, 2], [3], [4, 5]] 3 = some ([[1, 2], [3]], [[4, 5]]) := by decide
example : splitRequests [[1, 2], [3], [4, 5]] 4 = none := by decide

end Lopdf
