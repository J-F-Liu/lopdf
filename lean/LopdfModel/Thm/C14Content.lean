import LopdfModel.Thm.C01Obj
import LopdfModel.Thm.C14
/-
  C14 — `content_rt`: decoding what `Content::encode` wrote returns the same operations
  (operands up to `norm`: an integral-valued real comes back as the integer), for EVERY list of
  operations whose operands are well-formed direct objects (no references at top level, no
  streams) and whose operators are non-empty over letters, `*`, `'`, `"` and do not begin with
  `true` / `false` / `null` (nor with `BI` when there is no operand).  Built on C01's `obj_rt`
  machinery with the following text `" " ++ …`.
-/
namespace Lopdf.ContentRt
open Lopdf Gen Lopdf.ObjRt

theorem opByte_facts (b : UInt8) (h : isOperatorByte b = true) :
    isDigit b = false ∧ b ≠ 43 ∧ b ≠ 45 ∧ b ≠ 46 ∧ b ≠ 47 ∧ b ≠ 40 ∧ b ≠ 60 ∧ b ≠ 91 ∧ b ≠ 37 ∧
    isContentSpace b = false := by
  have ne : ∀ c, isOperatorByte c = false → b ≠ c := fun c hc e => by rw [e, hc] at h; cases h
  refine ⟨?_, ne 43 rfl, ne 45 rfl, ne 46 rfl, ne 47 rfl, ne 40 rfl, ne 60 rfl, ne 91 rfl, ne 37 rfl, ?_⟩
  · cases hd : isDigit b
    · rfl
    · exact absurd rfl (ne b (forall_digit (fun b => isOperatorByte b = false) (by decide +kernel) b hd))
  · cases hc : isContentSpace b
    · rfl
    · exact absurd rfl (ne b ((by decide : ∀ c ∈ CONTENT_SPACE, isOperatorByte c = false) b
        (List.contains_iff_mem.mp hc)))
theorem ws_cs (b : UInt8) (h : isWhitespace b = false) : isContentSpace b = false := by
  cases hc : isContentSpace b with
  | false => rfl
  | true =>
    have := (by decide : ∀ b ∈ CONTENT_SPACE, isWhitespace b = true) b (List.contains_iff_mem.mp hc)
    rw [h] at this; cases this

/-- first byte is not a content blank -/
def HeadNonCs (Y : Bytes) : Prop := ∃ b r, Y = b :: r ∧ isContentSpace b = false

theorem contentSpace_head (Y : Bytes) (h : HeadNonCs Y) : contentSpace Y = Y := by
  obtain ⟨b, r, rfl, hb⟩ := h
  simp [contentSpace, spanP, hb]

theorem contentSpace_nil : contentSpace [] = [] := by simp [contentSpace, spanP]

theorem contentSpace_lf (Y : Bytes) : contentSpace (10 :: Y) = contentSpace Y := by
  simp [contentSpace, spanP, isContentSpace, CONTENT_SPACE]

theorem tag_append_none : ∀ (kw op tail : Bytes), tag kw op = none →
    (∀ b r, tail = b :: r → b ∉ kw) → tag kw (op ++ tail) = none := by
  intro kw
  induction kw with
  | nil => intro op tail h _; cases op <;> simp [tag] at h
  | cons x xs ih =>
    intro op tail h ht
    cases op with
    | nil =>
      cases tail with
      | nil => simp [tag]
      | cons b r =>
        have : b ∉ x :: xs := ht b r rfl
        simp only [List.mem_cons, not_or] at this
        simp [tag, Ne.symm this.1]
    | cons y ys =>
      by_cases hxy : x = y
      · subst hxy
        simp only [tag, if_true, List.cons_append] at h ⊢
        exact ih ys tail h (fun b r e hb => ht b r e (List.mem_cons_of_mem _ hb))
      · simp [tag, hxy]

theorem head_obj_content (L : Bytes → Prop) (o : Obj) (x : Bytes) (h : WF L o) :
    ∃ b r, writeObj o ++ x = b :: r ∧ (b ≠ 66 ∧ b ≠ 37 ∧ isContentSpace b = false) :=
  head_obj_P _ o x h
    (fun _ => ⟨forall_digit _ (by decide +kernel), by decide, by decide, by decide, by decide⟩)
    (fun _ => by decide)

theorem follow_blank (o : Obj) (rest : Bytes) : Follow false o (32 :: rest) :=
  follow_of (nameStop_cons rest (by decide)) (fun h => by cases h) o

/-- an operand in the scope of the theorem: a well-formed direct object that is not a
reference (the `operand` grammar has no `reference` alternative), nested at most MAX_NESTING deep -/
def WFOperand (o : Obj) : Prop := WFObj o ∧ (∀ n g, o ≠ .ref n g) ∧ height o ≤ MAX_NESTING

/-- **one operand**: what `encode` writes for it, and the separating blank, is read back by `operand` -/
theorem operand_rt (o : Obj) (rest : Bytes) (h : WFOperand o) :
    pOperand (writeObj o ++ 32 :: rest) = .ok (norm o) (contentSpace rest) := by
  obtain ⟨hwf, href, hh⟩ := h
  have hobj : operandObj (writeObj o ++ 32 :: rest) = .ok (norm o) (32 :: rest) := by
    rw [operandObj_eq]
    cases hsc : isScalar o with
    | true => rw [scalar_core _ litOK_all false o (32 :: rest) hwf hsc (fun _ => href) (follow_blank o rest)]
    | false =>
      obtain ⟨hn, hc⟩ := compound_rt _ litOK_all o ((writeObj o ++ 32 :: rest).length + 1) 0 (32 :: rest)
        hsc hwf (by omega) (Nat.le_succ_of_le (size_le_input _ o _ hwf))
      rw [hn, hc]
  simp [pOperand, hobj, contentSpace_cons_space]

/-- what follows an operator in `encode`'s output: nothing, or the newline before the next operation -/
def OpTail (tail : Bytes) : Prop := ∀ b r, tail = b :: r → b = 10

structure WFOperator (opr : Bytes) : Prop where
  ne : opr ≠ []
  alpha : ∀ b ∈ opr, isOperatorByte b = true
  notNull : tag NULL_KW opr = none
  notTrue : tag TRUE_KW opr = none
  notFalse : tag FALSE_KW opr = none

/-- `operand` fails (recoverably) on an operator, so `many0(operand)` stops there -/
theorem operand_on_operator (opr tail : Bytes) (h : WFOperator opr) (ht : OpTail tail) :
    pOperand (opr ++ tail) = .error := by
  have hnotin : ∀ (kw : Bytes), (10 : UInt8) ∉ kw → ∀ b r, tail = b :: r → b ∉ kw := by
    intro kw hk b r e; rw [ht b r e]; exact hk
  have t1 := tag_append_none NULL_KW opr tail h.notNull (hnotin _ (by decide))
  have t2 := tag_append_none TRUE_KW opr tail h.notTrue (hnotin _ (by decide))
  have t3 := tag_append_none FALSE_KW opr tail h.notFalse (hnotin _ (by decide))
  obtain ⟨a, as, rfl⟩ := List.exists_cons_of_ne_nil h.ne
  have ha := opByte_facts a (h.alpha a (by simp))
  simp only [List.cons_append] at t1 t2 t3 ⊢
  obtain ⟨n1, n2, n3⟩ := num_fail false a (as ++ tail) ha.1 ha.2.1 ha.2.2.1 ha.2.2.2.1
  have hsc : scalars false (a :: (as ++ tail)) = none := by
    unfold scalars
    rw [t1, t2, t3, n1, n2, n3]
    obtain ⟨p1, p2, p3, _⟩ := delim_alts_fail a (as ++ tail)
    rw [p1 ha.2.2.2.2.1, p2 ha.2.2.2.2.2.1, p3 ha.2.2.2.2.2.2.1]
  have hobj : operandObj (a :: (as ++ tail)) = .error := by
    rw [operandObj_eq, hsc]
    exact (delim_alts_fail a (as ++ tail)).2.2.2 ha.2.2.2.2.2.2.2.1 ha.2.2.2.2.2.2.1 _ _
  simp [pOperand, hobj]

def encOperands (os : List Obj) : Bytes := (os.map fun o => writeObj o ++ [32]).flatten

theorem encOperands_cons (o : Obj) (r : List Obj) (X : Bytes) :
    encOperands (o :: r) ++ X = writeObj o ++ 32 :: (encOperands r ++ X) := by
  simp [encOperands]

theorem encOperands_length (os : List Obj) : os.length ≤ (encOperands os).length := by
  induction os with
  | nil => simp [encOperands]
  | cons o r ih =>
    have := encOperands_cons o r []
    simp only [List.append_nil] at this
    rw [this]; simp; omega

theorem headNonCs_operands (os : List Obj) (X : Bytes) (h : ∀ o ∈ os, WFOperand o) (hX : HeadNonCs X) :
    HeadNonCs (encOperands os ++ X) := by
  cases os with
  | nil => simpa [encOperands] using hX
  | cons o r =>
    rw [encOperands_cons]
    obtain ⟨b, r', e, _, _, hb⟩ := head_obj_content _ o (32 :: (encOperands r ++ X)) (h o (by simp)).1
    exact ⟨b, r', e, hb⟩

theorem operands_rt : ∀ (os : List Obj) (n : Nat) (X : Bytes), (∀ o ∈ os, WFOperand o) → os.length ≤ n →
    HeadNonCs X → pOperand X = .error →
    manyOperands n (encOperands os ++ X) = some (normL os, X) := by
  intro os
  induction os with
  | nil =>
    intro n X _ _ _ hX
    cases n with
    | zero => simp [encOperands, manyOperands, normL]
    | succ n => simp [encOperands, manyOperands, normL, hX]
  | cons o r ih =>
    intro n X h hn hXh hX
    cases n with
    | zero => simp at hn
    | succ n =>
      have hr : ∀ o ∈ r, WFOperand o := fun o ho => h o (by simp [ho])
      rw [encOperands_cons]
      simp only [manyOperands, operand_rt o _ (h o (by simp)),
        contentSpace_head _ (headNonCs_operands r X hr hXh), ih n X hr (by simpa using hn) hXh hX]
      simp [normL]

/-- operations in the scope of `content_rt` -/
structure WFOp (op : Operation) : Prop where
  operator : WFOperator op.operator
  notBI : op.operands = [] → tag [66, 73] op.operator = none
  operands : ∀ o ∈ op.operands, WFOperand o

def normOp (op : Operation) : Operation := { operator := op.operator, operands := normL op.operands }

theorem encodeOperation_plain (op : Operation) (h : WFOp op) :
    encodeOperation op = encOperands op.operands ++ op.operator := by
  unfold encodeOperation
  simp only [encOperands]
  split
  · split
    · rename_i d c heq
      have := (h.operands (.stream d c) (by rw [heq]; simp)).1
      simp [WFObj, WF] at this
    · rfl
  · rfl

theorem headNonCs_operator (opr tail : Bytes) (h : WFOperator opr) : HeadNonCs (opr ++ tail) := by
  obtain ⟨a, as, e⟩ := List.exists_cons_of_ne_nil h.ne
  have ha := opByte_facts a (h.alpha a (by rw [e]; simp))
  exact ⟨a, as ++ tail, by rw [e]; simp, ha.2.2.2.2.2.2.2.2.2⟩

theorem headNonCs_operation (op : Operation) (tail : Bytes) (h : WFOp op) :
    HeadNonCs (encodeOperation op ++ tail) := by
  rw [encodeOperation_plain op h, List.append_assoc]
  exact headNonCs_operands _ _ h.operands (headNonCs_operator _ _ h.operator)

/-- **one operation**, followed by the end of the content or the newline `encode` puts between
operations -/
theorem operation_rt (op : Operation) (tail : Bytes) (h : WFOp op) (ht : OpTail tail) :
    pOperation (encodeOperation op ++ tail) = .ok (normOp op) (contentSpace tail) := by
  rw [encodeOperation_plain op h, List.append_assoc]
  have hopX := headNonCs_operator op.operator tail h.operator
  -- no comment, no `BI`
  have hfirst : ∃ b r, encOperands op.operands ++ (op.operator ++ tail) = b :: r ∧ b ≠ 37 ∧
      tag [66, 73] (encOperands op.operands ++ (op.operator ++ tail)) = none := by
    cases hos : op.operands with
    | nil =>
      obtain ⟨a, as, e⟩ := List.exists_cons_of_ne_nil h.operator.ne
      have ha := opByte_facts a (h.operator.alpha a (by rw [e]; simp))
      refine ⟨a, as ++ tail, by simp [encOperands, e], ha.2.2.2.2.2.2.2.2.1, ?_⟩
      simp only [encOperands, List.map_nil, List.flatten_nil, List.nil_append]
      exact tag_append_none _ _ _ (h.notBI hos) (fun b r e' => by rw [ht b r e']; decide)
    | cons o r =>
      rw [encOperands_cons]
      obtain ⟨b, r', e, h66, h37, _⟩ := head_obj_content _ o (32 :: (encOperands r ++ (op.operator ++ tail)))
        (h.operands o (by rw [hos]; simp)).1
      refine ⟨b, r', e, h37, ?_⟩
      rw [e]; simp [tag, Ne.symm h66]
  obtain ⟨b, r, e, h37, hbi⟩ := hfirst
  have hcom : manyComments ((encOperands op.operands ++ (op.operator ++ tail)).length + 1)
      (encOperands op.operands ++ (op.operator ++ tail)) = encOperands op.operands ++ (op.operator ++ tail) := by
    simp only [manyComments]
    rw [e, comment_non37 b r h37]
  have hmany := operands_rt op.operands ((encOperands op.operands ++ (op.operator ++ tail)).length + 1)
    (op.operator ++ tail) h.operands
    (by have := encOperands_length op.operands; simp; omega) hopX
    (operand_on_operator _ _ h.operator ht)
  have hop : pOperator (op.operator ++ tail) = some (op.operator, tail) :=
    operator_rt _ _ h.operator.ne h.operator.alpha (fun b r e' => by rw [ht b r e']; decide)
  unfold pOperation
  simp only [hcom, hbi, hmany, hop, normOp]

theorem pOperation_nil : pOperation [] = .error := by
  have h1 : pOperand [] = .error := by
    have : scalars false [] = none := by
      simp [scalars, tag, NULL_KW, TRUE_KW, FALSE_KW, pReal, optSign, spanP, pInteger, digit1, pName, pLiteral, pHexString]
    simp [pOperand, operandObj_eq, this, compound]
  simp [pOperation, manyComments, comment, tag, manyOperands, h1, pOperator, spanP]

theorem manyOperations_nil (n : Nat) : manyOperations n [] = .ok [] := by
  cases n with
  | zero => rfl
  | succ n => simp [manyOperations, pOperation_nil]

/-! ### operation lists

`encode` joins the operations with newlines; `_content` reads them back one by one.  The list
induction is the same for every class `W` of operations whose members are read back (as `N op`)
whatever end or newline follows: plain operations here, inline images in `C14Inline`. -/

/-- `W`-operations are read back as `N op` in front of the end or of a newline -/
def ReadBack (W : Operation → Prop) (N : Operation → Operation) : Prop :=
  ∀ op tail, W op → OpTail tail →
    pOperation (encodeOperation op ++ tail) = .ok (N op) (contentSpace tail) ∧
    HeadNonCs (encodeOperation op ++ tail)

theorem opTail_nil : OpTail [] := fun _ _ e => by cases e

theorem opTail_lf (x : Bytes) : OpTail (10 :: x) := fun _ _ e => by injection e with e _; exact e.symm

theorem encodeContent_cons (op op2 : Operation) (rest : List Operation) :
    encodeContent (op :: op2 :: rest) = encodeOperation op ++ 10 :: encodeContent (op2 :: rest) := by
  simp [encodeContent]

theorem headNonCs_content {W : Operation → Prop} {N : Operation → Operation} (hW : ReadBack W N)
    (op : Operation) (rest : List Operation) (h : ∀ o ∈ op :: rest, W o) :
    HeadNonCs (encodeContent (op :: rest)) := by
  cases rest with
  | nil => simpa [encodeContent] using (hW op [] (h op (by simp)) opTail_nil).2
  | cons op2 r =>
    rw [encodeContent_cons]
    exact (hW op _ (h op (by simp)) (opTail_lf _)).2

theorem encodeContent_length {W : Operation → Prop} {N : Operation → Operation} (hW : ReadBack W N) :
    ∀ (ops : List Operation), (∀ op ∈ ops, W op) → ops.length ≤ (encodeContent ops).length
  | [], _ => by simp [encodeContent]
  | [op], h => by
    obtain ⟨b, r, e, _⟩ := headNonCs_content hW op [] h
    rw [e]; simp
  | op :: op2 :: rest, h => by
    obtain ⟨b, r, e, _⟩ := (hW op [] (h op (by simp)) opTail_nil).2
    have h1 := congrArg List.length e
    have h2 := encodeContent_length hW (op2 :: rest) (fun o ho => h o (by simp [ho]))
    rw [encodeContent_cons]
    simp only [List.append_nil, List.length_append, List.length_cons] at h1 h2 ⊢
    omega

theorem manyOperations_rt {W : Operation → Prop} {N : Operation → Operation} (hW : ReadBack W N) :
    ∀ (ops : List Operation) (n : Nat), (∀ op ∈ ops, W op) → ops.length ≤ n →
      manyOperations n (encodeContent ops) = .ok (ops.map N)
  | [], n, _, _ => by simpa [encodeContent] using manyOperations_nil n
  | [op], n, h, hn => by
    obtain ⟨n, rfl, _⟩ := fuel_succ (n := 0) hn
    have := (hW op [] (h op (by simp)) opTail_nil).1
    simp only [List.append_nil, contentSpace_nil] at this
    simp [encodeContent, manyOperations, this, manyOperations_nil]
  | op :: op2 :: rest, n, h, hn => by
    obtain ⟨n, rfl, hn'⟩ := fuel_succ hn
    have hrest : ∀ o ∈ op2 :: rest, W o := fun o ho => h o (by simp [ho])
    have h1 := (hW op (10 :: encodeContent (op2 :: rest)) (h op (by simp)) (opTail_lf _)).1
    rw [contentSpace_lf, contentSpace_head _ (headNonCs_content hW op2 rest hrest)] at h1
    have ih := manyOperations_rt hW (op2 :: rest) n hrest hn'
    rw [encodeContent_cons]
    simp only [manyOperations, h1, ih, List.map_cons]

theorem decodeContent_rt {W : Operation → Prop} {N : Operation → Operation} (hW : ReadBack W N)
    (ops : List Operation) (h : ∀ op ∈ ops, W op) :
    decodeContent (encodeContent ops) = .ok (ops.map N) := by
  unfold decodeContent
  have hsp : contentSpace (encodeContent ops) = encodeContent ops := by
    cases ops with
    | nil => simp [encodeContent, contentSpace_nil]
    | cons op rest => exact contentSpace_head _ (headNonCs_content hW op rest h)
  simp only [hsp]
  exact manyOperations_rt hW ops _ h (Nat.le_succ_of_le (encodeContent_length hW ops h))

theorem readBack_plain : ReadBack WFOp normOp :=
  fun op tail h ht => ⟨operation_rt op tail h ht, headNonCs_operation op tail h⟩

theorem operations_rt : ∀ (ops : List Operation) (n : Nat), (∀ op ∈ ops, WFOp op) → ops.length ≤ n →
    manyOperations n (encodeContent ops) = .ok (ops.map normOp) :=
  manyOperations_rt readBack_plain

/-- the normal form of an operation list: operands through `norm` -/
def normOps (ops : List Operation) : List Operation := ops.map normOp

/-- **C14 `content_rt`.** For every list of well-formed operations, decoding the encoded content
returns the same operators with the normal forms of the operands, in the same order. -/
theorem content_rt (ops : List Operation) (h : ∀ op ∈ ops, WFOp op) :
    decodeContent (encodeContent ops) = .ok (normOps ops) :=
  decodeContent_rt readBack_plain ops h

/-! ### non-vacuity -/

/-- `/F1 12.5 Tf`, `[(a(b) -3 <00>] TJ`, `q` -/
def sampleOps : List Operation :=
  [{ operator := [84, 102], operands := [.name [70, 49], .real [49, 50, 46, 53]] },
   { operator := [84, 74], operands := [.arr [.str [97, 40, 98] .lit, .int (-3), .str [0] .hex]] },
   { operator := [113], operands := [] }]

theorem sample_wf : ∀ op ∈ sampleOps, WFOp op := by
  intro op hop
  simp only [sampleOps, List.mem_cons, List.not_mem_nil, or_false] at hop
  rcases hop with rfl | rfl | rfl
  · refine ⟨⟨by simp, by decide, by decide, by decide, by decide⟩, by simp, ?_⟩
    intro o ho
    simp only [List.mem_cons, List.not_mem_nil, or_false] at ho
    rcases ho with rfl | rfl
    · exact ⟨by simp [WFObj, WF], by simp, by decide⟩
    · refine ⟨?_, by simp, by decide⟩
      simp only [WFObj, WF]
      exact Or.inl ⟨⟨false, [49, 50], [53], rfl, by simp, by decide, by decide⟩⟩
  · refine ⟨⟨by simp, by decide, by decide, by decide, by decide⟩, by simp, ?_⟩
    intro o ho
    simp only [List.mem_cons, List.not_mem_nil, or_false] at ho
    subst ho
    exact ⟨by simp [WFObj, WF, WFL]; decide, by simp, by decide⟩
  · exact ⟨⟨by simp, by decide, by decide, by decide, by decide⟩, fun _ => by decide, by simp⟩

example : decodeContent (encodeContent sampleOps) = .ok (normOps sampleOps) := content_rt _ sample_wf

/-- the guard on operators is needed: `nullx` after an operand is read as `null` and the operator `x` -/
example : tag NULL_KW ([110, 117, 108, 108, 120] ++ [10]) = some [120, 10] := by decide

end Lopdf.ContentRt
