import LopdfModel.Lemmas.Iso
/-
  C10 — the whole `renumber_objects_with` call as ONE renaming (`renumber_iso`), and what it
  means for reference resolution (`renumber_resolve`).
-/
namespace Lopdf.Ren
open Lopdf

/-- **the two passes of `renumber_objects_with`**, each as an `IsoStep` with its explicit renaming: the call
returns, `max_id` is the last number handed out, the number of objects is kept, and the dense renaming is the
assignment `k-th id ↦ start + k`. -/
theorem renumber_steps (d : Doc) (start : Nat) (hs : d.objects.Sorted)
    (g2 : (d.objects.keys.map (·.1)).Nodup)
    (hhi : start + d.objects.length ≤ U32_MAXE + 1) :
    ∃ d2, renumber d start = .ok d2 ∧ d2.maxId = start + d.objects.length - 1 ∧
      d2.objects.length = d.objects.length ∧
      IsoStep d.trailer d.objects (pagePass d).trailer (pagePass d).objects (pageRho d) ∧
      IsoStep (pagePass d).trailer (pagePass d).objects d2.trailer d2.objects (denseRho d start) ∧
      (∀ p ∈ assign (midKeys d) start, denseRho d start p.1 = p.2) := by
  have h1 := pagePass_isoStep d g2
  have hs1 := pagePass_sorted d hs
  have hlen := h1.length_eq hs hs1
  obtain ⟨d2, hd2, hmax, h2, hasg⟩ := densePass_isoStep (pagePass d) start hs1 (by rw [hlen]; exact hhi)
  have hlen2 := h2.length_eq hs1 (wf_densePass (pagePass d) start hs1 d2 hd2).2
  exact ⟨d2, hd2, by rw [hmax, hlen], by rw [hlen2, hlen], h1, h2, hasg⟩

/-- **C10, renumber_iso: the two passes compose into ONE renaming.**  For every document with a sorted
object map and pairwise distinct object numbers and `start + n - 1 ≤ u32::MAX` (all new ids fit),
`renumber_objects_with(start)` returns `d2`, and there is `rho` (page-order renaming followed by the dense
assignment) such that: `rho` is one-to-one on the ids in use; the new ids in use are exactly the images;
`max_id` is the last number; the trailer is the original with every reference renamed by `rho`; whatever
was reachable is reachable under its new name; an id that names no object, before and after the page-order
pass, is left as it is.  If moreover no reachable dangling reference of the original
is answered by an object after the page-order pass or at the end (`NoCap`; its failure is finding F-C10-b),
then every object sits at `rho id`, renamed by `rho` exactly when it was reachable from the ORIGINAL trailer
and untouched otherwise. -/
theorem renumber_iso (d : Doc) (start : Nat) (hs : d.objects.Sorted)
    (g2 : (d.objects.keys.map (·.1)).Nodup)
    (hhi : start + d.objects.length ≤ U32_MAXE + 1) :
    ∃ d2 rho, renumber d start = .ok d2 ∧ d2.maxId = start + d.objects.length - 1 ∧
      d2.objects.length = d.objects.length ∧
      (∀ a b, (d.objects.get a).isSome → (d.objects.get b).isSome → rho a = rho b → a = b) ∧
      (∀ q, (d2.objects.get q).isSome ↔ ∃ k, (d.objects.get k).isSome ∧ rho k = q) ∧
      d2.trailer = mapRefsD rho d.trailer ∧
      (∀ x, ReachIn d.trailer d.objects x → ReachIn d2.trailer d2.objects (rho x)) ∧
      (∀ r, d.objects.get r = none → (pagePass d).objects.get r = none → rho r = r) ∧
      (NoCap d.trailer d.objects (pagePass d).objects → NoCap d.trailer d.objects d2.objects →
        (∀ k o, d.objects.get k = some o →
          (ReachIn d.trailer d.objects k → d2.objects.get (rho k) = some (mapRefs rho o)) ∧
          (¬ ReachIn d.trailer d.objects k → d2.objects.get (rho k) = some o))) := by
  obtain ⟨d2, hd2, hmax, hlen, h1, h2, -⟩ := renumber_steps d start hs g2 hhi
  obtain ⟨hinj, hkeys, htr, hfwd, hfix⟩ := h1.comp h2
  exact ⟨d2, denseRho d start ∘ pageRho d, hd2, hmax, hlen, hinj, hkeys, htr, hfwd, hfix,
    fun hc1 hc2 => (isoStep_comp h1 h2 hc1 hc2).2.2.2.2.1⟩

/-- finding F-C10-b, as a predicate: the dangling reference `r` is answered by an object after the
page-order pass (then the dense pass renames the reference with that object) or at the end -/
def CapturedRef (d d2 : Doc) (r : ObjId) : Prop :=
  (pagePass d).objects.get r ≠ none ∨ d2.objects.get r ≠ none

/-- **C10, reference resolution.**  Under the hypotheses of `renumber_iso`, for every reference `r` that
occurs in the trailer or in an object reachable from it (`ReachIn … r`):
* if `r` resolved to an object `o`, and no reachable dangling reference was captured, the renamed reference
  `rho r` resolves to `o` with its references renamed — the same content as before;
* if `r` resolved to nothing, then either it still is `r` and still resolves to nothing, or it is exactly the
  registered capture F-C10-b (`CapturedRef`). -/
theorem renumber_resolve (d : Doc) (start : Nat) (hs : d.objects.Sorted)
    (g2 : (d.objects.keys.map (·.1)).Nodup)
    (hhi : start + d.objects.length ≤ U32_MAXE + 1) :
    ∃ d2 rho, renumber d start = .ok d2 ∧
      (∀ a b, (d.objects.get a).isSome → (d.objects.get b).isSome → rho a = rho b → a = b) ∧
      d2.trailer = mapRefsD rho d.trailer ∧
      (NoCap d.trailer d.objects (pagePass d).objects → NoCap d.trailer d.objects d2.objects →
        ∀ r o, ReachIn d.trailer d.objects r → d.objects.get r = some o →
          d2.objects.get (rho r) = some (mapRefs rho o)) ∧
      (∀ r, ReachIn d.trailer d.objects r → d.objects.get r = none →
        (rho r = r ∧ d2.objects.get r = none) ∨ CapturedRef d d2 r) := by
  obtain ⟨d2, rho, h1, _, _, hinj, _, htr, _, hfix, hobjs⟩ := renumber_iso d start hs g2 hhi
  refine ⟨d2, rho, h1, hinj, htr, ?_, ?_⟩
  · intro hc1 hc2 r o hr ho
    exact ((hobjs hc1 hc2) r o ho).1 hr
  · intro r hr hnone
    by_cases h1' : (pagePass d).objects.get r = none
    · by_cases h2' : d2.objects.get r = none
      · exact Or.inl ⟨hfix r hnone h1', h2'⟩
      · exact Or.inr (Or.inr h2')
    · exact Or.inr (Or.inl h1')

/-- **C10, page order is preserved.**  Under the hypotheses of `renumber_iso` and when no reachable dangling
reference is captured, the pages of the renumbered document are the pages of the original, in the same
order, under their new names. -/
theorem renumber_page_order (d : Doc) (start : Nat) (hs : d.objects.Sorted)
    (g2 : (d.objects.keys.map (·.1)).Nodup)
    (hhi : start + d.objects.length ≤ U32_MAXE + 1) :
    ∃ d2 rho, renumber d start = .ok d2 ∧ d2.trailer = mapRefsD rho d.trailer ∧
      (NoCap d.trailer d.objects (pagePass d).objects → NoCap d.trailer d.objects d2.objects →
        pageIter d2.trailer d2.objects = (pageIter d.trailer d.objects).map rho) := by
  obtain ⟨d2, rho, h1, _, hlen, _, _, htr, _, hfix, hobjs⟩ := renumber_iso d start hs g2 hhi
  refine ⟨d2, rho, h1, htr, ?_⟩
  intro hc1 hc2
  apply pageIter_comm (Good := ReachIn d.trailer d.objects) d.trailer d2.trailer htr hlen
  · constructor
    · intro x hx
      cases hox : d.objects.get x with
      | none =>
        rw [hfix x hox (hc1 x hx hox), hc2 x hx hox]; rfl
      | some o => rw [((hobjs hc1 hc2) x o hox).1 hx]; rfl
    · intro x o hx ho r hr; exact Reach.step hx ho hr
  · intro r hr; exact Reach.root hr

/- non-vacuity of the hypotheses `Sorted` and `Nodup` of `renumber_iso`: a two-object map meets them -/
example : Objects.Sorted [((3, 0), Obj.null), ((7, 0), Obj.null)] ∧
    ((Objects.keys [((3, 0), Obj.null), ((7, 0), Obj.null)]).map (·.1)).Nodup := by
  refine ⟨by simp [Objects.Sorted, Objects.keys, idLt], by decide⟩

/-- a bookmark before / after an update with `(old, new)`: same children, the target is unchanged or was
`old` and is `new` -/
def BkStep (old new : ObjId) (a b : Bookmark) : Prop :=
  a.children = b.children ∧ (b.page = a.page ∨ (a.page = old ∧ b.page = new))

/-- table before / after: same ids in the same order, entries related by `BkStep` -/
def TRel (old new : ObjId) (t t' : BkTable) : Prop :=
  t'.map (·.1) = t.map (·.1) ∧ ∀ i b, t.get i = some b → ∃ b', t'.get i = some b' ∧ BkStep old new b b'

theorem bkStep_trans (old new : ObjId) {a b c : Bookmark} (h1 : BkStep old new a b) (h2 : BkStep old new b c) :
    BkStep old new a c := by
  obtain ⟨c1, p1⟩ := h1
  obtain ⟨c2, p2⟩ := h2
  refine ⟨c1.trans c2, ?_⟩
  rcases p1 with p1 | ⟨p1a, p1b⟩
  · rcases p2 with p2 | ⟨p2a, p2b⟩
    · exact Or.inl (p2.trans p1)
    · exact Or.inr ⟨by rw [← p1]; exact p2a, p2b⟩
  · rcases p2 with p2 | ⟨_, p2b⟩
    · exact Or.inr ⟨p1a, by rw [p2]; exact p1b⟩
    · exact Or.inr ⟨p1a, p2b⟩

theorem tRel_refl (old new : ObjId) (t : BkTable) : TRel old new t t :=
  ⟨rfl, fun _ b h => ⟨b, h, rfl, Or.inl rfl⟩⟩

theorem tRel_trans (old new : ObjId) {t1 t2 t3 : BkTable} (h1 : TRel old new t1 t2) (h2 : TRel old new t2 t3) :
    TRel old new t1 t3 := by
  refine ⟨h2.1.trans h1.1, ?_⟩
  intro i b hb
  obtain ⟨b', hb', s1⟩ := h1.2 i b hb
  obtain ⟨b'', hb'', s2⟩ := h2.2 i b' hb'
  exact ⟨b'', hb'', bkStep_trans old new s1 s2⟩

theorem setPage_get (t : BkTable) (id : Nat) (pg : ObjId) (i : Nat) :
    (t.setPage id pg).get i = (t.get i).map (fun b => if i = id then { b with page := pg } else b) := by
  induction t with
  | nil => rfl
  | cons x xs ih =>
    obtain ⟨j, bx⟩ := x
    simp only [BkTable.setPage, List.map_cons] at ih ⊢
    by_cases e : j = id
    · subst e
      simp only [if_true, BkTable.get]
      by_cases e2 : j = i
      · subst e2; simp
      · simp only [e2, if_false]; exact ih
    · simp only [e, if_false, BkTable.get]
      by_cases e2 : j = i
      · subst e2; simp [e]
      · simp only [e2, if_false]; exact ih

theorem setPage_ids (t : BkTable) (id : Nat) (pg : ObjId) : (t.setPage id pg).map (·.1) = t.map (·.1) := by
  simp only [BkTable.setPage, List.map_map]
  apply List.map_congr_left
  intro p _; obtain ⟨j, b⟩ := p; simp only [Function.comp]; split <;> rfl

theorem setPage_rel (old new : ObjId) (t : BkTable) (id : Nat) (b : Bookmark) (hg : t.get id = some b) (hp : b.page = old) :
    TRel old new t (t.setPage id new) := by
  refine ⟨setPage_ids t id new, ?_⟩
  intro i bi hbi
  rw [setPage_get, hbi]
  by_cases e : i = id
  · subst e
    rw [hg] at hbi; cases hbi
    exact ⟨{ b with page := new }, by simp, rfl, Or.inr ⟨hp, rfl⟩⟩
  · exact ⟨bi, by simp [e], rfl, Or.inl rfl⟩

/-- **`update_bookmark_pages` only ever renames `old` to `new`**: on every table (any shape, shared or
missing children, any depth budget) the ids and children are kept and each target is unchanged or was `old`
and is now `new` -/
theorem updatePages_rel (old new : ObjId) : ∀ (depth : Nat) (t : BkTable) (ids : List Nat),
    TRel old new t (updatePages depth t ids old new) := by
  intro depth
  induction depth with
  | zero => intro t ids; exact tRel_refl old new t
  | succ n ih =>
    intro t ids
    rw [updatePages]
    refine List.foldlRecOn (motive := fun st : BkTable × Bool => TRel old new t st.1) ids _ (tRel_refl old new t)
      fun st h id _ => ?_
    show TRel old new t (if st.2 = true then st else _).1
    by_cases hs : st.2 = true
    · rw [if_pos hs]; exact h
    · rw [if_neg hs]
      cases hg : st.1.get id with
      | none => exact h
      | some b =>
        -- the entry itself, then its children on the updated table
        have h1 : TRel old new st.1 (if b.page = old then st.1.setPage id new else st.1) := by
          split
          · rename_i hp; exact setPage_rel old new st.1 id b hg hp
          · exact tRel_refl old new _
        refine tRel_trans old new h (tRel_trans old new h1 ?_)
        show TRel old new _ (if b.children.isEmpty = true then (if b.page = old then st.1.setPage id new else st.1)
          else updatePages n (if b.page = old then st.1.setPage id new else st.1) b.children old new)
        generalize (if b.page = old then st.1.setPage id new else st.1) = t1
        split
        · exact tRel_refl old new _
        · exact ih _ _

theorem renumberBookmarks_rel (bks : List Nat) (t : BkTable) (old new : ObjId) :
    TRel old new t (renumberBookmarks bks t old new) := by
  unfold renumberBookmarks; split
  · exact tRel_refl old new t
  · exact updatePages_rel old new _ t bks

/-- `r` is what a target `p` can become when SOME of the pairs (in order) are applied to it -/
inductive SubApply : List (ObjId × ObjId) → ObjId → ObjId → Prop
  | nil (p) : SubApply [] p p
  | skip {on rest p r} : SubApply rest p r → SubApply (on :: rest) p r
  | take {on rest r} : SubApply rest on.2 r → SubApply (on :: rest) on.1 r

theorem rhoFn_cons (o n : ObjId) (rest : List (ObjId × ObjId)) (p : ObjId) :
    rhoFn ((o, n) :: rest) p = if o = p then n else rhoFn rest p := by
  simp only [rhoFn, lookupId]; split <;> simp

/-- with distinct old ids and no chaining, applying any sub-sequence of the renames gives the old target or
its correct new name — never anything else -/
theorem subApply_safe : ∀ (pairs : List (ObjId × ObjId)), (pairs.map (·.1)).Nodup → NoChain pairs →
    ∀ p r, SubApply pairs p r → r = p ∨ r = rhoFn pairs p := by
  intro pairs
  induction pairs with
  | nil => intro _ _ p r h; cases h; exact Or.inl rfl
  | cons on rest ih =>
    intro hn hc p r h
    obtain ⟨o, n⟩ := on
    simp only [List.map_cons, List.nodup_cons] at hn
    simp only [NoChain] at hc
    rw [rhoFn_cons]
    cases h with
    | skip h' =>
      rcases ih hn.2 hc.2 p r h' with e | e
      · exact Or.inl e
      · by_cases eo : o = p
        · subst eo
          left; rw [e, rho_fix_of_not_old rest o hn.1]
        · right; simp [eo, e]
    | take h' =>
      simp only at h'
      right; simp only [if_true]
      rcases ih hn.2 hc.2 n r h' with e | e
      · exact e
      · rw [e, rho_fix_of_not_old rest n hc.1]

/-- table before / after a whole move loop -/
def SeqRel (pairs : List (ObjId × ObjId)) (t t' : BkTable) : Prop :=
  t'.map (·.1) = t.map (·.1) ∧
  ∀ i b, t.get i = some b → ∃ b', t'.get i = some b' ∧ b.children = b'.children ∧ SubApply pairs b.page b'.page

theorem seqRel_cons (o n : ObjId) (rest : List (ObjId × ObjId)) {t t1 t' : BkTable}
    (h1 : TRel o n t t1) (h2 : SeqRel rest t1 t') : SeqRel ((o, n) :: rest) t t' := by
  refine ⟨h2.1.trans h1.1, ?_⟩
  intro i b hb
  obtain ⟨b1, hb1, c1, p1⟩ := h1.2 i b hb
  obtain ⟨b', hb', c2, p2⟩ := h2.2 i b1 hb1
  refine ⟨b', hb', c1.trans c2, ?_⟩
  rcases p1 with p1 | ⟨p1a, p1b⟩
  · rw [← p1]; exact SubApply.skip p2
  · rw [p1a]; rw [p1b] at p2; exact SubApply.take p2

/- `SubApply` / `SeqRel` describe the pair-by-pair renaming of bookmark targets inside the move loop that lopdf did
   before commit 69805be; since then the targets are renamed once per pass through the complete map
   (`Lopdf.bookmarks_follow_rho`, Thm/C10.lean). -/

end Lopdf.Ren

namespace Lopdf

/-- **C10, renumber_iso when the pages are already in id order (no page reordering).**
For every document with a sorted object map and `start + n - 1 ≤ u32::MAX` (all new ids fit) whose page-order pass is the
identity, `renumber_objects_with(start)` returns a document `d'` and there is a renaming `rho` — the dense
assignment — that is one-to-one on the document's ids, with `trailer' = rename rho trailer`, and the object of
every id `old` found at `rho old`: renamed by `rho` when it is reachable from the new trailer, untouched
otherwise. -/
theorem renumber_iso_noreorder (d : Doc) (start : Nat) (hs : d.objects.Sorted)
    (hno : pagePairs (firstOcc (pageIter d.trailer d.objects)) = none)
    (hhi : start + d.objects.length ≤ U32_MAXE + 1) :
    ∃ d' rho, renumber d start = .ok d' ∧
      (∀ p ∈ assign (sortBy idLeE d.objects.keys) start, rho p.1 = p.2) ∧
      (∀ a b, (d.objects.get a).isSome → (d.objects.get b).isSome → rho a = rho b → a = b) ∧
      d'.trailer = mapRefsD rho d.trailer ∧
      (∀ old o, d.objects.get old = some o →
        (Reach (refsOfD d'.trailer) (fun id => d'.objects.get id) (rho old) → d'.objects.get (rho old) = some (mapRefs rho o)) ∧
        (¬ Reach (refsOfD d'.trailer) (fun id => d'.objects.get id) (rho old) → d'.objects.get (rho old) = some o)) := by
  obtain ⟨d', hd', -, h, hasg⟩ := Ren.densePass_isoStep d start hs hhi
  have hpp : pagePass d = d := by unfold pagePass; rw [hno]
  exact ⟨d', _, by rw [renumber, hpp, hd'], hasg, h.inj, h.trailer, h.objs⟩

example : pagePairs (firstOcc (pageIter [] [((3, 0), Obj.null), ((7, 0), Obj.null)])) = none ∧
    Objects.Sorted [((3, 0), Obj.null), ((7, 0), Obj.null)] := by
  constructor
  · decide
  · simp [Objects.Sorted, Objects.keys, idLt]

end Lopdf
