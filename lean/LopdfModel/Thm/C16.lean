import LopdfModel.Lemmas.Text
import LopdfModel.Spec.Charts
import LopdfModel.Spec.ChartsFull
/-
  C16 — text strings and one-byte encodings round-trip text. No cell of the seven generated tables is
  a surrogate, so `bytes_to_string` cannot panic and re-encoding decoded text is stable (for any table);
  the tables agree with the published charts; `text_string` / `decode_text_string` round-trip every
  list of scalars (UTF-16 and UTF-8: Lemmas/Utf16, Lemmas/Text); `extract_text` never panics and
  returns text shown under a one-byte encoding unchanged.
-/
namespace Lopdf
open Gen Spec

def cellOk (c : Option Nat) : Bool :=
  match c with
  | none => true
  | some u => (u < 0xD800 || 0xE000 ≤ u) && u < 0x10000

def tableOk (t : Table) : Bool := t.length == 256 && t.all cellOk

/-- all 7 × 256 cells regenerated from `mappings.rs`/`glyphnames.rs`, by complete enumeration -/
theorem tables_ok : ALL_TABLES.all tableOk = true := by decide +kernel

/-- **No cell of any of the seven tables is a surrogate** (and every table has 256 cells of 16 bits). -/
theorem tables_no_surrogate (t : Table) (ht : t ∈ ALL_TABLES) :
    t.length = 256 ∧ ∀ u, some u ∈ t → (u < 0xD800 ∨ 0xE000 ≤ u) ∧ u < 0x10000 := by
  have h := List.all_eq_true.mp tables_ok t ht
  simp only [tableOk, Bool.and_eq_true, beq_iff_eq, List.all_eq_true] at h
  refine ⟨h.1, fun u hu => ?_⟩
  have := h.2 (some u) hu
  simp only [cellOk, Bool.and_eq_true, Bool.or_eq_true, decide_eq_true_eq] at this
  exact this

/-- **Decoding never fails**: for each predefined table and every byte string,
`String::from_utf16(..).expect(..)` cannot fire; the result is the cell-wise image. -/
theorem decode_never_fails (t : Table) (ht : t ∈ ALL_TABLES) (bs : Bytes) :
    bytesToString t bs = .ok (bytesToUnits t bs) := by
  have h := (tables_no_surrogate t ht).2
  unfold bytesToString
  rw [decode_no_surrogate _ (fun u hu => (h u (mem_bytesToUnits t bs u hu)).1)]

/-- … and what it returns is a string of Unicode scalar values -/
theorem decode_scalars (t : Table) (ht : t ∈ ALL_TABLES) (bs : Bytes) :
    ∀ c ∈ bytesToUnits t bs, Scalar c := by
  intro c hc
  have := (tables_no_surrogate t ht).2 c (mem_bytesToUnits t bs c hc)
  unfold Scalar; omega

/-- generic over ANY table of at most 256 cells: units that came out of the table go back to
bytes that yield the same units (first-position lookup) -/
theorem reencode_units_stable (t : Table) (hl : t.length ≤ 256) (bs : Bytes) :
    bytesToUnits t (unitsToBytes t (bytesToUnits t bs)) = bytesToUnits t bs :=
  units_roundtrip t hl _ (mem_bytesToUnits t bs)

/-- **Re-encoding decoded text reproduces bytes that decode to the same text** — for ANY table
(≤ 256 cells of 16 bits), whenever decoding succeeded at all. -/
theorem reencode_stable (t : Table) (hl : t.length ≤ 256) (h16 : ∀ u, some u ∈ t → u < 0x10000)
    (bs : Bytes) (s : UStr) (h : bytesToString t bs = .ok s) :
    bytesToString t (stringToBytes t s) = .ok s := by
  unfold bytesToString at h
  cases hd : stdFromUtf16 (bytesToUnits t bs) with
  | none => simp [hd] at h
  | some s' =>
    simp only [hd, Outcome.ok.injEq] at h
    subst h
    have e := utf16_decode_encode _ _ (fun u hu => h16 u (mem_bytesToUnits t bs u hu)) hd
    unfold bytesToString stringToBytes
    rw [e, reencode_units_stable t hl bs, hd]

/-- the same for the predefined tables, where decoding always succeeds -/
theorem reencode_stable_predefined (t : Table) (ht : t ∈ ALL_TABLES) (bs : Bytes) :
    ∃ s, bytesToString t bs = .ok s ∧ bytesToString t (stringToBytes t s) = .ok s := by
  have h := tables_no_surrogate t ht
  exact ⟨_, decode_never_fails t ht bs,
    reencode_stable t (by omega) (fun u hu => (h.2 u hu).2) bs _ (decode_never_fails t ht bs)⟩

/-- text whose UTF-16 units all occur in the table survives encode + decode (ANY table) -/
theorem encode_decode_repertoire (t : Table) (hl : t.length ≤ 256) (s : UStr)
    (hs : ∀ c ∈ s, Scalar c) (hr : ∀ u ∈ stdEncodeUtf16 s, some u ∈ t) :
    bytesToString t (stringToBytes t s) = .ok s := by
  unfold bytesToString stringToBytes
  rw [units_roundtrip t hl _ hr, utf16_encode_decode s hs]

example : bytesToString WIN_ANSI_ENCODING (stringToBytes WIN_ANSI_ENCODING [0x20AC, 0x41, 0xE9]) = .ok [0x20AC, 0x41, 0xE9] := by
  decide +kernel

/-- a chart as the list of its (cell, code) pairs, codes increasing -/
def chartPairs (chart : Nat → Option (Option Nat)) : List (Option Nat × Nat) :=
  (List.range 256).filterMap fun b => (chart b).map (·, b)

/-- A table agrees with a chart when the chart's (cell, code) pairs form a sublist of the indexed
table: one linear pass for the kernel, where a look-up per code would walk the table 256 times. -/
theorem getElem?_of_sublist_zipIdx {t : Table} {l : List (Option Nat × Nat)} (h : l.Sublist t.zipIdx)
    {c : Option Nat} {b : Nat} (hm : (c, b) ∈ l) : t[b]? = some c :=
  List.mem_zipIdx_iff_getElem?.mp (h.subset hm)

theorem cell_of_chart {t : Table} {chart : Nat → Option (Option Nat)}
    (hs : (chartPairs chart).Sublist t.zipIdx) (b : UInt8) (e : Option Nat) (hc : chart b.toNat = some e) :
    t.cell b = e := by
  have hm : (e, b.toNat) ∈ chartPairs chart :=
    List.mem_filterMap.mpr ⟨b.toNat, List.mem_range.mpr b.toNat_lt, by rw [hc]; rfl⟩
  simp [Table.cell, getElem?_of_sublist_zipIdx hs hm]

theorem cells_of_block {t : Table} {block : List (Nat × Nat)}
    (hs : (block.map fun p => (some p.2, p.1)).Sublist t.zipIdx) :
    block.all (fun p => t[p.1]? == some (some p.2)) = true := by
  refine List.all_eq_true.mpr fun p hp => ?_
  rw [getElem?_of_sublist_zipIdx hs (List.mem_map_of_mem hp)]
  exact beq_self_eq_true _

/-- WinAnsi: printable ASCII identity; 0xA1–0xFF Latin-1 except 0xAD ↦ U+002D; 0xA0 ↦ U+0020 -/
theorem winansi_chart_agrees (b : UInt8) (e : Option Nat) (h : winAnsiChart b.toNat = some e) :
    Table.cell WIN_ANSI_ENCODING b = e :=
  cell_of_chart (by decide +kernel) b e h

/-- PDFDoc: printable ASCII identity; 0xA1–0xFF Latin-1 with 0xAD undefined; 0xA0 ↦ U+20AC; 0x00–0x17 undefined -/
theorem pdfdoc_chart_agrees (b : UInt8) (e : Option Nat) (h : pdfDocChart b.toNat = some e) :
    Table.cell PDF_DOC_ENCODING b = e :=
  cell_of_chart (by decide +kernel) b e h

/-- MacRoman: printable ASCII identity; 0x80–0x9F the accented-letter block -/
theorem macroman_chart_agrees (b : UInt8) (e : Option Nat) (h : macRomanChart b.toNat = some e) :
    Table.cell MAC_ROMAN_ENCODING b = e :=
  cell_of_chart (by decide +kernel) b e h

/-- WinAnsi 0x80–0x9F is code page 1252; PDFDoc 0x18–0x1F / 0x80–0x9E are the Annex D.2 specials -/
theorem special_blocks_agree :
    cp1252Block.all (fun (b, u) => WIN_ANSI_ENCODING[b]? == some (some u)) = true ∧
    pdfDocSpecials.all (fun (b, u) => PDF_DOC_ENCODING[b]? == some (some u)) = true :=
  ⟨cells_of_block (by decide +kernel), cells_of_block (by decide +kernel)⟩

example : winAnsiChart (0xE9 : UInt8).toNat = some (some 0xE9) := by decide
example : pdfDocChart (0xAD : UInt8).toNat = some none := by decide
example : macRomanChart (0x80 : UInt8).toNat = some (some 0xC4) := by decide

/-- **Every table equals its published chart on all 256 codes.** The charts (`Spec/ChartsFull.lean`)
come from sources other than lopdf — python3's `cp1252` / `mac_roman` / `latin_1` codecs with the
deviations ISO 32000-1 Annex D documents, Annex D.2 written out for PDFDocEncoding — except
StandardEncoding, MacExpertEncoding, Expert and Symbol, for which the sandbox has no independent
source and the table of the pinned commit is frozen as the chart. Any later change of an entry of
`mappings.rs` / `glyphnames.rs` breaks this theorem (and the harness names the differing byte). -/
theorem tables_match_charts :
    WIN_ANSI_ENCODING = CHART_WIN_ANSI_ENCODING ∧ MAC_ROMAN_ENCODING = CHART_MAC_ROMAN_ENCODING ∧
    PDF_DOC_ENCODING = CHART_PDF_DOC_ENCODING ∧ STANDARD_ENCODING = CHART_STANDARD_ENCODING ∧
    MAC_EXPERT_ENCODING = CHART_MAC_EXPERT_ENCODING ∧ EXPERT_ENCODING = CHART_EXPERT_ENCODING ∧
    SYMBOL_ENCODING = CHART_SYMBOL_ENCODING :=
  ⟨rfl, rfl, rfl, rfl, rfl, rfl, rfl⟩

/-- the tables `get_font_encoding` can select, in the order of its match arms -/
theorem font_tables : FONT_ENCODINGS.map (·.2) =
    [STANDARD_ENCODING, MAC_ROMAN_ENCODING, MAC_EXPERT_ENCODING, WIN_ANSI_ENCODING, PDF_DOC_ENCODING] := rfl

theorem font_tables_known :
    (FONT_ENCODINGS.all (fun p => ALL_TABLES.contains p.2) && ALL_TABLES.contains FONT_FALLBACK_ENCODING) = true := by
  simp [FONT_ENCODINGS, ALL_TABLES, FONT_FALLBACK_ENCODING]

theorem font_table_mem {n : Bytes} {t : Table} (hm : (n, t) ∈ FONT_ENCODINGS) : t ∈ ALL_TABLES := by
  have hk := font_tables_known
  simp only [Bool.and_eq_true, List.all_eq_true, List.contains_iff_mem] at hk
  exact hk.1 _ hm

/-- decoding a byte with a predefined encoding yields the character the published chart assigns
(nothing where the chart has none) — for all five encodings reachable through `get_font_encoding` -/
theorem decode_byte_is_chart (name : Bytes) (t : Table) (hm : (name, t) ∈ FONT_ENCODINGS) (b : UInt8) :
    ∃ chart ∈ [CHART_STANDARD_ENCODING, CHART_MAC_ROMAN_ENCODING, CHART_MAC_EXPERT_ENCODING,
        CHART_WIN_ANSI_ENCODING, CHART_PDF_DOC_ENCODING],
      t = chart ∧ bytesToString t [b] = .ok (match chart[b.toNat]? with | some (some u) => [u] | _ => []) := by
  obtain ⟨c1, c2, c3, c4, c5, _, _⟩ := tables_match_charts
  refine ⟨t, ?_, rfl, ?_⟩
  · rw [← c4, ← c2, ← c5, ← c1, ← c3, ← font_tables]
    exact List.mem_map_of_mem (f := (·.2)) hm
  · rw [decode_never_fails t (font_table_mem hm) [b]]
    simp only [bytesToUnits, List.filterMap_cons, List.filterMap_nil, Table.cell]
    cases t[b.toNat]? with
    | none => rfl
    | some c => cases c <;> rfl

theorem pdfdoc_printable (cs : UStr) (h : ∀ c ∈ cs, 0x20 ≤ c ∧ c ≤ 0x7E) :
    bytesToUnits PDF_DOC_ENCODING (cs.map Nat.toUInt8) = cs := by
  induction cs with
  | nil => rfl
  | cons c cs ih =>
    have hc := h c (by simp)
    have hn : c.toUInt8.toNat = c := toUInt8_toNat_of_lt (by omega)
    have hcell : Table.cell PDF_DOC_ENCODING c.toUInt8 = some c :=
      pdfdoc_chart_agrees c.toUInt8 (some c) (by rw [hn]; simp [pdfDocChart, hc.1, hc.2])
    have ih' := ih (fun x hx => h x (by simp [hx]))
    simp only [bytesToUnits] at ih' ⊢
    simp [hcell, ih']

/-- the byte test of `text_string`, read on scalar values: a character below 0x80 is its own UTF-8
byte, any other starts with a byte from 0xC0 -/
theorem enc8_all (c : Nat) :
    (enc8 c).all (fun b => TEXT_LITERAL_LO ≤ b && b < TEXT_LITERAL_HI) = (decide (0x20 ≤ c) && decide (c < 0x7F)) := by
  have lead (m k : Nat) (hm : TEXT_LITERAL_HI ≤ m) (r : List Nat) :
      ((m + k) :: r).all (fun b => TEXT_LITERAL_LO ≤ b && b < TEXT_LITERAL_HI) = false := by
    rw [List.all_cons, decide_eq_false (not_add_lt k hm), Bool.and_false, Bool.false_and]
  unfold enc8
  by_cases h : c < 0x80
  · rw [if_pos h]; exact Bool.and_true _
  · have hc : ¬ c < 0x7F := fun h' => h (Nat.lt_trans h' (by decide))
    rw [if_neg h, decide_eq_false hc, Bool.and_false]
    split
    · exact lead _ _ (by decide) _
    · split <;> exact lead _ _ (by decide) _

theorem isLiteralText_iff (s : UStr) : isLiteralText s = true ↔ ∀ c ∈ s, 0x20 ≤ c ∧ c < 0x7F := by
  induction s with
  | nil => simp [isLiteralText, enc8s]
  | cons c cs ih =>
    simp only [isLiteralText, enc8s, List.all_append, Bool.and_eq_true, enc8_all, decide_eq_true_eq] at ih ⊢
    simp only [List.mem_cons, forall_eq_or_imp]
    exact ⟨fun h => ⟨h.1, ih.mp h.2⟩, fun h => ⟨h.1, ih.mpr h.2⟩⟩

theorem enc8s_printable : ∀ (s : UStr), (∀ c ∈ s, c < 0x80) → enc8s s = s
  | [], _ => rfl
  | c :: cs, h => by
    have hc := h c (by simp)
    simp [enc8s, enc8, hc, enc8s_printable cs (fun x hx => h x (by simp [hx]))]

/-- **The form of a text string**: printable ASCII stays a PDFDocEncoding literal of the same bytes,
everything else becomes FE FF followed by UTF-16BE, as a hexadecimal string. -/
theorem text_string_form (s : UStr) :
    ((∀ c ∈ s, 0x20 ≤ c ∧ c < 0x7F) → textString s = .str (s.map Nat.toUInt8) .lit) ∧
    (¬ (∀ c ∈ s, 0x20 ≤ c ∧ c < 0x7F) → textString s = .str (TEXT_BOM_UTF16 ++ unitsBe (stdEncodeUtf16 s)) .hex) := by
  constructor
  · intro h
    have hl := (isLiteralText_iff s).mpr h
    simp only [textString, hl, if_true, stdUtf8, enc8s_printable s (fun c hc => by have := h c hc; omega)]
  · intro h
    have hl : isLiteralText s = false := Bool.eq_false_iff.mpr fun hh => h ((isLiteralText_iff s).mp hh)
    simp only [textString, hl, Bool.false_eq_true, if_false, encodeUtf16Be]
    rfl

/-- **Text-string round trip, full statement**: encoding any Unicode string as a PDF text string
and decoding it returns the same string — for EVERY list of Unicode scalar values
(C0 controls, DEL, lone U+FEFF, astral characters included). -/
theorem text_string_rt (s : UStr) (hs : ∀ c ∈ s, Scalar c) :
    decodeTextString (textString s) = .ok s := by
  by_cases ha : ∀ c ∈ s, 0x20 ≤ c ∧ c < 0x7F
  · -- literal PDFDocEncoding form: no mark in front, every byte a printable ASCII cell of the table
    have hp : ∀ c ∈ s, 0x20 ≤ c ∧ c ≤ 0x7E := fun c hc => by have := ha c hc; omega
    have hhead : ∀ b ∈ (s.map Nat.toUInt8).head?, b.toNat < 0x80 := by
      cases s with
      | nil => simp
      | cons c cs =>
        have := hp c (by simp)
        simp [toUInt8_toNat_of_lt (c := c) (by omega)]; omega
    rw [(text_string_form s).1 ha, decodeTextString_pdfdoc _ _ hhead, bytesToString, pdfdoc_printable s hp,
      decode_no_surrogate s (fun u hu => by have := hp u hu; omega)]
  · -- UTF-16BE form
    rw [(text_string_form s).2 ha, decodeTextString_utf16, chunkUnits_unitsBe _ (encode_units_lt s hs),
      utf16_encode_decode s hs]
    rfl

/-- the witness of F-C16-a (C0 controls in ASCII text) round-trips -/
example : decodeTextString (textString [97, 10, 98, 9, 99]) = .ok [97, 10, 98, 9, 99] := by decide +kernel
example : ∀ c ∈ [0x442, 0x435, 0x1F600, 10, 0, 0x7F, 0xFEFF], Scalar c := by decide

/-- a lone mark is the empty string -/
theorem lone_bom (f : StrFmt) : decodeTextString (.str TEXT_BOM_UTF16 f) = .ok [] := by
  cases f <;> decide +kernel

/-- odd-length UTF-16BE: the trailing byte is read as the high byte of one more unit -/
theorem odd_length_utf16 (us : List Nat) (hu : ∀ u ∈ us, u < 0x10000) (b : UInt8) (f : StrFmt) :
    decodeTextString (.str (TEXT_BOM_UTF16 ++ (unitsBe us ++ [b])) f) =
      match stdFromUtf16 (us ++ [b.toNat * 256]) with
      | some r => .ok r
      | none => .err "TextStringDecode" := by
  rw [decodeTextString_utf16, chunkUnits_unitsBe_append [b] us hu, chunkUnits]
  cases stdFromUtf16 (us ++ [b.toNat * 256]) <;> rfl

/-- **UTF-8 with a mark decodes** to exactly its text, for every Unicode string -/
theorem utf8_bom_decodes (s : UStr) (hs : ∀ c ∈ s, Scalar c) (f : StrFmt) :
    decodeTextString (.str (encodeUtf8 s) f) = .ok s := by
  rw [show encodeUtf8 s = TEXT_BOM_UTF8 ++ stdUtf8 s from rfl, decodeTextString_utf8, stdFromUtf8_stdUtf8 s hs]
  rfl

/-- the witness of F-C16-b: the mark is not part of the text -/
example : decodeTextString (.str (encodeUtf8 [97, 98, 99]) .lit) = .ok [97, 98, 99] := by decide +kernel

/-- which table each predefined `/Encoding` name selects (arms regenerated from `get_font_encoding`) -/
theorem font_encoding_predefined (font : Dict) (n : Bytes) (t : Table)
    (hT : (font.get TYPE).bind Obj.asName = some FONT)
    (hE : (font.get ENCODING).bind Obj.asName = some n)
    (hm : (n, t) ∈ FONT_ENCODINGS) :
    getFontEncoding font = some (.oneByte t) := by
  have hl : lookupName n FONT_ENCODINGS = some t := lookupName_of_mem _ (by decide) n t hm
  simp [getFontEncoding, hT, hE, hl]

/-- a one-byte encoding returned by `get_font_encoding` is always one of the seven tables -/
theorem font_encoding_in_tables (font : Dict) (t : Table)
    (h : getFontEncoding font = some (.oneByte t)) : t ∈ ALL_TABLES := by
  rcases (getFontEncoding_oneByte h).2 with ⟨n, _, hl⟩ | ⟨_, _, rfl⟩
  · exact font_table_mem (lookupName_mem _ _ _ hl)
  · exact List.contains_iff_mem.mp (Bool.and_eq_true_iff.mp font_tables_known).2

theorem font_table_length {font : Dict} {t : Table} (h : getFontEncoding font = some (.oneByte t)) :
    t.length ≤ 256 :=
  Nat.le_of_eq (tables_no_surrogate t (font_encoding_in_tables font t h)).1

example : getFontEncoding [(TYPE, .name FONT), (ENCODING, .name [87, 105, 110, 65, 110, 115, 105, 69, 110, 99, 111, 100, 105, 110, 103])]
    = some (.oneByte WIN_ANSI_ENCODING) := rfl

def SafeEnc (e : Enc) : Prop := ∀ t, e = .oneByte t → t ∈ ALL_TABLES

theorem decodeText_no_panic (e : Enc) (he : SafeEnc e) (bs : Bytes) (site : String) :
    decodeText e bs ≠ .panic site := by
  cases e with
  | oneByte t => simp [decodeText, decode_never_fails t (he t rfl) bs]
  | simple n => simp only [decodeText]; split <;> simp
  | cmap => simp [decodeText]

/-- `collect_text` passes on what `decode_text` answers and raises no panic of its own: along the
two functions' own case distinction, only the branches that hand on a `.panic` need an argument -/
theorem collect_no_panic (e : Enc) (he : SafeEnc e) :
    (∀ text o site, collectObj e text o ≠ .panic site) ∧ ∀ text os site, collectList e text os ≠ .panic site := by
  apply collectObj.mutual_induct_unfolding e (fun _ _ r => ∀ site, r ≠ .panic site) (fun _ _ r => ∀ site, r ≠ .panic site)
  case case3 => intro text bs f x h; exact absurd h (decodeText_no_panic e he bs x)
  case case6 => intro text items x h ih; exact absurd h (ih x)
  case case10 => intro text o os s _ _ ih; exact ih
  case case12 => intro text o os x h ih; exact absurd h (ih x)
  all_goals intros; simp

theorem collectObj_no_panic (e : Enc) (he : SafeEnc e) (site : String) :
    ∀ (o : Obj) (text : UStr), collectObj e text o ≠ .panic site :=
  fun o text => (collect_no_panic e he).1 text o site

theorem lookupEnc_mem (encs : List (Bytes × Enc)) (n : Bytes) (e : Enc) (h : lookupEnc n encs = some e) :
    (n, e) ∈ encs := by
  fun_induction lookupEnc n encs with
  | case1 => cases h
  | case2 e' rest => cases h; exact List.mem_cons_self
  | case3 k e' rest hk ih => exact List.mem_cons_of_mem _ (ih h)

theorem fontEncodings_safe (fonts : List (Bytes × Dict)) (encs : List (Bytes × Enc))
    (h : fontEncodings fonts = some encs) : ∀ p ∈ encs, SafeEnc p.2 := by
  fun_induction fontEncodings fonts generalizing encs with
  | case1 => cases h; simp
  | case2 n f rest e es hes he ih =>
    cases h
    exact List.forall_mem_cons.mpr
      ⟨fun t (ht : e = .oneByte t) => font_encoding_in_tables f t (ht ▸ he), ih es hes⟩
  | case3 => cases h

theorem extractLoop_no_panic (encs : List (Bytes × Enc)) (hs : ∀ p ∈ encs, SafeEnc p.2) (site : String)
    (ops : List (Bytes × List Obj)) (st : XState) (hc : ∀ e, st.cur = some e → SafeEnc e) :
    extractLoop encs ops st ≠ .panic site := by
  fun_induction extractLoop encs ops st with
  | case4 rest st o os n hn ih => exact ih fun e he => hs (_, e) (lookupEnc_mem encs _ e he)
  | case5 op operands rest st _ _ _ ih => exact ih hc
  | case6 op operands rest st _ _ e he s hs ih => exact ih hc
  | case8 op operands rest st _ _ e he x hx =>
    exact absurd hx ((collect_no_panic e (hc e he)).2 st.text operands x)
  | case9 operands rest st _ _ ih => exact ih hc
  | case10 op operands rest st _ _ _ ih => exact ih hc
  | _ => simp

/-- **Extraction never panics**: whatever the fonts and content operations, the `expect`
inside `bytes_to_string` cannot fire during `extract_text` -/
theorem extract_never_panics (fonts : List (Bytes × Dict)) (ops : List (Bytes × List Obj)) (site : String) :
    extractText fonts ops ≠ .panic site := by
  unfold extractText
  split
  · simp
  · rename_i encs he
    exact extractLoop_no_panic encs (fontEncodings_safe fonts encs he) site ops _ (by simp)

theorem extractLoop_Tf (encs : List (Bytes × Enc)) (n : Bytes) (os : List Obj) (rest : List (Bytes × List Obj))
    (st : XState) :
    extractLoop encs ((OP_TF, .name n :: os) :: rest) st
      = extractLoop encs rest { cur := lookupEnc n encs, done := st.done ++ st.text, text := [] } := by
  simp [extractLoop, Obj.asName]

theorem extractLoop_show (encs : List (Bytes × Enc)) {op : Bytes} (hop : op = OP_TJ ∨ op = OP_TJ_ARR)
    (operands : List Obj) (rest : List (Bytes × List Obj)) (st : XState) {e : Enc} {t : UStr}
    (hc : st.cur = some e) (h : collectList e st.text operands = .ok t) :
    extractLoop encs ((op, operands) :: rest) st = extractLoop encs rest { st with text := t } := by
  have hne : op ≠ OP_TF := by rcases hop with rfl | rfl <;> decide
  simp [extractLoop, hne, hop, hc, h]

theorem extractLoop_show_none (encs : List (Bytes × Enc)) {op : Bytes} (hop : op = OP_TJ ∨ op = OP_TJ_ARR)
    (operands : List Obj) (rest : List (Bytes × List Obj)) (st : XState) (hc : st.cur = none) :
    extractLoop encs ((op, operands) :: rest) st = extractLoop encs rest st := by
  have hne : op ≠ OP_TF := by rcases hop with rfl | rfl <;> decide
  simp [extractLoop, hne, hop, hc]

theorem extractLoop_ET (encs : List (Bytes × Enc)) (os : List Obj) (rest : List (Bytes × List Obj)) (st : XState) :
    extractLoop encs ((OP_ET, os) :: rest) st = extractLoop encs rest
      { st with text := if st.text.getLast? = some 10 then st.text else st.text ++ [10] } := by
  have h : OP_ET ≠ OP_TF ∧ OP_ET ≠ OP_TJ ∧ OP_ET ≠ OP_TJ_ARR := by decide
  simp [extractLoop, h]

theorem extractLoop_other (encs : List (Bytes × Enc)) {op : Bytes} (h : op ∉ [OP_TF, OP_TJ, OP_TJ_ARR, OP_ET])
    (os : List Obj) (rest : List (Bytes × List Obj)) (st : XState) :
    extractLoop encs ((op, os) :: rest) st = extractLoop encs rest st := by
  simp only [List.mem_cons, List.not_mem_nil, or_false, not_or] at h
  simp [extractLoop, h]

theorem collectList_cons_str (t : Table) (hl : t.length ≤ 256) (s : UStr) (hs : ∀ c ∈ s, Scalar c)
    (hr : ∀ u ∈ stdEncodeUtf16 s, some u ∈ t) (f : StrFmt) (text : UStr) (os : List Obj) :
    collectList (.oneByte t) text (.str (stringToBytes t s) f :: os) = collectList (.oneByte t) (text ++ s) os := by
  simp [collectList, collectObj, decodeText, encode_decode_repertoire t hl s hs hr]

theorem collectList_arr (e : Enc) (text : UStr) (items : List Obj) {t : UStr}
    (h : collectList e text items = .ok t) : collectList e text [.arr items] = .ok (t ++ [32]) := by
  simp [collectList, collectObj, h]

theorem extractLoop_tjs (encs : List (Bytes × Enc)) (t : Table) (hl : t.length ≤ 256) (f : StrFmt) :
    ∀ (ss : List UStr) (rest : List (Bytes × List Obj)) (st : XState),
      st.cur = some (.oneByte t) →
      (∀ s ∈ ss, (∀ c ∈ s, Scalar c) ∧ ∀ u ∈ stdEncodeUtf16 s, some u ∈ t) →
      extractLoop encs (ss.map (fun s => (OP_TJ, [Obj.str (stringToBytes t s) f])) ++ rest) st
        = extractLoop encs rest { st with text := st.text ++ ss.flatten }
  | [], rest, st, _, _ => by simp
  | s :: ss, rest, st, hc, hs => by
    have h1 := hs s (by simp)
    rw [List.map_cons, List.cons_append,
      extractLoop_show encs (.inl rfl) _ _ st hc (collectList_cons_str t hl s h1.1 h1.2 f st.text []),
      extractLoop_tjs encs t hl f ss rest { st with text := st.text ++ s } hc (fun x hx => hs x (by simp [hx]))]
    simp [List.append_assoc]

/-- **Text shown with a predefined one-byte encoding is returned unchanged by extraction**:
a page whose font `F` has encoding table `t`, showing the strings `ss` (each over the table's
repertoire, encoded with `string_to_bytes`) in one text object, extracts to their concatenation
followed by the newline `ET` contributes. -/
theorem extract_shown_text (fname : Bytes) (font : Dict) (t : Table) (size : Obj) (f : StrFmt)
    (hf : getFontEncoding font = some (.oneByte t))
    (ss : List UStr)
    (hs : ∀ s ∈ ss, (∀ c ∈ s, Scalar c) ∧ ∀ u ∈ stdEncodeUtf16 s, some u ∈ t) :
    extractText [(fname, font)]
      ((OP_TF, [.name fname, size]) :: (ss.map (fun s => (OP_TJ, [Obj.str (stringToBytes t s) f])) ++ [(OP_ET, [])]))
      = .ok (if ss.flatten.getLast? = some 10 then ss.flatten else ss.flatten ++ [10]) := by
  have hl := font_table_length hf
  simp only [extractText, fontEncodings, hf, extractLoop_Tf, lookupEnc, if_true]
  rw [extractLoop_tjs _ t hl f ss _ _ rfl hs, extractLoop_ET]
  simp [extractLoop]

example : (∀ c ∈ [0x48, 0xE9, 0x20AC], Scalar c) ∧ ∀ u ∈ stdEncodeUtf16 [0x48, 0xE9, 0x20AC], some u ∈ WIN_ANSI_ENCODING := by
  decide +kernel

end Lopdf
