import LopdfModel.Thm.C11Mild
/-
  C11 — which references survive `delete_object` / `delete_pages`, and the precondition
  (F-C11-a, narrowed) under which they introduce no dangling reference.
-/
namespace Lopdf.Ed
open Lopdf Lopdf.DictL

theorem refs_deep_del_obj (p : ObjId) : ∀ o, DeepND o → ∀ r ∈ refsOf (deepObj (delAct p) o),
    r ∈ refsOf o ∧ (r = p → o = .ref p.1 p.2) := by
  refine deepObj_ind (delAct p) fun o ih hd r hr => ?_
  rw [deepObj_mapKids, mem_refsOf_iff, Obj.kids_mapKids] at hr
  rcases hr with hr | ⟨y, hy, hr⟩
  · obtain rfl := delFn_eq_ref p (Obj.mapKids_eq_ref hr)
    exact ⟨by simp [refsOf], fun e => e ▸ rfl⟩
  · obtain ⟨x, hx, rfl⟩ := List.mem_map.mp hy
    obtain ⟨hxo, hnr⟩ := (mem_kids_delFn p hd x).mp hx
    obtain ⟨h1, h2⟩ := ih x hx (deepND_kids hd x hxo) r hr
    refine ⟨(mem_refsOf_iff r o).mpr (Or.inr ⟨x, hxo, h1⟩), fun e => ?_⟩
    rw [h2 e, (isRefTo_iff p _).mpr rfl] at hnr
    cases hnr

/-- **references after the deletion action went through an object**: each was a reference of the object, and
none is a reference to `p` — except that a bare top-level `p` reference is left alone (F-C11-a) -/
theorem refs_deep_del (p : ObjId) :
    (∀ o, DeepND o → ∀ r ∈ refsOf (deepObj (delAct p) o), r ∈ refsOf o ∧ (r = p → o = .ref p.1 p.2)) ∧
    (∀ es, DeepNDD es → ∀ r ∈ refsOfD (deepDict (delAct p) es), ∃ e ∈ es, r ∈ refsOf e.2 ∧ (r = p → e.2 = .ref p.1 p.2)) ∧
    (∀ xs, DeepNDL xs → ∀ r ∈ refsOfL (deepList (delAct p) xs), ∃ x ∈ xs, r ∈ refsOf x ∧ (r = p → x = .ref p.1 p.2)) := by
  refine ⟨refs_deep_del_obj p, fun es hd r hr => ?_, fun xs hd r hr => ?_⟩
  · rw [deepDict_eq_map, mem_refsOfD_iff] at hr
    obtain ⟨e', he', hr⟩ := hr
    obtain ⟨e, he, rfl⟩ := List.mem_map.mp he'
    exact ⟨e, he, refs_deep_del_obj p e.2 ((deepNDD_iff es).mp hd e he) r hr⟩
  · rw [deepList_eq_map, mem_refsOfL_iff] at hr
    obtain ⟨x', hx', hr⟩ := hr
    obtain ⟨x, hx, rfl⟩ := List.mem_map.mp hx'
    exact ⟨x, hx, refs_deep_del_obj p x ((deepNDL_iff xs).mp hd x hx) r hr⟩

/-- **the precondition F-C11-a (narrowed) names**: every object holding a reference to `p` is visited by
`delete_object(p)`'s traversal (it is reachable from the stripped trailer through the rewritten objects) and is
not itself a bare top-level reference to `p` -/
def DelClean (d : Doc) (p : ObjId) : Prop :=
  ∀ k o, d.objects.get k = some o → k ≠ p → p ∈ refsOf o → k ∈ delRefs d p ∧ o ≠ .ref p.1 p.2

/-- a reference the document holds after `delete_object(p)` it held before; and if it is a reference to `p`, it sits
in an object the traversal did not visit, or that is itself a bare reference to `p` (F-C11-a, narrowed) -/
theorem hasRef_of_delete (d : Doc) (p : ObjId) (hk : DistinctKeys d) (r : ObjId) (h : HasRef (deleteObject d p).1 r) :
    HasRef d r ∧ (r = p → ∃ k o, d.objects.get k = some o ∧ k ≠ p ∧ p ∈ refsOf o ∧ (k ∈ delRefs d p → o = .ref p.1 p.2)) := by
  rcases h with h | ⟨k, o', hg, hr⟩
  · rw [delete_trailer] at h
    have := refs_deep_del_obj p (.dict d.trailer) ⟨hk.1, hk.2.1⟩ r (by rw [deep_del_dict]; exact h)
    exact ⟨Or.inl this.1, fun e => by cases this.2 e⟩
  · have hkp : k ≠ p := fun e => by rw [e, delete_get_self] at hg; cases hg
    rw [delete_get d p k hkp, delMid_get] at hg
    cases ho : d.objects.get k with
    | none => rw [ho] at hg; split at hg <;> cases hg
    | some o =>
      rw [ho] at hg
      split at hg <;> cases hg
      · obtain ⟨h1, h2⟩ := refs_deep_del_obj p o (hk.2.2 k o ho) r hr
        exact ⟨Or.inr ⟨k, o, ho, h1⟩, fun e => ⟨k, o, ho, hkp, e ▸ h1, fun _ => h2 e⟩⟩
      · rename_i hv
        exact ⟨Or.inr ⟨k, o', ho, hr⟩, fun e => ⟨k, o', ho, hkp, e ▸ hr, fun h => absurd h hv⟩⟩

theorem delete_get_none (d : Doc) (p r : ObjId) (hr : r ≠ p) (hn : (deleteObject d p).1.objects.get r = none) :
    d.objects.get r = none := by
  rw [delete_get d p r hr, delMid_get] at hn
  cases ho : d.objects.get r with
  | none => rfl
  | some o => rw [ho] at hn; split at hn <;> cases hn

theorem hasRef_delete (d : Doc) (p : ObjId) (hk : DistinctKeys d) (hc : DelClean d p) (r : ObjId)
    (h : HasRef (deleteObject d p).1 r) : HasRef d r ∧ r ≠ p := by
  obtain ⟨h1, h2⟩ := hasRef_of_delete d p hk r h
  refine ⟨h1, fun e => ?_⟩
  obtain ⟨k, o, ho, hkp, hp, hb⟩ := h2 e
  obtain ⟨hv, hnb⟩ := hc k o ho hkp hp
  exact hnb (hb hv)

/-- **`delete_object` introduces no dangling reference** — under the precondition F-C11-a (narrowed) names -/
theorem noNew_delete (d : Doc) (p : ObjId) (hk : DistinctKeys d) (hc : DelClean d p) : NoNew d (deleteObject d p).1 := by
  intro r ⟨hh, hn⟩
  obtain ⟨h1, h2⟩ := hasRef_delete d p hk hc r hh
  exact ⟨h1, delete_get_none d p r h2 hn⟩

/-- without the precondition the only reference that can newly dangle is `p` itself -/
theorem dangling_delete_only (d : Doc) (p : ObjId) (hk : DistinctKeys d) (r : ObjId)
    (h : Dangling (deleteObject d p).1 r) : Dangling d r ∨ r = p := by
  by_cases e : r = p
  · exact Or.inr e
  · exact Or.inl ⟨(hasRef_of_delete d p hk r h.1).1, delete_get_none d p r e h.2⟩

theorem refs_decCount (nd : Dict) (r : ObjId) (h : r ∈ refsOfD (decCount nd)) : r ∈ refsOfD nd := by
  unfold decCount at h
  split at h
  · rcases refs_dictSet _ _ _ r h with h | h
    · exact h
    · simp [refsOf] at h
  · exact h

theorem noNew_of_refs_sub (d : Doc) (os' : Objects)
    (h : Objects.Rel (fun o o' => ∀ r ∈ refsOf o', r ∈ refsOf o) d.objects os') : NoNew d { d with objects := os' } := by
  intro r ⟨hh, hn⟩
  refine ⟨?_, ?_⟩
  · rcases hh with hh | ⟨k, o', hk, hr⟩
    · exact Or.inl hh
    · cases hg : d.objects.get k with
      | none => have := (h k).1 hg; simp only at hk; rw [this] at hk; cases hk
      | some o =>
        obtain ⟨o2, e2, rr⟩ := (h k).2 o hg
        simp only at hk; rw [hk] at e2; cases e2
        exact Or.inr ⟨k, o, hg, rr r hr⟩
  · cases hg : d.objects.get r with
    | none => rfl
    | some o => obtain ⟨o2, e2, _⟩ := (h r).2 o hg; simp only at hn; rw [hn] at e2; cases e2

/-- the precondition of one `delete_object` call -/
def DelGuard (d : Doc) (p : ObjId) : Prop := DistinctKeys d ∧ DelClean d p

theorem noNew_deletePage1 (pages : List ObjId) (d : Doc) (n : Nat)
    (hg : ∀ p, pickPage pages n = some p → DelGuard d p) : NoNew d (deletePage1 pages d n) := by
  fun_cases deletePage1 pages d n
  · exact noNew_refl d
  · rename_i pid hp d' page heq _
    have hn : NoNew d d' := by simpa [heq] using noNew_delete d pid (hg pid hp).1 (hg pid hp).2
    -- the `Parent` walk: every object holds the references it held
    exact noNew_trans hn (noNew_of_refs_sub _ _ (Objects.Rel.decCounts (fun _ _ h => h)
      (fun _ _ _ h1 h2 r hr => h1 r (h2 r hr)) (fun nd r hr => refs_decCount nd r hr) _ _ _))
  · rename_i pid hp d' heq
    simpa [heq] using noNew_delete d pid (hg pid hp).1 (hg pid hp).2

/-- the precondition of `delete_pages(ns)`: each `delete_object` call of the loop meets its precondition at the
time it is made -/
def delPagesGuard (pages : List ObjId) : Doc → List Nat → Prop
  | _, [] => True
  | d, n :: ns => (∀ p, pickPage pages n = some p → DelGuard d p) ∧ delPagesGuard pages (deletePage1 pages d n) ns

theorem noNew_deletePages_loop (pages : List ObjId) : ∀ (ns : List Nat) (d : Doc), delPagesGuard pages d ns →
    NoNew d (ns.foldl (fun acc n => deletePage1 pages acc n) d)
  | [], d, _ => noNew_refl d
  | n :: ns, d, hg => by
    simp only [List.foldl_cons]
    exact noNew_trans (noNew_deletePage1 pages d n hg.1) (noNew_deletePages_loop pages ns _ hg.2)

theorem noNew_deletePages (d : Doc) (ns : List Nat) (hg : delPagesGuard (pageIter d.trailer d.objects) d ns) :
    NoNew d (deletePages d ns) := noNew_deletePages_loop _ ns d hg

/-- the precondition of a run of `delete_object` calls -/
def delAllGuard : Doc → List ObjId → Prop
  | _, [] => True
  | d, p :: ps => DelGuard d p ∧ delAllGuard (deleteObject d p).1 ps

theorem noNew_foldl_delete : ∀ (ids : List ObjId) (d : Doc), delAllGuard d ids →
    NoNew d (ids.foldl (fun d id => (deleteObject d id).1) d)
  | [], d, _ => noNew_refl d
  | p :: ps, d, hg => by
    simp only [List.foldl_cons]
    exact noNew_trans (noNew_delete d p hg.1.1 hg.1.2) (noNew_foldl_delete ps _ hg.2)

end Lopdf.Ed
