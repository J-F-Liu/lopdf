import LopdfModel.Thm.C12
import LopdfModel.Model.PagesMap
/-
  C12 — "numbered 1..n": `Document::get_pages` is
  `page_iter().enumerate().map(|(i, p)| ((i + 1) as u32, p)).collect::<BTreeMap<u32, ObjectId>>()`.
  The `BTreeMap` is modelled as the key-sorted association list with overwriting insert, the cast
  `as u32` as reduction mod 2^32. Theorems: as long as fewer than 2^32 pages are yielded — which
  `iter_limit = |objects|` guarantees for every document with fewer than 2^32 objects — the map
  is exactly `[(1, p₁), …, (n, pₙ)]`: keys 1..n without gap or repetition, the k-th page under k.
  Composed with `pageIter_dfs`: the map numbers the leaves of the page tree depth first.
-/
namespace Lopdf
open Gen

/-- the specification: the k-th yielded page under the number k, counted from `start + 1` -/
def numberedFrom : List ObjId → Nat → List (Nat × ObjId)
  | [], _ => []
  | p :: rest, i => (i + 1, p) :: numberedFrom rest (i + 1)

theorem pmInsert_append_last (m : List (Nat × ObjId)) (k : Nat) (v : ObjId)
    (h : ∀ q ∈ m, q.1 < k) : pmInsert k v m = m ++ [(k, v)] := by
  induction m with
  | nil => rfl
  | cons q rest ih =>
    have hq : q.1 < k := h q List.mem_cons_self
    rw [pmInsert, if_neg (Nat.lt_asymm hq), if_neg (Nat.ne_of_gt hq), ih fun q hq => h q (List.mem_cons_of_mem _ hq)]
    rfl

theorem numberedFrom_keys (ids : List ObjId) : ∀ (i : Nat), ∀ q ∈ numberedFrom ids i, i < q.1 := by
  induction ids with
  | nil => intro i q hq; cases hq
  | cons p rest ih =>
    intro i q hq
    rcases List.mem_cons.mp hq with rfl | hq
    · exact Nat.lt_succ_self i
    · exact Nat.lt_of_succ_lt (ih (i + 1) q hq)

/-- below 2^32 the cast does nothing and every new key is the largest so far: the fold appends -/
theorem collectNumbered_spec (ids : List ObjId) : ∀ (i : Nat) (m : List (Nat × ObjId)),
    i + ids.length < 4294967296 → (∀ q ∈ m, q.1 ≤ i) →
    collectNumbered ids i m = m ++ numberedFrom ids i := by
  induction ids with
  | nil => intro i m _ _; exact (List.append_nil m).symm
  | cons p rest ih =>
    intro i m hlen hm
    rw [List.length_cons] at hlen
    rw [collectNumbered, numberedFrom, Nat.mod_eq_of_lt (by omega),
      pmInsert_append_last m (i + 1) p fun q hq => Nat.lt_succ_of_le (hm q hq),
      ih (i + 1) _ (by omega) ?_, List.append_assoc]
    · rfl
    · intro q hq
      rcases List.mem_append.mp hq with hq | hq
      · exact Nat.le_succ_of_le (hm q hq)
      · cases List.mem_singleton.mp hq; exact Nat.le_refl _

/-- **`get_pages` numbers the yielded pages 1..n** (fewer than 2^32 of them): no gap, no
repetition, the k-th page under the number k. -/
theorem getPagesMap_numbered (ids : List ObjId) (h : ids.length < 4294967296) :
    getPagesMap ids = numberedFrom ids 0 := by
  unfold getPagesMap
  rw [collectNumbered_spec ids 0 [] (by omega) (by simp)]
  rfl

theorem numberedFrom_keys_eq (ids : List ObjId) : ∀ (i : Nat),
    (numberedFrom ids i).map (·.1) = (List.range ids.length).map (· + i + 1) := by
  induction ids with
  | nil => intro i; rfl
  | cons p rest ih =>
    intro i
    simp only [numberedFrom, List.map_cons, List.length_cons, List.range_succ_eq_map, List.map_map, ih (i + 1)]
    simp only [Nat.zero_add, List.cons.injEq, true_and]
    apply List.map_congr_left
    intro a _
    simp only [Function.comp]
    omega

theorem numberedFrom_values (ids : List ObjId) : ∀ (i : Nat), (numberedFrom ids i).map (·.2) = ids := by
  induction ids with
  | nil => intro i; rfl
  | cons p rest ih => intro i; simp [numberedFrom, ih (i + 1)]

/-- the keys of `get_pages` are exactly `1, 2, …, n` and its values, in key order, are the yielded
pages in order -/
theorem getPagesMap_keys_values (ids : List ObjId) (h : ids.length < 4294967296) :
    (getPagesMap ids).map (·.1) = (List.range ids.length).map (· + 1) ∧
    (getPagesMap ids).map (·.2) = ids := by
  rw [getPagesMap_numbered ids h]
  exact ⟨by simpa using numberedFrom_keys_eq ids 0, numberedFrom_values ids 0⟩

/-- **On every document** (fewer than 2^32 objects — `ObjectId` numbers are `u32`) **`get_pages` is
`page_iter` numbered 1..n**: `iter_limit = |objects|` bounds the number of yielded pages, so the
cast `(i + 1) as u32` never wraps — also on malformed trees. -/
theorem getPages_is_pageIter_numbered (trailer : Dict) (os : Objects) (h : os.length < 4294967296) :
    getPagesMap (pageIter trailer os) = numberedFrom (pageIter trailer os) 0 := by
  exact getPagesMap_numbered _ (Nat.lt_of_le_of_lt (pageIter_length_le trailer os) h)

/-- **C12, numbering included**: for an embedded page tree, `get_pages` maps `k` to the k-th leaf
in depth-first, left-to-right order, `k = 1..n`, and nothing else. -/
theorem getPages_dfs (trailer : Dict) (os : Objects) (cat pid : ObjId) (catd : Dict) (ks : List PT)
    (hroot : (trailer.get ROOT).bind Obj.asRef = some cat)
    (hcat : getDictionary os cat = some catd)
    (hpages : (catd.get PAGES).bind Obj.asRef = some pid)
    (hkids : kidsOf os pid = some (PT.idsL ks))
    (hemb : EmbedsL (classify os) ks)
    (hnodup : (PT.allIdsL ks).Nodup)
    (hdepth : PT.heightL ks ≤ PAGE_TREE_DEPTH_LIMIT)
    (hsize : os.length < 4294967296) :
    getPagesMap (pageIter trailer os) = numberedFrom (PT.leavesL ks) 0 := by
  rw [getPages_is_pageIter_numbered trailer os hsize,
    pageIter_dfs trailer os cat pid catd ks hroot hcat hpages hkids hemb hnodup hdepth]

/- the cast matters: with 2^32 yielded pages the last one would land on key 0 — excluded by
`iter_limit`, shown here on the insert level -/
example : pmInsert (4294967296 % 4294967296) (9, 0) [(1, (3, 0)), (2, (5, 0))] = [(0, (9, 0)), (1, (3, 0)), (2, (5, 0))] := by
  decide
example : getPagesMap [(3, 0), (5, 0), (3, 0)] = [(1, (3, 0)), (2, (5, 0)), (3, (3, 0))] := by decide

end Lopdf
