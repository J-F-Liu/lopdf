import LopdfModel.Thm.FileNorm
/-
  One revision of either cross-reference style, read inside any extension of the file it ends:
  the kind-generic layer under `History` (C07): what `xref_and_trailer` returns at the revision's
  section, and the facts (`RevFacts`) that make its table index the revision's objects.
-/
namespace Lopdf.FileRT
open Lopdf Gen Lopdf.ObjRt

/-- the map a revision's cross-reference section records -/
def revMap (d : SDoc) (pre : Bytes) : XrefMap :=
  match d.xrefKind with | .table => xmapOf pre d | .stream => xmapStream pre d
def revSize (d : SDoc) : Nat := match d.xrefKind with | .table => d.maxId + 1 | .stream => d.maxId + 2
/-- the objects a reader finds in the revision: the document's, plus the `/XRef` stream object -/
def revObjs (d : SDoc) (pre : Bytes) : Objects :=
  match d.xrefKind with | .table => d.objects | .stream => d.objects ++ [((d.maxId + 1, 0), xrefObjP pre d)]

theorem revSize_le (d : SDoc) : revSize d ≤ d.maxId + 2 := by
  unfold revSize; cases d.xrefKind <;> simp

/-- the trailer the reader obtains from the revision's section (normal form: an integral real is an
integer) -/
def streamTrailerReadN (pre : Bytes) (d : SDoc) : Dict :=
  ((Dict.remove (normD (streamTrailer pre d)) LENGTH).remove W_KEY).remove INDEX

def revTrailer (d : SDoc) (pre : Bytes) (d' : SDoc) : Dict :=
  match d.xrefKind with | .table => normD d'.trailer | .stream => streamTrailerReadN pre d

/-- a revision the history theorems cover (real numbers allowed) -/
structure RevOK (d : SDoc) : Prop where
  hmax : d.maxId + 2 ≤ 4294967295
  wf : DocWF d
  objs : ∀ p ∈ d.objects, ObjOKN p.2
  tr : WFObj (.dict d.trailer) ∧ height (.dict d.trailer) ≤ MAX_NESTING
  nostm : d.trailer.get XREFSTM = none
  noenc : d.trailer.has ENCRYPT = false

/-- what the reader finds for one revision inside the (possibly longer) file `buf` -/
structure RevFacts (buf : Bytes) (d : SDoc) (pre : Bytes) (X : XTable) : Prop where
  get : ∀ n, X.get n = if 1 ≤ n ∧ n < revSize d then normalOf (revMap d pre) n else none
  nodup : (X.map (·.1)).Nodup
  recd : Recorded buf (revMap d pre) (revObjs d pre)
  objsOK : ∀ p ∈ revObjs d pre, ObjOKN p.2 ∧ p.1.1 + 1 < revSize d + 1 ∧ 1 ≤ p.1.1 ∧ p.1.2 < 65536
  complete : ∀ id o, (revObjs d pre).get id = some o → ∃ off, (revMap d pre).get id.1 = some (off, id.2)

namespace RevFacts

theorem indexes {buf : Bytes} {d : SDoc} {pre : Bytes} {X : XTable} (hf : RevFacts buf d pre X)
    (hmax : d.maxId + 2 ≤ 4294967295) : Indexes buf X (revObjs d pre) nfObj :=
  Indexes.of_recorded hf.get hf.nodup (by have := revSize_le d; simp only [U32]; omega) hf.recd
    (fun n _ g o rest _ hog _ hk => by
      obtain ⟨hok, h1, _, h3⟩ := hf.objsOK _ (Objects.get_mem hog)
      simp only at h1 h3
      have := revSize_le d
      exact ⟨nfObj_notObjStm o hk, fun len => indirect_nf n g o (by simp only [U32_MAX]; omega)
        (by simp only [U16_MAX]; omega) hok len _ rest⟩)
    (fun id o hd => by
      obtain ⟨_, h1, h2, _⟩ := hf.objsOK _ (Objects.get_mem hd)
      simp only at h1 h2
      exact ⟨h2, by omega, hf.complete id o hd⟩)

end RevFacts

/-- **one revision's cross-reference section, of either style, read inside any extension of the
file it ends** -/
theorem rev_section (d : SDoc) (pre out : Bytes) (d' : SDoc) (hok : RevOK d)
    (h : saveFrom pre d = some (out, d')) (R : Bytes) (hlen : out.length < 4294967296) :
    ∃ table, xrefAndTrailer ((out ++ R).drop (bodyOf pre d).length)
        = .ok (table, revSize d, revTrailer d pre d') ∧
      RevFacts (out ++ R) d pre table ∧ (bodyOf pre d).length < out.length ∧
      (∀ k, FreeKey k → (revTrailer d pre d').get k = (d.trailer.get k).map norm) ∧
      (revTrailer d pre d').keys.Nodup := by
  have hlt := body_lt_out pre d out d' h
  have hbl : (bodyOf pre d).length < 4294967296 := by omega
  have hnd := dict_nodup hok.tr.1
  have hdocOK : ∀ p ∈ d.objects, ObjOKN p.2 ∧ p.1.1 ≤ d.maxId ∧ 1 ≤ p.1.1 ∧ p.1.2 < 65536 := fun p hp =>
    ⟨hok.objs p hp, (hok.wf.range p hp).2, (hok.wf.range p hp).1, hok.wf.gens p hp⟩
  have hmax := hok.hmax
  cases hk : d.xrefKind with
  | table =>
    have htr := (saveFrom_table_eq pre d out d' hk h).2
    obtain ⟨table, hxt, hget, hnodup⟩ := table_section_of_save pre d out d' (normD d'.trailer) hk h (by omega)
      hok.wf.gens R (htr ▸ setSize_readsBackN d.trailer d.maxId (by omega) hok.tr _)
      (by rw [normD_get, table_trailer_get pre d out d' hk h]; rfl)
    simp only [revSize, revTrailer, hk]
    refine ⟨table, hxt, ⟨?_, hnodup, ?_, ?_, ?_⟩, hlt, fun k hk' => ?_, ?_⟩
    · simpa only [revSize, revMap, hk] using hget
    · simpa only [revMap, revObjs, hk] using saveFrom_recorded pre d out d' h hok.wf.nodup hlen R
    · simp only [revObjs, revSize, hk]
      intro p hp
      obtain ⟨a, b, c, e⟩ := hdocOK p hp
      exact ⟨a, by omega, c, e⟩
    · simpa only [revObjs, revMap, hk] using fun id o hd => (xmapOf_complete pre d hok.wf id o hd).2.2
    · rw [normD_get, table_trailer_get pre d out d' hk h, if_neg hk'.2.1]
    · rw [Dict.keys, normD_keys, htr]; exact Dict.nodup_set hnd _ _
  | stream =>
    obtain ⟨hout, htr⟩ := saveFrom_stream_eq pre d out d' hk h
    obtain ⟨x1, x2, x4⟩ := xrefObjP_okN pre d out d' hk h hlen hmax hok.wf.gens hok.tr
    obtain ⟨n1, n2, n3, n4, n5, _⟩ := normD_streamTrailer_facts pre d hnd hmax hok.wf.gens
    have e : out ++ R = bodyOf pre d ++ (writeIndirect (d.maxId + 1) 0 (xrefObjP pre d)
        ++ (STARTXREF_KW ++ natDigits (bodyOf pre d).length ++ EOF_KW ++ R)) := by
      rw [hout, xrefObjP]; simp only [List.append_assoc]
    obtain ⟨table, hxt, hget, hnodup⟩ := xrefAndTrailer_streamSave pre d _ (normD (streamTrailer pre d)) hok.wf.gens
      hmax (pDictionary_rt _ _ x1 x2) n1 n2 n3 n4 n5
    have hndN : (Dict.keys (normD (streamTrailer pre d))).Nodup := by
      rw [Dict.keys, normD_keys]; exact streamTrailer_nodup pre d hnd
    simp only [revSize, revTrailer, hk, streamTrailerReadN]
    refine ⟨table, ?_, ⟨?_, hnodup, ?_, ?_, ?_⟩, hlt, fun k hk' => ?_,
      Dict.nodup_remove (Dict.nodup_remove (Dict.nodup_remove hndN _) _) _⟩
    · rw [e, List.drop_left]; exact hxt
    · simpa only [revSize, revMap, hk] using hget
    · simpa only [revMap, revObjs, hk, e] using stream_recorded pre d hok.wf hnd
        (STARTXREF_KW ++ natDigits (bodyOf pre d).length ++ EOF_KW ++ R) hbl
    · simp only [revObjs, revSize, hk]
      intro p hp
      rcases List.mem_append.mp hp with hp | hp
      · obtain ⟨a, b, c, e'⟩ := hdocOK p hp
        exact ⟨a, by omega, c, e'⟩
      · cases List.mem_singleton.mp hp
        exact ⟨⟨x1, x2, x4⟩, by simp only; omega, by simp only; omega, by simp only; omega⟩
    · simpa only [revObjs, revMap, hk] using fun id o hd => (stream_complete pre d hok.wf id o hd).2.2
    · rw [get_remove3 hndN hk', normD_get,
        streamTrailer_get_free pre d hnd hk']

end Lopdf.FileRT
