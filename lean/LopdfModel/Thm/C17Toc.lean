import LopdfModel.Thm.C17
/-
  C17 (2) — `toc_readback`: on a document that embeds the outline of a forest with pairwise distinct
  titles whose target pages are in the page tree, `get_toc` returns the preorder of the forest with
  levels and page numbers (no fuel: the reader terminates by its own guard).
-/
namespace Lopdf.C17
open Lopdf Gen

abbrev IdsTab := List (Bytes × ObjId × Nat)

def entry (e : Nat × List Nat × ObjId) : Bytes × ObjId × Nat := (titleBytes e.2.1, e.2.2, e.1)
def tbOf (e : Nat × List Nat × ObjId) : Bytes := titleBytes e.2.1

theorem tocInsert_absent (m : IdsTab) (k : Bytes) (v : ObjId × Nat) (h : k ∉ m.map (·.1)) :
    Q13.tocInsert k v m = m ++ [(k, v)] := by
  induction m with
  | nil => rfl
  | cons e r ih =>
    obtain ⟨k', v'⟩ := e
    simp only [List.map_cons, List.mem_cons, not_or] at h
    have : ¬ k' = k := fun e => h.1 e.symm
    simp [Q13.tocInsert, this, ih h.2]

theorem tocIdsList_append (lvl : Nat) : ∀ (a b : List Q13.Outline) (acc : IdsTab),
    Q13.tocIdsList lvl (a ++ b) acc =
      match Q13.tocIdsList lvl a acc with
      | none => none
      | some acc' => Q13.tocIdsList lvl b acc' := by
  intro a
  induction a with
  | nil => intro b acc; simp [Q13.tocIdsList]
  | cons o r ih =>
    intro b acc
    simp only [List.cons_append, Q13.tocIdsList]
    cases Q13.tocIdsOne lvl o acc with
    | none => rfl
    | some acc' => exact ih b acc'

theorem tocIdsOne_dest (lvl : Nat) (title : List Nat) (page : ObjId) (acc : IdsTab) :
    Q13.tocIdsOne lvl (destOf title page) acc = some (Q13.tocInsert (titleBytes title) (page, lvl) acc) := by
  have h1 : (Q13.mkDest (.str (titleBytes title) .lit) (oref page) (.name OL_FIT)).get Q13.K_Title =
      some (.str (titleBytes title) .lit) := by
    simp only [Q13.mkDest]
    rw [Dict.get_set_ne _ _ _ _ (by decide), Dict.get_set_ne _ _ _ _ (by decide), Dict.get_set_same]
  have h2 : (Q13.mkDest (.str (titleBytes title) .lit) (oref page) (.name OL_FIT)).get PAGE = some (oref page) := by
    simp only [Q13.mkDest]
    rw [Dict.get_set_ne _ _ _ _ (by decide), Dict.get_set_same]
  simp only [destOf, Q13.tocIdsOne, h1, h2]
  simp [Obj.asStr, oref, Obj.asRef]

theorem map_entry_keys (l : List (Nat × List Nat × ObjId)) : (l.map entry).map (·.1) = l.map tbOf := by
  induction l with
  | nil => rfl
  | cons e r ih => simp [entry, tbOf, ih]

theorem preL_cons_node (lvl id : Nat) (title : List Nat) (f : Nat) (c : List Bytes) (page : ObjId) (kids r : List BT) :
    BT.preL lvl (.node id title f c page kids :: r) =
      (lvl, title, page) :: (BT.preL (lvl + 1) kids ++ BT.preL lvl r) := by
  simp [BT.preL, BT.pre]

theorem tocIdsList_sub (lvl : Nat) (kids : List BT) (rest : List Q13.Outline) (acc : IdsTab) :
    Q13.tocIdsList lvl ((if kids.isEmpty then [] else [Q13.Outline.sub (outL kids)]) ++ rest) acc =
      match Q13.tocIdsList (lvl + 1) (outL kids) acc with
      | none => none
      | some acc' => Q13.tocIdsList lvl rest acc' := by
  cases kids with
  | nil => rfl
  | cons k ks =>
    simp only [List.isEmpty_cons, Bool.false_eq_true, if_false, List.cons_append, List.nil_append,
      Q13.tocIdsList, Q13.tocIdsOne]
    cases Q13.tocIdsList (lvl + 1) (outL (k :: ks)) acc <;> rfl

theorem setupIds_forest (ts : List BT) : ∀ (lvl : Nat) (acc : IdsTab),
    (acc.map (·.1) ++ (BT.preL lvl ts).map tbOf).Nodup →
    Q13.tocIdsList lvl (outL ts) acc = some (acc ++ (BT.preL lvl ts).map entry) := by
  induction ts using BT.forest_ind with
  | nil => intro lvl acc _; simp [outL, Q13.tocIdsList, BT.preL]
  | cons id title f c page kids r ihk ihr =>
    intro lvl acc hnd
    rw [preL_cons_node] at hnd ⊢
    -- the keys so far, then this title, then those of the subtree, then those of the later siblings
    have hx : titleBytes title ∉ acc.map (·.1) := fun hmem =>
      (List.nodup_append.mp hnd).2.2 _ hmem _ List.mem_cons_self rfl
    have hnd' : ((acc ++ [(titleBytes title, page, lvl)]).map (·.1) ++
        ((BT.preL (lvl + 1) kids).map tbOf ++ (BT.preL lvl r).map tbOf)).Nodup := by
      simpa [entry, tbOf] using hnd
    rw [outL, outN, List.cons_append, Q13.tocIdsList, tocIdsOne_dest, tocInsert_absent acc _ _ hx]
    simp only
    rw [tocIdsList_sub, ihk (lvl + 1) _ (hnd'.sublist ((List.sublist_append_left _ _).append_left _))]
    simp only
    rw [ihr lvl _ (by rw [List.map_append, map_entry_keys, List.append_assoc]; exact hnd')]
    simp [entry, List.append_assoc]

/-- **flattening.** `setup_outline_page_ids` on the outline tree of a forest appends one entry per
bookmark in preorder — (title bytes, page, level) — provided the title bytes are pairwise distinct
and not yet in the table (otherwise `IndexMap::insert` overwrites: F-C17-a). -/
theorem setupIds_out : ∀ (n : Nat) (ts : List BT), BT.sizeL ts ≤ n → ∀ (lvl : Nat) (acc : IdsTab),
    (acc.map (·.1) ++ (BT.preL lvl ts).map tbOf).Nodup →
    Q13.tocIdsList lvl (outL ts) acc = some (acc ++ (BT.preL lvl ts).map entry) :=
  fun _ ts _ => setupIds_forest ts

/-- 0-based position of the first occurrence -/
def pageIndex : List ObjId → ObjId → Nat
  | [], _ => 0
  | q :: r, p => if q = p then 0 else pageIndex r p + 1

theorem pageNumIn_none (pages : List ObjId) (p : ObjId) (h : p ∉ pages) : ∀ start, pageNumIn pages start p = none := by
  induction pages with
  | nil => intro _; rfl
  | cons q r ih =>
    intro start
    simp only [List.mem_cons, not_or] at h
    have : ¬ q = p := fun e => h.1 e.symm
    simp [pageNumIn, ih h.2, this]

/-- `setup_page_id_to_num` on a page list without repetitions: page number = position + 1 -/
theorem pageNumIn_nodup (pages : List ObjId) (p : ObjId) (hn : pages.Nodup) (hp : p ∈ pages) :
    ∀ start, pageNumIn pages start p = some (start + pageIndex pages p) := by
  induction pages with
  | nil => simp at hp
  | cons q r ih =>
    intro start
    rw [List.nodup_cons] at hn
    by_cases hq : q = p
    · subst hq
      simp [pageNumIn, pageNumIn_none r q hn.1, pageIndex]
    · have hpr : p ∈ r := by
        simp only [List.mem_cons] at hp
        rcases hp with e | e
        · exact absurd e.symm hq
        · exact e
      simp only [pageNumIn, ih hn.2 hpr, pageIndex, hq, if_false]
      congr 1; omega

theorem tocEntries_map (tr : Dict) (os : Objects) (pn : ObjId → Nat) :
    ∀ (l : List (Nat × List Nat × ObjId)) (acc : List TocEntry) (ne : Nat),
    (∀ e ∈ l, pageNum tr os e.2.2 = some (pn e.2.2)) → (∀ e ∈ l, ∀ c ∈ e.2.1, IsScalar c) →
    tocEntries tr os (l.map entry) acc ne =
      some (acc ++ l.map (fun e => { level := e.1, title := e.2.1, page := pn e.2.2 }), ne) := by
  intro l
  induction l with
  | nil => intro acc ne _ _; simp [tocEntries]
  | cons e r ih =>
    intro acc ne h1 h2
    have a := h1 e (by simp)
    have b := title_roundtrip e.2.1 (h2 e (by simp))
    simp only [List.map_cons, entry, tocEntries, a, b]
    rw [ih _ _ (fun x hx => h1 x (by simp [hx])) (fun x hx => h2 x (by simp [hx]))]
    simp [List.append_assoc]

theorem rootDict_get_first (ts : List BT) (m : Nat) : (rootDict ts m).get Q13.K_First = (firstId ts m).map oref := by
  rw [show Q13.K_First = OLR_FIRST from rfl]
  simp (disch := decide) only [rootDict, Dict.get_set_ne, setOpt_get_ne, setOpt_get_eq]
  cases firstId ts m <;> simp [Dict.get_nil]

theorem nodup_titleBytes (l : List (Nat × List Nat × ObjId)) (hn : (l.map (fun e => e.2.1)).Nodup)
    (hs : ∀ e ∈ l, ∀ c ∈ e.2.1, IsScalar c) : (l.map tbOf).Nodup :=
  List.pairwise_map.mpr ((List.pairwise_map.mp hn).imp_of_mem fun ha hb hne e =>
    hne (titleBytes_injective _ _ (hs _ ha) (hs _ hb) e))

/-- **toc_readback.** Let the document hold, under its catalog's `Outlines` entry, the outline root
of a non-empty forest `ts` and embed the forest (`EmbL`, the conclusion of `outline_links`); let the
catalog have no `Dests`/`Names`; let the page tree enumerate `pages` without repetition and contain
every bookmark's target page; let the titles be strings (scalar values) and pairwise distinct.  Then
`get_toc` — whose walk over `First`/`Next` is fuel-free and guarded by the `seen` set of bca5e67, which
never fires on a built outline — returns exactly the preorder of the forest: level (top level = 1),
title, page number (position in the page tree + 1), and no errors. -/
theorem toc_readback (tr : Dict) (os : Objects) (catd : Dict) (ts : List BT) (m : Nat) (pages : List ObjId)
    (hcat : Q13.catalog tr os = some catd)
    (hout : catd.get RD_OUTLINES = some (.ref m 0))
    (hnd : catd.get RD_DESTS = none) (hnn : catd.get RD_NAMES = none)
    (hroot : dictAt os (m, 0) = some (rootDict ts m))
    (hemb : EmbL (dictAt os) m (m, 0) none ts) (hne : ts ≠ [])
    (hpages : pageIter tr os = pages) (hnodup : pages.Nodup)
    (htarget : ∀ e ∈ BT.preL 1 ts, e.2.2 ∈ pages)
    (hscalar : ∀ e ∈ BT.preL 1 ts, ∀ c ∈ e.2.1, IsScalar c)
    (hdistinct : ((BT.preL 1 ts).map (fun e => e.2.1)).Nodup) :
    getToc tr os =
      .ok ((BT.preL 1 ts).map (fun e => { level := e.1, title := e.2.1, page := pageIndex pages e.2.2 + 1 })) 0 := by
  cases ts with
  | nil => exact absurd rfl hne
  | cons t r =>
    have hrootd := getDictionary_of_dictAt hroot
    have hfirst := getDictionary_of_dictAt (EmbL_head hemb)
    obtain ⟨seen', hwalk, _⟩ := walk_emb os _ t r (Nat.le_refl _) m (m, 0) none [] [] [] hemb (by intro q hq; cases hq)
    have e1 : Q13.K_Outlines = RD_OUTLINES := rfl
    have e3 : Q13.K_Dests = RD_DESTS := rfl
    have e4 : Q13.K_Names = RD_NAMES := rfl
    have hgo : Q13.getOutlines tr os = .ok (outL (t :: r), []) := by
      simp only [Q13.getOutlines, hcat, Q13.getDictInDict, Q13.destTree, e1, e3, e4, hout, hrootd,
        rootDict_get_first, firstId_cons, Option.map, oref, hfirst, hnd, hnn, Option.bind, hwalk]
      simp
    have hflat := setupIds_out _ (t :: r) (Nat.le_refl _) 1 []
      (by simpa using nodup_titleBytes _ hdistinct hscalar)
    have hpn : ∀ e ∈ BT.preL 1 (t :: r), pageNum tr os e.2.2 = some ((fun p => pageIndex pages p + 1) e.2.2) := by
      intro e he
      rw [pageNum, hpages, pageNumIn_nodup pages e.2.2 hnodup (htarget e he) 1, Nat.add_comm]
    have htoc := tocEntries_map tr os (fun p => pageIndex pages p + 1) (BT.preL 1 (t :: r)) [] 0 hpn hscalar
    simp only [getToc, hgo, hflat, List.nil_append, htoc]

end Lopdf.C17
