import LopdfModel.Lemmas.C09Ops
/-
  C09 — stream filters decode as specified; compression is lossless.
  Property theorems (helper lemmas: Lemmas/C09A85, C09Png, C09Ops).
-/
namespace Lopdf
open Gen

/-- **all 2^24 Paeth triples**: `paeth_predict`'s `i16` arithmetic never overflows and its value is
the PaethPredictor of the PNG specification. -/
theorem paeth_eq_spec (a b c : UInt8) :
    paethPredictO a b c = some (Spec.Png.paeth a b c) ∧ paethPredict a b c = Spec.Png.paeth a b c :=
  ⟨paethPredictO_eq a b c, paethPredict_eq a b c⟩

/-- PaethPredictor is symmetric in (left, above): swapping the two arguments in `decode_row`, or making the
first tie-break of `paeth_predict` strict, are behaviour-preserving changes. -/
theorem paeth_symm (a b c : UInt8) : paethPredict a b c = paethPredict b a c := by
  rw [paethPredict_eq, paethPredict_eq, paeth_comm]

/-- **row round trip**: for each of the five filter types, every `bpp ≥ 1`, every row length and every
previous row, `decode_row` inverts the PNG specification's filter. -/
theorem row_rt (t : Spec.Png.FilterType) (bpp : Nat) (hb : 1 ≤ bpp) (prev cur : Bytes) :
    decodeRow (M t) bpp prev (Spec.Png.encodeRow t bpp prev cur) = cur := by
  rw [decodeRow, encodeRow_length, Spec.Png.encodeRow]
  exact rowLoop_tab t bpp hb prev cur cur.length 0 (by omega)

example : decodeRow .avg 1 [100, 200] (Spec.Png.encodeRow .avg 1 [100, 200] [60, 150]) = [60, 150] := by decide
/-- the regression value of the repaired Average defect (F-C09-a): filtered `[10,20]` over `[100,200]` is `[60,150]` -/
theorem avg_regression : decodeRow .avg 1 [100, 200] [10, 20] = [60, 150] := by decide

theorem frameLoop_rt (bpp : Nat) (hb : 1 ≤ bpp) (n : Nat) :
    ∀ (rows : List (Spec.Png.FilterType × Bytes)) (prev : Bytes), (∀ r ∈ rows, r.2.length = n) →
      frameLoop bpp n (Spec.Png.encodeFrame bpp prev rows) prev = .ok (joinRows rows) := by
  intro rows
  induction rows with
  | nil => intro prev _; rw [Spec.Png.encodeFrame, frameLoop.eq_def]; rfl
  | cons r rest ih =>
    intro prev h
    obtain ⟨t, row⟩ := r
    have hel : (Spec.Png.encodeRow t bpp prev row).length = n := by rw [encodeRow_length]; exact h (t, row) (by simp)
    have h1 : ¬ ((Spec.Png.encodeRow t bpp prev row ++ Spec.Png.encodeFrame bpp row rest).length < n) := by
      rw [List.length_append]; omega
    rw [Spec.Png.encodeFrame, List.cons_append, frameLoop_cons _ _ _ _ _ _ (ofByte_typeByte t) h1,
      List.take_left' hel, List.drop_left' hel, row_rt t bpp hb, ih row (fun r hr => h r (by simp [hr]))]
    rfl

/-- **frame round trip**: any number of rows, any filter type per row (predictor 15 "optimum"
included), the row above the first being zero. -/
theorem frame_rt (bpp ppr : Nat) (hb : 1 ≤ bpp) (hsz : bpp * ppr ≤ FLT_ISIZE_MAX)
    (rows : List (Spec.Png.FilterType × Bytes)) (h : ∀ r ∈ rows, r.2.length = bpp * ppr) :
    decodeFrame (encodeImage bpp (bpp * ppr) rows) bpp ppr = .ok (joinRows rows) := by
  have h1 : ¬ bpp * ppr > FLT_USIZE_MAX := by simp only [FLT_ISIZE_MAX, FLT_USIZE_MAX] at *; omega
  have h2 : ¬ bpp * ppr > FLT_ISIZE_MAX := by omega
  simp only [decodeFrame, h1, h2, if_false, encodeImage]
  exact frameLoop_rt bpp hb _ rows _ h

example : decodeFrame (encodeImage 2 (2 * 2) [(.paeth, [1, 2, 3, 4]), (.avg, [9, 8, 7, 6]), (.sub, [0, 255, 3, 1])]) 2 2
    = .ok [1, 2, 3, 4, 9, 8, 7, 6, 0, 255, 3, 1] :=
  frame_rt 2 2 (by omega) (by decide) _ (by decide)

/-- **ASCII85 round trip** for EVERY byte string: full groups, the `z` shortcut, partial final
groups of 1–3 bytes, the `~>` marker. -/
theorem a85_round_trip (x : Bytes) : a85Decode (Spec.A85.encode x) = .ok x := a85_rt x

example : Spec.A85.encode [77, 97, 110, 32, 0, 0, 0, 0, 1] = [57, 106, 113, 111, 94, 122, 33, 60, 126, 62] := by decide

/-- **no panic**: `decode_ascii85` (checked `u32` arithmetic after fix 87734a4) never panics, on ANY input. -/
theorem a85_no_panic (input : Bytes) (site : String) : a85Decode input ≠ .panic site := a85_no_panic' input site

/-- regression value of the repaired overflow defect: the group `s8W-"` has value 2^32 — an error, not a panic -/
theorem a85_overflow_is_error : a85Decode [115, 56, 87, 45, 34, 126, 62] = .err "ascii85 overflow" := by decide
/-- … while the largest legal group `s8W-!` decodes to four 0xFF bytes -/
theorem a85_max_group : a85Decode [115, 56, 87, 45, 33, 126, 62] = .ok [255, 255, 255, 255] := by decide

theorem bpp_eq_spec_of_mul8 (colors m columns : Nat) (hc : 1 ≤ colors) (hm : 1 ≤ m) :
    colors * (m * 8) / BPP_DIV = Spec.Png.bppSpec colors (m * 8) ∧
    colors * (m * 8) / BPP_DIV * columns = Spec.Png.rowBytesSpec columns colors (m * 8) := by
  have e : ∀ x, (x * 8 + 7) / 8 = x := fun x => by omega
  have d : ∀ x, x * 8 / 8 = x := fun x => Nat.mul_div_cancel x (by omega)
  rw [BPP_DIV, Spec.Png.bppSpec, Spec.Png.rowBytesSpec, ← Nat.mul_assoc, ← Nat.mul_assoc, d, e, e,
    Nat.max_eq_right (Nat.mul_le_mul hc hm), Nat.mul_assoc columns, Nat.mul_comm columns]
  exact ⟨rfl, rfl⟩

/-- for BitsPerComponent 8 or 16 lopdf's `colors * bits / 8` and `bytes_per_pixel * columns` are the
PNG specification's bytes-per-pixel and bytes-per-row -/
theorem bpp_eq_spec (colors bits columns : Nat) (hb : bits = 8 ∨ bits = 16) (hc : 1 ≤ colors) :
    colors * bits / BPP_DIV = Spec.Png.bppSpec colors bits ∧
    colors * bits / BPP_DIV * columns = Spec.Png.rowBytesSpec columns colors bits := by
  rcases hb with rfl | rfl
  · exact bpp_eq_spec_of_mul8 colors 1 columns hc (Nat.le_refl 1)
  · exact bpp_eq_spec_of_mul8 colors 2 columns hc (by omega)

/-- outside that domain the formulas differ (BitsPerComponent 4, three colours: 3 instead of 2 bytes per pixel) -/
theorem bpp_differs_below_8 : max 8 4 * 3 / BPP_DIV ≠ Spec.Png.bppSpec 3 4 := by decide

/-- the predictor stage does nothing: no parameter dictionary, or a predictor outside 10..=15 -/
def predictorInactive (params : Option Dict) : Prop :=
  match params with
  | none => True
  | some p => (predGeom p).active = false

theorem decompressPredictor_inactive (data : Bytes) (params : Option Dict) (h : predictorInactive params) :
    decompressPredictor data params = .ok data := by
  cases params with
  | none => rfl
  | some p => simp only [predictorInactive] at h; simp [decompressPredictor, h]

/-- an active PNG predictor with 8 or 16 bits per component decodes the image the PNG encoder filtered -/
theorem decompressPredictor_png (p : Dict)
    (hact : (predGeom p).active = true)
    (hbits : (predGeom p).bits = 8 ∨ (predGeom p).bits = 16)
    (hsz : (predGeom p).bpp * (predGeom p).columns ≤ FLT_ISIZE_MAX)
    (hmul : (predGeom p).colors * (predGeom p).bits ≤ FLT_USIZE_MAX)
    (rows : List (Spec.Png.FilterType × Bytes))
    (hrows : ∀ r ∈ rows, r.2.length = Spec.Png.rowBytesSpec (predGeom p).columns (predGeom p).colors (predGeom p).bits) :
    decompressPredictor
      (encodeImage (Spec.Png.bppSpec (predGeom p).colors (predGeom p).bits)
        (Spec.Png.rowBytesSpec (predGeom p).columns (predGeom p).colors (predGeom p).bits) rows) (some p)
      = .ok (joinRows rows) := by
  have hcol : 1 ≤ (predGeom p).colors := by simp only [predGeom, COLORS_MIN]; omega
  obtain ⟨e1, e2⟩ := bpp_eq_spec (predGeom p).colors (predGeom p).bits (predGeom p).columns hbits hcol
  have hb1 : 1 ≤ (predGeom p).bpp := by rw [PredGeom.bpp, e1, Spec.Png.bppSpec]; omega
  have hm : ¬ (predGeom p).colors * (predGeom p).bits > FLT_USIZE_MAX := by omega
  simp only [decompressPredictor, hact, if_true, hm, if_false]
  rw [← e1, ← e2]
  exact frame_rt _ _ hb1 hsz rows (by intro r hr; rw [hrows r hr, ← e2]; rfl)

/-- filters of a chain, in decoding order -/
inductive Stage where | flate | lzw | a85
  deriving DecidableEq, Repr

def Stage.name : Stage → Bytes
  | .flate => F_FLATE | .lzw => F_LZW | .a85 => F_A85

/-- reference encoder of one stage (no predictor): the external encoders are parameters -/
def encStage (deflate : Bytes → Bytes) (lzwEnc : Bool → Bytes → Bytes) (early : Bool) : Stage → Bytes → Bytes
  | .flate, x => deflate x
  | .lzw, x => lzwEnc early x
  | .a85, x => Spec.A85.encode x

/-- content of a stream whose `Filter` array is `fs` (decoding order): the first filter is applied last -/
def encChain (deflate : Bytes → Bytes) (lzwEnc : Bool → Bytes → Bytes) (early : Bool) : List Stage → Bytes → Bytes
  | [], x => x
  | f :: fs, x => encStage deflate lzwEnc early f (encChain deflate lzwEnc early fs x)

/-! ### chains with PER-STAGE parameters (dictionary form: the same dictionary at every stage; array form:
the i-th element), predictors allowed at any stage -/

/-- geometry a stage's parameters denote (defaults when there are none) -/
def parmsGeom (p : Option Dict) : PredGeom := predGeom (p.getD [])

/-- one stage of an encoded chain: filter, the parameters it will be decoded with, and — when those activate a
PNG predictor — the rows of the image this stage's decoded output consists of -/
structure StageEnc where
  f : Stage
  p : Option Dict
  rows : Option (List (Spec.Png.FilterType × Bytes))

/-- reference encoder of a stage: PNG-filter the rows (if any), then the stage's own encoding -/
def encStageP (deflate : Bytes → Bytes) (lzwEnc : Bool → Bytes → Bytes) (c : StageEnc) (y : Bytes) : Bytes :=
  match c.rows with
  | none => encStage deflate lzwEnc (earlyChange c.p) c.f y
  | some rs =>
    encStage deflate lzwEnc (earlyChange c.p) c.f
      (encodeImage (Spec.Png.bppSpec (parmsGeom c.p).colors (parmsGeom c.p).bits)
        (Spec.Png.rowBytesSpec (parmsGeom c.p).columns (parmsGeom c.p).colors (parmsGeom c.p).bits) rs)

/-- the stage description is coherent with the data `y` the stage must decode to -/
def StageValid (c : StageEnc) (y : Bytes) : Prop :=
  match c.rows with
  | none => c.f = .a85 ∨ predictorInactive c.p
  | some rs =>
    ∃ d, c.p = some d ∧ c.f ≠ .a85 ∧ (predGeom d).active = true ∧
      ((predGeom d).bits = 8 ∨ (predGeom d).bits = 16) ∧
      (predGeom d).bpp * (predGeom d).columns ≤ FLT_ISIZE_MAX ∧
      (predGeom d).colors * (predGeom d).bits ≤ FLT_USIZE_MAX ∧
      (∀ r ∈ rs, r.2.length = Spec.Png.rowBytesSpec (predGeom d).columns (predGeom d).colors (predGeom d).bits) ∧
      y = joinRows rs

def encChainP (deflate : Bytes → Bytes) (lzwEnc : Bool → Bytes → Bytes) : List StageEnc → Bytes → Bytes
  | [], x => x
  | c :: cs, x => encStageP deflate lzwEnc c (encChainP deflate lzwEnc cs x)

def ChainValid (deflate : Bytes → Bytes) (lzwEnc : Bool → Bytes → Bytes) : List StageEnc → Bytes → Prop
  | [], _ => True
  | c :: cs, x => StageValid c (encChainP deflate lzwEnc cs x) ∧ ChainValid deflate lzwEnc cs x

section stages
variable {ext : Ext} {deflate : Bytes → Bytes} {lzwEnc : Bool → Bytes → Bytes}

theorem applyFilter_flate (hfl : ∀ x, ext.inflate (deflate x) = x) (hne : ∀ x, deflate x ≠ [])
    (params : Option Dict) (y : Bytes) :
    applyFilter ext params F_FLATE (deflate y) = decompressPredictor y params := by
  simp [applyFilter, List.isEmpty_eq_false_iff.mpr (hne y), hfl]

theorem applyFilter_lzw (hlzw : ∀ e x, ext.lzw e (lzwEnc e x) = x) (params : Option Dict) (y : Bytes) :
    applyFilter ext params F_LZW (lzwEnc (earlyChange params) y) = decompressPredictor y params := by
  simp [applyFilter, show F_LZW ≠ F_FLATE by decide, hlzw]

theorem applyFilter_a85 (ext : Ext) (params : Option Dict) (y : Bytes) :
    applyFilter ext params F_A85 (Spec.A85.encode y) = .ok y := by
  simp [applyFilter, show F_A85 ≠ F_FLATE by decide, show F_A85 ≠ F_LZW by decide, a85_rt]

variable (hfl : ∀ x, ext.inflate (deflate x) = x) (hne : ∀ x, deflate x ≠ [])
  (hlzw : ∀ e x, ext.lzw e (lzwEnc e x) = x)
include hfl hne hlzw

theorem applyFilter_ext (params : Option Dict) (f : Stage) (hf : f ≠ .a85) (y : Bytes) :
    applyFilter ext params f.name (encStage deflate lzwEnc (earlyChange params) f y) = decompressPredictor y params := by
  cases f with
  | flate => exact applyFilter_flate hfl hne params y
  | lzw => exact applyFilter_lzw hlzw params y
  | a85 => exact absurd rfl hf

theorem applyFilter_stageP (c : StageEnc) (y : Bytes) (hv : StageValid c y) :
    applyFilter ext c.p c.f.name (encStageP deflate lzwEnc c y) = .ok y := by
  obtain ⟨f, p, rows⟩ := c
  cases rows with
  | none =>
    by_cases hf : f = .a85
    · subst hf; exact applyFilter_a85 ext p y
    · exact (applyFilter_ext hfl hne hlzw p f hf y).trans (decompressPredictor_inactive y p (hv.resolve_left hf))
  | some rs =>
    obtain ⟨d, rfl, hf, hact, hbits, hsz, hmul, hrows, rfl⟩ := hv
    exact (applyFilter_ext hfl hne hlzw (some d) f hf _).trans (decompressPredictor_png d hact hbits hsz hmul rs hrows)

theorem filterLoop_rtP (parms : Nat → Option Dict) (x : Bytes) :
    ∀ (cs : List StageEnc) (i : Nat), (∀ k (h : k < cs.length), parms (i + k) = cs[k].p) →
      ChainValid deflate lzwEnc cs x →
      filterLoop ext parms i (cs.map (fun c => c.f.name)) (encChainP deflate lzwEnc cs x) = .ok x := by
  intro cs
  induction cs with
  | nil => intro i _ _; rfl
  | cons c cs ih =>
    intro i hp hv
    rw [List.map, encChainP, filterLoop, show parms i = c.p from hp 0 (by simp),
      applyFilter_stageP hfl hne hlzw c _ hv.1]
    refine ih (i + 1) (fun k hk => ?_) hv.2
    have := hp (k + 1) (by simp; omega)
    rwa [Nat.add_assoc, Nat.add_comm 1 k]

/-- the chain theorem for whatever `Filter` holds (a name, an array, the empty array), as long as it denotes the
filters of `cs` -/
theorem chain_rt_filters (s : Strm) (cs : List StageEnc) (x : Bytes)
    (hF : streamFilters s.dict = some (cs.map fun c => c.f.name))
    (hP : ∀ k (h : k < cs.length), stageParms s.dict k = cs[k].p)
    (hv : ChainValid deflate lzwEnc cs x) (hc : s.content = encChainP deflate lzwEnc cs x) :
    decompressedContent ext s = .ok x ∧ getPlainContent ext s = .ok x := by
  have r := filterLoop_rtP hfl hne hlzw (stageParms s.dict) x cs 0 (by intro k hk; simpa using hP k hk) hv
  rw [(decoded_of_filters ext s _ hF).1, (decoded_of_filters ext s _ hF).2, hc]
  exact ⟨r, r⟩

end stages

/-- **chains of ANY length** over {FlateDecode, LZWDecode, ASCII85Decode} with PER-STAGE parameters and PNG
predictors at any stage: if stage `k` is decoded with the parameters `cs[k].p` the chain was encoded for, decoding the
reference encoding of `x` gives `x` (flate2 / weezl enter as hypotheses). Both parameter forms are instances:
`chain_rt_dict` (one dictionary for every stage) and `chain_rt_array` (array parallel to the filters). -/
theorem chain_rt (ext : Ext) (deflate : Bytes → Bytes) (lzwEnc : Bool → Bytes → Bytes)
    (hfl : ∀ x, ext.inflate (deflate x) = x) (hne : ∀ x, deflate x ≠ [])
    (hlzw : ∀ e x, ext.lzw e (lzwEnc e x) = x)
    (s : Strm) (c : StageEnc) (cs : List StageEnc) (x : Bytes)
    (hF : s.dict.get K_FILTER = some (.arr ((c :: cs).map fun c => Obj.name c.f.name)))
    (hP : ∀ k (h : k < (c :: cs).length), stageParms s.dict k = ((c :: cs)[k]).p)
    (hv : ChainValid deflate lzwEnc (c :: cs) x)
    (hc : s.content = encChainP deflate lzwEnc (c :: cs) x) :
    decompressedContent ext s = .ok x ∧ getPlainContent ext s = .ok x :=
  chain_rt_filters hfl hne hlzw s (c :: cs) x (streamFilters_arr _ _ (by rw [hF, List.map_map]; rfl)) hP hv hc

/-- dictionary form: the one dictionary is the parameter object of every stage -/
theorem chain_rt_dict (ext : Ext) (deflate : Bytes → Bytes) (lzwEnc : Bool → Bytes → Bytes)
    (hfl : ∀ x, ext.inflate (deflate x) = x) (hne : ∀ x, deflate x ≠ [])
    (hlzw : ∀ e x, ext.lzw e (lzwEnc e x) = x)
    (s : Strm) (c : StageEnc) (cs : List StageEnc) (x : Bytes) (d : Dict)
    (hF : s.dict.get K_FILTER = some (.arr ((c :: cs).map fun c => Obj.name c.f.name)))
    (hD : s.dict.get K_DECODEPARMS = some (.dict d))
    (hall : ∀ c' ∈ c :: cs, c'.p = some d)
    (hv : ChainValid deflate lzwEnc (c :: cs) x)
    (hc : s.content = encChainP deflate lzwEnc (c :: cs) x) :
    decompressedContent ext s = .ok x ∧ getPlainContent ext s = .ok x :=
  chain_rt ext deflate lzwEnc hfl hne hlzw s c cs x hF
    (by intro k hk; rw [stageParms_dict _ _ _ hD, hall _ (List.getElem_mem hk)]) hv hc

/-- the element of a `DecodeParms` array that denotes the parameters `p` -/
def parmsObj : Option Dict → Obj
  | some d => .dict d
  | none => .null

/-- **array form** (the clause of the property that was false before the repair of F-C09-b): `DecodeParms` is an
array parallel to the filters, element `k` a dictionary or null. -/
theorem chain_rt_array (ext : Ext) (deflate : Bytes → Bytes) (lzwEnc : Bool → Bytes → Bytes)
    (hfl : ∀ x, ext.inflate (deflate x) = x) (hne : ∀ x, deflate x ≠ [])
    (hlzw : ∀ e x, ext.lzw e (lzwEnc e x) = x)
    (s : Strm) (c : StageEnc) (cs : List StageEnc) (x : Bytes)
    (hF : s.dict.get K_FILTER = some (.arr ((c :: cs).map fun c => Obj.name c.f.name)))
    (hA : s.dict.get K_DECODEPARMS = some (.arr ((c :: cs).map fun c => parmsObj c.p)))
    (hv : ChainValid deflate lzwEnc (c :: cs) x)
    (hc : s.content = encChainP deflate lzwEnc (c :: cs) x) :
    decompressedContent ext s = .ok x ∧ getPlainContent ext s = .ok x :=
  chain_rt ext deflate lzwEnc hfl hne hlzw s c cs x hF
    (by
      intro k hk
      rw [stageParms_arr _ _ _ hA]
      have : ((c :: cs).map fun c => parmsObj c.p)[k]? = some (parmsObj ((c :: cs)[k]).p) := by
        rw [List.getElem?_map, List.getElem?_eq_getElem hk]; rfl
      rw [this]
      cases ((c :: cs)[k]).p <;> rfl) hv hc

/-- the former F-C09-b witness: `Filter [/FlateDecode]`, `DecodeParms [<</Predictor 12 /Columns 2>>]` (array form)
and the same stream with the dictionary form -/
def wParms : Dict := [(K_PREDICTOR, .int 12), (K_COLUMNS, .int 2)]
def wArr : Strm := { dict := [(K_FILTER, .arr [.name F_FLATE]), (K_DECODEPARMS, .arr [.dict wParms])], content := [120] }
def wDict : Strm := { dict := [(K_FILTER, .arr [.name F_FLATE]), (K_DECODEPARMS, .dict wParms)], content := [120] }
def wExt2 : Ext := { inflate := fun _ => [2, 1, 2, 2, 2, 2], lzw := fun _ x => x }

/-- toy external codecs meeting the hypotheses (non-vacuity) -/
def toyExt : Ext := { inflate := fun y => y.tail, lzw := fun _ y => y.tail }
/-- `Filter [/ASCII85Decode /LZWDecode /FlateDecode]`, `DecodeParms [null null <</Predictor 12 /Columns 2>>]` -/
def toyChain : List StageEnc :=
  [⟨.a85, none, none⟩, ⟨.lzw, none, none⟩, ⟨.flate, some wParms, some [(.up, [1, 2]), (.paeth, [3, 4])]⟩]
def toyStream : Strm :=
  { dict := [(K_FILTER, .arr [.name F_A85, .name F_LZW, .name F_FLATE]),
             (K_DECODEPARMS, .arr [.null, .null, .dict wParms])],
    content := encChainP (fun x => 0 :: x) (fun _ x => 1 :: x) toyChain [1, 2, 3, 4] }
example : decompressedContent toyExt toyStream = .ok [1, 2, 3, 4] :=
  (chain_rt_array toyExt (fun x => 0 :: x) (fun _ x => 1 :: x) (fun _ => rfl) (fun _ => by simp) (fun _ _ => rfl)
    toyStream ⟨.a85, none, none⟩ [⟨.lzw, none, none⟩, ⟨.flate, some wParms, some [(.up, [1, 2]), (.paeth, [3, 4])]⟩]
    [1, 2, 3, 4] rfl rfl
    ⟨Or.inl rfl, Or.inr (by trivial),
     ⟨wParms, rfl, by decide, by decide, by decide, by decide, by decide, by decide, by decide⟩, trivial⟩ rfl).1

/-- **Flate / LZW stage with a PNG predictor** (Predictor 10–15, any Columns, Colors, BitsPerComponent 8 or 16),
parameters as a DICTIONARY or as a one-element ARRAY: the decoded content is the image whose rows the PNG encoder filtered. -/
theorem stream_png_rt (ext : Ext) (deflate : Bytes → Bytes) (lzwEnc : Bool → Bytes → Bytes)
    (hfl : ∀ x, ext.inflate (deflate x) = x) (hne : ∀ x, deflate x ≠ [])
    (hlzw : ∀ e x, ext.lzw e (lzwEnc e x) = x)
    (s : Strm) (f : Stage) (hf : f ≠ .a85) (p : Dict)
    (hF : s.dict.get K_FILTER = some (.name f.name) ∨ s.dict.get K_FILTER = some (.arr [.name f.name]))
    (hP : s.dict.get K_DECODEPARMS = some (.dict p) ∨ s.dict.get K_DECODEPARMS = some (.arr [.dict p]))
    (hact : (predGeom p).active = true)
    (hbits : (predGeom p).bits = 8 ∨ (predGeom p).bits = 16)
    (hsz : (predGeom p).bpp * (predGeom p).columns ≤ FLT_ISIZE_MAX)
    (hmul : (predGeom p).colors * (predGeom p).bits ≤ FLT_USIZE_MAX)
    (rows : List (Spec.Png.FilterType × Bytes))
    (hrows : ∀ r ∈ rows, r.2.length = Spec.Png.rowBytesSpec (predGeom p).columns (predGeom p).colors (predGeom p).bits)
    (hc : s.content = encStage deflate lzwEnc (earlyChange (some p)) f
        (encodeImage (Spec.Png.bppSpec (predGeom p).colors (predGeom p).bits)
          (Spec.Png.rowBytesSpec (predGeom p).columns (predGeom p).colors (predGeom p).bits) rows)) :
    decompressedContent ext s = .ok (joinRows rows) := by
  have hsf : streamFilters s.dict = some [f.name] := by
    rcases hF with h | h
    · exact streamFilters_name _ _ h
    · exact streamFilters_arr _ [f.name] h
  have hp : stageParms s.dict 0 = some p := by
    rcases hP with h | h
    · exact stageParms_dict _ _ _ h
    · rw [stageParms_arr _ _ _ h]; rfl
  exact (chain_rt_filters hfl hne hlzw s [⟨f, some p, some rows⟩] (joinRows rows) hsf
    (by intro k hk; obtain rfl : k = 0 := by simpa using hk
        exact hp)
    ⟨⟨p, rfl, hf, hact, hbits, hsz, hmul, hrows, rfl⟩, trivial⟩ hc).1

def toyPng : Strm :=
  { dict := [(K_FILTER, .name F_FLATE), (K_DECODEPARMS, .arr [.dict wParms])],
    content := 0 :: encodeImage 1 2 [(.up, [1, 2]), (.up, [3, 4])] }
theorem toyPng_decoded : decompressedContent toyExt toyPng = .ok [1, 2, 3, 4] :=
  stream_png_rt toyExt (fun x => 0 :: x) (fun _ x => 1 :: x) (fun _ => rfl) (fun _ => by simp) (fun _ _ => rfl)
    toyPng .flate (by decide) wParms (Or.inl rfl) (Or.inr rfl) (by decide) (by decide) (by decide) (by decide)
    [(.up, [1, 2]), (.up, [3, 4])] (by decide) (by decide)
example : decompressedContent toyExt toyPng = .ok [1, 2, 3, 4] := toyPng_decoded

/-- regression of the repaired F-C09-b: the former witness stream (`Filter [/FlateDecode]`,
`DecodeParms [<</Predictor 12 /Columns 2>>]`) decodes to the image, exactly like the dictionary form. -/
theorem parms_array_regression :
    encodeImage 1 2 [(.up, [1, 2]), (.up, [3, 4])] = [2, 1, 2, 2, 2, 2] ∧
    decompressedContent wExt2 wDict = .ok [1, 2, 3, 4] ∧
    decompressedContent wExt2 wArr = .ok [1, 2, 3, 4] := by
  have e : encodeImage 1 2 [(.up, [1, 2]), (.up, [3, 4])] = [2, 1, 2, 2, 2, 2] := by decide
  have g : predGeom wParms = ⟨12, 2, 1, 8⟩ := by decide
  have h2 : decompressPredictor [2, 1, 2, 2, 2, 2] (some wParms) = .ok [1, 2, 3, 4] := by
    have : decompressPredictor [2, 1, 2, 2, 2, 2] (some wParms) = decodeFrame [2, 1, 2, 2, 2, 2] 1 2 := by
      simp only [decompressPredictor, g]; rfl
    rw [this, ← e, frame_rt 1 2 (by omega) (by decide) _ (by decide)]; rfl
  refine ⟨e, ?_, ?_⟩
  · have h : decompressedContent wExt2 wDict
        = (decompressPredictor [2, 1, 2, 2, 2, 2] (some wParms)).bind (filterLoop wExt2 (stageParms wDict.dict) 1 []) := by rfl
    rw [h, h2]; rfl
  · have h : decompressedContent wExt2 wArr
        = (decompressPredictor [2, 1, 2, 2, 2, 2] (some wParms)).bind (filterLoop wExt2 (stageParms wArr.dict) 1 []) := by rfl
    rw [h, h2]; rfl

/-- array entries that are not dictionaries (null, numbers, references), missing entries and a `DecodeParms` that is
neither dictionary nor array mean "no parameters" -/
theorem stageParms_other :
    stageParms [(K_DECODEPARMS, .arr [.null, .int 3, .ref 7 0])] 0 = none ∧
    stageParms [(K_DECODEPARMS, .arr [.null, .int 3, .ref 7 0])] 1 = none ∧
    stageParms [(K_DECODEPARMS, .arr [.null, .int 3, .ref 7 0])] 2 = none ∧
    stageParms [(K_DECODEPARMS, .arr [.null, .int 3, .ref 7 0])] 3 = none ∧
    stageParms [(K_DECODEPARMS, .ref 9 0)] 0 = none := by decide

/-- compress never makes the content longer; when it changes the stream it saves more than the
`COMPRESS_MARGIN` = 19 bytes that the added `/Filter/FlateDecode` entry costs. -/
theorem compress_not_longer (deflate : Bytes → Bytes) (s : Strm) :
    (compress deflate s).content.length ≤ s.content.length ∧
    (compress deflate s ≠ s → (compress deflate s).content.length + COMPRESS_MARGIN < s.content.length) := by
  rcases compress_cases deflate s with h | ⟨_, hlt, h⟩ <;> rw [h]
  · exact ⟨Nat.le_refl _, fun hne => absurd rfl hne⟩
  · exact ⟨by simp only [setContent]; omega, fun _ => hlt⟩

/-- the bytes the added entry `/Filter/FlateDecode` costs in the serialised dictionary -/
def filterEntrySize : Nat := (47 :: K_FILTER ++ 47 :: F_FLATE).length

/-- the serialised object never grows: whenever compress changes the stream, the new content plus the
added `/Filter/FlateDecode` entry is no longer than the old content (needs `entry size ≤ COMPRESS_MARGIN + 1`,
checked against the regenerated constant). -/
theorem compress_object_not_longer (deflate : Bytes → Bytes) (s : Strm) (h : compress deflate s ≠ s) :
    (compress deflate s).content.length + filterEntrySize ≤ s.content.length := by
  have h1 := (compress_not_longer deflate s).2 h
  have h2 : filterEntrySize ≤ COMPRESS_MARGIN + 1 := by decide
  omega

/-- **compress then decode returns the original bytes** — FULL statement (since fix 7763e3b): for EVERY stream
without a Filter, whatever else its dictionary holds (a `DecodeParms` with a PNG predictor included),
`get_plain_content (compress s)` is the original content; hypotheses: flate2 decodes what it encoded, zlib output is
never empty, dictionary keys are distinct (`IndexMap` invariant). -/
theorem compress_rt (ext : Ext) (deflate : Bytes → Bytes)
    (hfl : ∀ x, ext.inflate (deflate x) = x) (hne : ∀ x, deflate x ≠ [])
    (s : Strm) (hnd : s.dict.KeysNodup) (hnf : s.dict.has K_FILTER = false) :
    getPlainContent ext (compress deflate s) = .ok s.content := by
  have hget : s.dict.get K_FILTER = none := Option.not_isSome_iff_eq_none.mp (by rw [← Dict.has_eq, hnf]; simp)
  rcases compress_cases deflate s with h | ⟨_, _, h⟩ <;> rw [h]
  · exact getPlainContent_of_no_filter ext s hget
  · have hf : (setContent { s with dict := (s.dict.remove K_DECODEPARMS).set K_FILTER (.name F_FLATE) }
        (deflate s.content)).dict.get K_FILTER = some (.name F_FLATE) :=
      (Dict.get_set_ne _ _ _ _ (by decide)).trans (Dict.get_set_same _ _ _)
    have hp : stageParms (setContent { s with dict := (s.dict.remove K_DECODEPARMS).set K_FILTER (.name F_FLATE) }
        (deflate s.content)).dict 0 = none :=
      stageParms_none _ _ (((Dict.get_set_ne _ _ _ _ (by decide)).trans (Dict.get_set_ne _ _ _ _ (by decide))).trans
        (Dict.get_remove_same hnd _))
    rw [(decoded_of_filters ext _ _ (streamFilters_name _ _ hf)).2, filterLoop, hp]
    show (applyFilter ext none F_FLATE (deflate s.content)).bind _ = _
    rw [applyFilter_flate hfl hne]; rfl

/-- … and for every stream (Filter present: compress is the identity): the plain content is unchanged -/
theorem compress_preserves_plain (ext : Ext) (deflate : Bytes → Bytes)
    (hfl : ∀ x, ext.inflate (deflate x) = x) (hne : ∀ x, deflate x ≠ [])
    (s : Strm) (hnd : s.dict.KeysNodup) :
    getPlainContent ext (compress deflate s) = getPlainContent ext s := by
  rcases compress_cases deflate s with h | ⟨hg, _, _⟩
  · rw [h]
  · rw [compress_rt ext deflate hfl hne s hnd (by rw [Dict.has_eq, hg]; rfl), getPlainContent_of_no_filter ext s hg]

example : getPlainContent toyExt (compress (fun x => 0 :: x) ⟨[(K_LENGTH, .int 3)], [1, 2, 3]⟩) = .ok [1, 2, 3] :=
  compress_rt toyExt (fun x => 0 :: x) (fun _ => rfl) (fun _ => by simp) ⟨[(K_LENGTH, .int 3)], [1, 2, 3]⟩
    (by unfold Dict.KeysNodup; decide) (by decide)

def wDeflate (x : Bytes) : Bytes := if x = List.replicate 40 9 then [1] else 0 :: x
def wInflate (y : Bytes) : Bytes := if y = [1] then List.replicate 40 9 else y.tail
def wExt : Ext := { inflate := wInflate, lzw := fun _ x => x }
/-- the former F-C09-c witness: `<< /DecodeParms << /Predictor 12 /Columns 4 >> /Length 40 >>`, 40 bytes 0x09, no Filter -/
def wStale : Strm :=
  { dict := [(K_DECODEPARMS, .dict [(K_PREDICTOR, .int 12), (K_COLUMNS, .int 4)]), (K_LENGTH, .int 40)],
    content := List.replicate 40 9 }

theorem wInflate_wDeflate (x : Bytes) : wInflate (wDeflate x) = x := by
  unfold wDeflate
  split
  · rename_i h; simp [wInflate, h]
  · simp [wInflate]

theorem wDeflate_ne (x : Bytes) : wDeflate x ≠ [] := by
  unfold wDeflate; split <;> simp

/-- regression of the repaired F-C09-c: the former witness stream (`DecodeParms << /Predictor 12 /Columns 4 >>`, no
Filter, 40 bytes 0x09, codecs that really compress it) loses its DecodeParms and survives compress + decode. -/
theorem compress_stale_regression :
    (compress wDeflate wStale).dict.get K_DECODEPARMS = none ∧
    (compress wDeflate wStale).dict.get K_FILTER = some (.name F_FLATE) ∧
    getPlainContent wExt (compress wDeflate wStale) = .ok wStale.content :=
  ⟨by rfl, by rfl,
   compress_rt wExt wDeflate wInflate_wDeflate wDeflate_ne wStale (by unfold Dict.KeysNodup; decide) (by decide)⟩

/-- `IndexMap::swap_remove` as modelled really removes the key (used by `compress_rt`) -/
theorem dict_remove_removes (d : Dict) (k : Bytes) (hn : d.KeysNodup) : (d.remove k).get k = none :=
  Dict.get_remove_same hn k

/-- **Length = |content| after every content-changing operation** (set_content, set_plain_content, compress when it
changes the stream, decompress when it succeeds). -/
theorem length_inv (ext : Ext) (deflate : Bytes → Bytes) (s : Strm) (c : Bytes) :
    LengthOk (setContent s c) ∧ LengthOk (setPlainContent s c) ∧
    (compress deflate s = s ∨ LengthOk (compress deflate s)) ∧
    (∀ s', decompress ext s = .ok s' → LengthOk s') :=
  ⟨setContent_length s c, setPlainContent_length s c,
   (compress_cases deflate s).imp id fun ⟨_, _, h⟩ => h ▸ setContent_length _ _,
   fun s' h => (decompress_ok ext s s' h).2 ▸ setPlainContent_length s _⟩

end Lopdf
