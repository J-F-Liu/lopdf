import LopdfModel.Thm.C11Dangle
/-
  C11 — the invariant bundle `Sound`, the precondition of every editing call, and
  `sound_step` / `sound_run`.
-/
namespace Lopdf.Ed
open Lopdf Lopdf.DictL

/-- the ids the page-tree invariant talks about: catalog, `Pages` nodes, pages -/
def InTree (cat rid : ObjId) (ks : List PT) (x : ObjId) : Prop :=
  x = cat ∨ x ∈ nodeIds (.pages rid ks) ∨ x ∈ PT.leavesL ks

theorem inTree_isDict (d : Doc) (cat rid : ObjId) (ks : List PT) (h : PagesInv d cat rid ks) (x : ObjId)
    (hx : InTree cat rid ks x) : ∃ nd, d.objects.get x = some (.dict nd) := by
  rcases hx with rfl | hx | hx
  · obtain ⟨cd, hc, _⟩ := h.catObj; exact ⟨cd, hc⟩
  · exact (shape_dict d.objects _ none h.shape x (Or.inl hx)).imp fun _ h => h.1
  · exact (shape_dict d.objects _ none h.shape x (Or.inr (by simpa [PT.leaves] using hx))).imp fun _ h => h.1

mutual
theorem shape_reach (roots : List ObjId) (os : Objects) : ∀ (t : PT) (top : Option ObjId), Shape os top t →
    Reach roots (fun id => os.get id) t.id →
    ∀ x, (x ∈ nodeIds t ∨ x ∈ t.leaves) → Reach roots (fun id => os.get id) x
  | .page id, top, _, hr, x, hx => by
    simp [nodeIds, PT.leaves] at hx; subst hx; exact hr
  | .pages id ks, top, h, hr, x, hx => by
    simp only [Shape] at h
    obtain ⟨nd, h1, _, _, hk, hch⟩ := h
    have hkids : ∀ t ∈ ks, Reach roots (fun id => os.get id) t.id := by
      intro t ht
      apply Reach.step hr (o := .dict nd) h1
      simp only [refsOf]
      exact Ren.mem_refsOfD_of_get nd KIDS _ hk t.id (by simp only [refsOf]; exact mem_refs_idsL ks t ht)
    simp only [nodeIds, List.mem_cons, PT.leaves] at hx
    rcases hx with (rfl | hx) | hx
    · exact hr
    · exact shapeL_reach roots os ks (some id) hch hkids x (Or.inl hx)
    · exact shapeL_reach roots os ks (some id) hch hkids x (Or.inr hx)
theorem shapeL_reach (roots : List ObjId) (os : Objects) : ∀ (ks : List PT) (top : Option ObjId), ShapeL os top ks →
    (∀ t ∈ ks, Reach roots (fun id => os.get id) t.id) →
    ∀ x, (x ∈ nodeIdsL ks ∨ x ∈ PT.leavesL ks) → Reach roots (fun id => os.get id) x
  | [], _, _, _, x, hx => by simp [nodeIdsL, PT.leavesL] at hx
  | t :: ts, top, h, hr, x, hx => by
    simp only [ShapeL] at h
    simp only [nodeIdsL, PT.leavesL, List.mem_append] at hx
    have h1 := hr t List.mem_cons_self
    have h2 : ∀ t' ∈ ts, Reach roots (fun id => os.get id) t'.id := fun t' ht => hr t' (List.mem_cons_of_mem _ ht)
    rcases hx with (hx | hx) | (hx | hx)
    · exact shape_reach roots os t top h.1 h1 x (Or.inl hx)
    · exact shapeL_reach roots os ts top h.2 h2 x (Or.inl hx)
    · exact shape_reach roots os t top h.1 h1 x (Or.inr hx)
    · exact shapeL_reach roots os ts top h.2 h2 x (Or.inr hx)
end

/-- catalog, `Pages` nodes and pages of a well-formed document are reachable from the trailer -/
theorem inTree_reach (d : Doc) (cat rid : ObjId) (ks : List PT) (h : PagesInv d cat rid ks) (x : ObjId)
    (hx : InTree cat rid ks x) : Reach (refsOfD d.trailer) (fun id => d.objects.get id) x := by
  have hcat : Reach (refsOfD d.trailer) (fun id => d.objects.get id) cat :=
    Reach.root (Ren.mem_refsOfD_of_get d.trailer ROOT _ h.trRoot cat (by simp [refsOf]))
  obtain ⟨cd, hc1, _, hc3⟩ := h.catObj
  have hrid : Reach (refsOfD d.trailer) (fun id => d.objects.get id) rid :=
    Reach.step hcat (o := .dict cd) hc1 (by simp only [refsOf]; exact Ren.mem_refsOfD_of_get cd PAGES _ hc3 rid (by simp [refsOf]))
  rcases hx with rfl | hx | hx
  · exact hcat
  · exact shape_reach _ d.objects _ none h.shape hrid x (Or.inl hx)
  · exact shape_reach _ d.objects _ none h.shape hrid x (Or.inr (by simpa [PT.leaves] using hx))

theorem pagesInv_prune (d : Doc) (cat rid : ObjId) (ks : List PT) (h : PagesInv d cat rid ks) :
    PagesInv (pruneObjects d).1 cat rid ks := by
  obtain ⟨htr, hob⟩ := prune_exact d
  exact pagesInv_keep d _ cat rid ks h htr
    (fun x hx => keepAt_of_eq _ _ x ((hob x).1 (inTree_reach d cat rid ks h x hx)))

theorem noNew_prune (d : Doc) : NoNew d (pruneObjects d).1 := by
  obtain ⟨htr, hob⟩ := prune_exact d
  have hkeep : ∀ k o, (pruneObjects d).1.objects.get k = some o →
      Reach (refsOfD d.trailer) (fun id => d.objects.get id) k ∧ d.objects.get k = some o := by
    intro k o hk
    by_cases hr : Reach (refsOfD d.trailer) (fun id => d.objects.get id) k
    · exact ⟨hr, by rw [← (hob k).1 hr]; exact hk⟩
    · rw [(hob k).2 hr] at hk; cases hk
  intro r ⟨hh, hn⟩
  have hreach : Reach (refsOfD d.trailer) (fun id => d.objects.get id) r ∧ HasRef d r := by
    rcases hh with hh | ⟨k, o, hk, hr⟩
    · rw [htr] at hh; exact ⟨Reach.root hh, Or.inl hh⟩
    · obtain ⟨h1, h2⟩ := hkeep k o hk
      exact ⟨Reach.step h1 h2 hr, Or.inr ⟨k, o, h2, hr⟩⟩
  exact ⟨hreach.2, by rw [← (hob r).1 hreach.1]; exact hn⟩

/-- `delete_object(p)` for an object outside the page tree keeps the tree, bookkeeping included -/
theorem pagesInv_delete (d : Doc) (cat rid : ObjId) (ks : List PT) (h : PagesInv d cat rid ks) (p : ObjId)
    (hp : ¬ InTree cat rid ks p) : PagesInv (deleteObject d p).1 cat rid ks := by
  have hpn : p ∉ nodeIds (.pages rid ks) := fun hm => hp (Or.inr (Or.inl hm))
  have hpc : p ≠ cat := fun e => hp (Or.inl e)
  have hpl : p ∉ PT.leavesL ks := fun hm => hp (Or.inr (Or.inr hm))
  obtain ⟨a, b, c, s, t⟩ := inv_deleteObject d cat rid ks h p hpn hpc
  rw [removeLeafL_of_not_mem p ks hpl] at s
  exact { trN := a, trRoot := b, catObj := c, shape := s, counts := t, nodesN := h.nodesN, leavesN := h.leavesN,
          disj := h.disj, catOut := h.catOut, height := h.height }

theorem pagesInv_foldl_delete (cat rid : ObjId) (ks : List PT) (ids : List ObjId) (d : Doc)
    (h : PagesInv d cat rid ks) (ho : ∀ p ∈ ids, ¬ InTree cat rid ks p) :
    PagesInv (ids.foldl (fun d id => (deleteObject d id).1) d) cat rid ks :=
  List.foldlRecOn (motive := fun d => PagesInv d cat rid ks) ids _ h
    fun b h p hp => pagesInv_delete b cat rid ks h p (ho p hp)

/-- `delete_zero_length_streams` keeps the page tree (its nodes are dictionaries, not streams) -/
theorem pagesInv_delZero (d : Doc) (cat rid : ObjId) (ks : List PT) (h : PagesInv d cat rid ks) :
    PagesInv (deleteZeroLengthStreams d).1 cat rid ks := by
  unfold deleteZeroLengthStreams
  apply pagesInv_foldl_delete cat rid ks _ d h
  intro p hp hin
  obtain ⟨nd, hnd⟩ := inTree_isDict d cat rid ks h p hin
  have := (List.mem_filter.mp hp).2
  rw [hnd] at this; simp [isEmptyStream] at this

/-- `set_object(id, o)` / `objects.insert` outside the page tree -/
theorem pagesInv_insert (d : Doc) (cat rid : ObjId) (ks : List PT) (h : PagesInv d cat rid ks) (id : ObjId) (o : Obj)
    (m : Nat) (hp : ¬ InTree cat rid ks id) :
    PagesInv { d with maxId := m, objects := d.objects.insert id o } cat rid ks :=
  pagesInv_keep d _ cat rid ks h rfl (fun x hx => keepAt_of_eq _ _ x (by
    have : id ≠ x := fun e => hp (e ▸ hx)
    simp [Objects.get_insert, this]))

theorem noNew_insert (d : Doc) (id : ObjId) (o : Obj) (m : Nat)
    (hr : ∀ r ∈ refsOf o, (d.objects.get r).isSome ∨ r = id ∨ HasRef d r) :
    NoNew d { d with maxId := m, objects := d.objects.insert id o } := by
  intro r ⟨hh, hn⟩
  simp only [Objects.get_insert] at hn
  by_cases e : id = r
  · simp [e] at hn
  · simp only [e, if_false] at hn
    refine ⟨?_, hn⟩
    rcases hh with hh | ⟨k, o', hk, hro⟩
    · exact Or.inl hh
    · simp only [Objects.get_insert] at hk
      by_cases e2 : id = k
      · simp only [e2, if_true, Option.some.injEq] at hk; subst hk
        rcases hr r hro with h1 | h1 | h1
        · rw [hn] at h1; cases h1
        · exact absurd h1.symm e
        · exact h1
      · simp only [e2, if_false] at hk; exact Or.inr ⟨k, o', hk, hro⟩

/-- **what "sound" means for a document under edit**: `max_id` bounds every object number and the map is sorted
(so `max_id + 1` is fresh); every stream's `Length` is the length of its content; trailer → catalog → page tree
with exact `Kids`, `Parent` and `Count` everywhere (`page_iter` = the tree's leaves). The reference part of the
property is relational (`NoNew`), so that documents that already hold dangling references are covered. -/
structure Sound (d : Doc) (cat rid : ObjId) (ks : List PT) : Prop where
  wf : WF d
  len : LenInv d
  pages : PagesInv d cat rid ks

/-- the zero-length streams `delete_zero_length_streams` deletes, in its order -/
def zeroIds (d : Doc) : List ObjId := d.objects.keys.filter (fun k => isEmptyStream (d.objects.get k))

/-- **the precondition of each call.** `True` = none. -/
def opGuard (d : Doc) (cat rid : ObjId) (ks : List PT) : Op → Prop
  | .newId => True
  -- the object handed in: consistent `Length` if a stream; its references resolve (or name the object itself)
  | .add o => LenOK o ∧ ∀ r ∈ refsOf o, (d.objects.get r).isSome ∨ r = (d.maxId + 1, 0) ∨ HasRef d r
  -- likewise; and it does not overwrite the catalog, a `Pages` node or a page
  | .set id o => LenOK o ∧ (∀ r ∈ refsOf o, (d.objects.get r).isSome ∨ r = id ∨ HasRef d r) ∧ ¬ InTree cat rid ks id
  -- F-C11-a (narrowed): the holders of references to `id` are visited and are not bare references; and `id` is
  -- not part of the page tree (pages are deleted with `delete_pages`, which also repairs `Count`)
  | .del id => DelGuard d id ∧ ¬ InTree cat rid ks id
  | .prune => True
  | .delZero => delAllGuard d (zeroIds d)
  -- not a step of this bundle: `renumber_objects` renames ids; what it preserves is C10's `renumber_iso`
  | .renumber _ => False
  | .delPages ns => delPagesGuard (pageIter d.trailer d.objects) d ns
  | .addContent _ _ => True
  | .removeAnnot _ => True
  -- the resource name is not one of the five keys the page tree reads (matters only when the XObject dictionary
  -- is, through a reference, a page-tree node); the target resolves
  | .addXObject _ name xid => name ∉ Prot ∧ ((d.objects.get xid).isSome ∨ HasRef d xid)
  | .addGState _ _ gid => (d.objects.get gid).isSome ∨ HasRef d gid
  | .changeStream _ _ _ => True
  | .changePage _ _ _ => True
  | .compress _ => True
  | .decompress _ => True

def leavesAfter (ls : List ObjId) : Op → List ObjId
  | .delPages ns => ls.filter (fun x => !(namedPages ls ns).contains x)
  | _ => ls

theorem sound_of (d d' : Doc) (cat rid : ObjId) (ks ks' : List PT) (op : Op) (out : Out) (h : Sound d cat rid ks)
    (hlen : opLenGuard op) (hs : step d op = .ok (d', out)) (hp : PagesInv d' cat rid ks') : Sound d' cat rid ks' :=
  ⟨wf_step d op h.wf d' out hs, len_step d op h.len hlen d' out hs, hp⟩

/-- **C11, one call.** On a sound document, a call that meets its precondition and returns leaves a sound
document, introduces no dangling reference, and the page list is what it was — minus the named pages for
`delete_pages`. -/
theorem sound_step (d : Doc) (cat rid : ObjId) (ks : List PT) (op : Op) (h : Sound d cat rid ks)
    (hg : opGuard d cat rid ks op) (d' : Doc) (out : Out) (hs : step d op = .ok (d', out)) :
    ∃ ks', Sound d' cat rid ks' ∧ NoNew d d' ∧ PT.leavesL ks' = leavesAfter (PT.leavesL ks) op := by
  have hinv : Inv d := h.wf.inv
  -- the mild calls: same tree
  have mild : ∀ (Ex : ObjId → Prop), opLenGuard op → MildStep Ex d d' →
      (∀ r, Ex r → (d'.objects.get r).isSome ∨ HasRef d r) →
      ∃ ks', Sound d' cat rid ks' ∧ NoNew d d' ∧ PT.leavesL ks' = PT.leavesL ks := fun Ex hl m hex =>
    ⟨ks, sound_of d d' cat rid ks ks op out h hl hs (pagesInv_of_mild m cat rid ks h.pages), noNew_of_mild m hex, rfl⟩
  -- … that hold no new reference at all
  have mild0 : opLenGuard op → MildStep (fun _ => False) d d' →
      ∃ ks', Sound d' cat rid ks' ∧ NoNew d d' ∧ PT.leavesL ks' = PT.leavesL ks :=
    fun hl m => mild _ hl m (fun _ h => h.elim)
  -- the others: the tree `ks'` afterwards, and no new dangling reference
  have other : ∀ ks', opLenGuard op → PagesInv d' cat rid ks' → NoNew d d' →
      PT.leavesL ks' = leavesAfter (PT.leavesL ks) op →
      ∃ ks', Sound d' cat rid ks' ∧ NoNew d d' ∧ PT.leavesL ks' = leavesAfter (PT.leavesL ks) op :=
    fun ks' hl hp hn he => ⟨ks', sound_of d d' cat rid ks ks' op out h hl hs hp, hn, he⟩
  revert hs
  fun_cases step d op <;> intro hs
  -- cases in the order of `Op`; the ones that answer `ok`: 2 newId, 4 add, 5 set, 6 del, 7 prune, 8 delZero, 9 renumber,
  -- 12 delPages, 13 addContent, 14 removeAnnot, 15 addXObject, 16 addGState, 17 changeStream, 18 changePage, 19 compress, 20 decompress
  case case2 =>
    cases hs
    exact mild0 trivial (mildStep_of_same _ d _ rfl rfl)
  case case4 o _ =>
    cases hs
    have m := mildStep_addObject (fun r => (d.objects.get r).isSome ∨ r = (d.maxId + 1, 0) ∨ HasRef d r) d o
      (fresh_id d hinv) hg.2
    refine mild _ hg.1 m (fun r hr => ?_)
    rcases hr with hr | hr | hr
    · exact Or.inl (mildStep_isSome m r hr)
    · subst hr; left; rw [addObject_get]; simp
    · exact Or.inr hr
  case case5 id o =>
    cases hs
    exact other ks hg.1 (pagesInv_insert d cat rid ks h.pages id o _ hg.2.2) (noNew_insert d id o _ hg.2.1) rfl
  case case6 id _ =>
    cases hs
    exact other ks trivial (pagesInv_delete d cat rid ks h.pages id hg.2) (noNew_delete d id hg.1.1 hg.1.2) rfl
  case case7 => cases hs; exact other ks trivial (pagesInv_prune d cat rid ks h.pages) (noNew_prune d) rfl
  case case8 =>
    cases hs; exact other ks trivial (pagesInv_delZero d cat rid ks h.pages) (noNew_foldl_delete _ d hg) rfl
  -- `renumber`, whatever it answers: its precondition is `False` (not a step of this bundle)
  case case9 | case10 | case11 => exact hg.elim
  case case12 ns =>
    cases hs
    obtain ⟨ks', a1, a2, _, _⟩ := delete_pages_spec d cat rid ks h.pages ns
    exact other ks' trivial a1 (noNew_deletePages d ns hg) a2
  case case13 p c =>
    refine mild _ trivial (mildStep_addPageContents d p c d' out hinv hs) (fun r hr => ?_)
    exact hr.elim (fun hr => Or.inl hr.2) Or.inr
  case case14 id =>
    obtain rfl : _ = d' := congrArg Prod.fst (Outcome.ok.inj hs)
    exact mild0 trivial (mildStep_removeAnnot _ id _ d)
  case case15 p n x =>
    obtain rfl : _ = d' := congrArg Prod.fst (Outcome.ok.inj hs)
    have m := mildStep_addXObject d p n x hg.1
    refine mild _ trivial m (fun r hr => ?_)
    rcases hr with rfl | hr
    · exact hg.2.imp (mildStep_isSome m r) id
    · exact Or.inr hr
  case case16 p n x =>
    obtain rfl : _ = d' := congrArg Prod.fst (Outcome.ok.inj hs)
    have m := mildStep_addGState d p n x
    refine mild _ trivial m (fun r hr => ?_)
    rcases hr with rfl | hr
    · exact hg.imp (mildStep_isSome m r) id
    · exact Or.inr hr
  case case17 sid c f =>
    cases hs
    exact mild0 trivial (mildStep_changeContentStream _ _ d sid c)
  case case18 p c f =>
    exact mild _ trivial (mildStep_changePageContent _ d p c d' out hinv hs) (fun r hr => Or.inl hr.2)
  case case19 f =>
    cases hs
    exact mild0 trivial (mildStep_compress _ f _ d)
  case case20 e =>
    cases hs
    exact mild0 trivial (mildStep_decompress _ e d)
  all_goals cases hs

def opGuardA (cat rid : ObjId) (d : Doc) (op : Op) : Prop := ∀ ks, PagesInv d cat rid ks → opGuard d cat rid ks op

/-- every call of the program meets its precondition at the time it is made -/
def runGuard (cat rid : ObjId) : Doc → List Op → Prop
  | _, [] => True
  | d, op :: rest => opGuardA cat rid d op ∧ ∀ d' out, step d op = .ok (d', out) → runGuard cat rid d' rest

/-- **C11, arbitrary programs.** A program whose calls meet their preconditions takes a sound document to a
sound document and introduces no dangling reference. -/
theorem sound_run (cat rid : ObjId) : ∀ (ops : List Op) (d : Doc) (ks : List PT), Sound d cat rid ks →
    runGuard cat rid d ops → ∀ d', runOps d ops = .ok d' → ∃ ks', Sound d' cat rid ks' ∧ NoNew d d' :=
  fun ops d ks h hg d' hr => by
    -- carried along the program: some tree for which the state is sound, nothing new dangles, the rest is guarded
    have run := runOps_induction
      (M := fun ops d1 => (∃ ks1, Sound d1 cat rid ks1) ∧ NoNew d d1 ∧ runGuard cat rid d1 ops)
      (fun op _ d1 d2 out ⟨⟨ks1, s1⟩, n1, g1⟩ hs => by
        obtain ⟨ks2, s2, n2, _⟩ := sound_step d1 cat rid ks1 op s1 (g1.1 ks1 s1.pages) d2 out hs
        exact ⟨⟨ks2, s2⟩, noNew_trans n1 n2, g1.2 d2 out hs⟩)
      ops d d' ⟨⟨ks, h⟩, noNew_refl d, hg⟩ hr
    exact run.1.imp fun _ s => ⟨s, run.2.1⟩

/-- what a sound document gives: the next id is fresh, `page_iter` is the tree's leaves, every stream's `Length`
is right -/
theorem sound_facts (d : Doc) (cat rid : ObjId) (ks : List PT) (h : Sound d cat rid ks) :
    d.objects.get (d.maxId + 1, 0) = none ∧ pageIter d.trailer d.objects = PT.leavesL ks ∧
    TreeOK d.objects none (.pages rid ks) ∧ LenInv d :=
  ⟨fresh_id d h.wf.inv, pageIter_of_inv d cat rid ks h.pages, h.pages.counts, h.len⟩

/-- if the document started closed, every reference still resolves after a guarded run -/
theorem sound_run_closed (cat rid : ObjId) (ops : List Op) (d : Doc) (ks : List PT) (h : Sound d cat rid ks)
    (hc : Closed d) (hg : runGuard cat rid d ops) (d' : Doc) (hr : runOps d ops = .ok d') : Closed d' := by
  obtain ⟨_, _, n⟩ := sound_run cat rid ops d ks h hg d' hr
  exact closed_of_noNew n hc

/-! ### a sufficient condition for the deletion precondition, on the document as it is before the call -/

theorem not_isRefTo_of_ref_ne (p r : ObjId) (o : Obj) (hr : r ∈ refsOf o) (hne : r ≠ p) : isRefTo p o = false := by
  cases h : isRefTo p o with
  | false => rfl
  | true =>
    obtain rfl := (isRefTo_iff p o).mp h
    simp [refsOf] at hr; exact absurd hr hne

theorem refs_deep_del_conv_obj (p : ObjId) : ∀ o, DeepND o → ∀ r ∈ refsOf o, r ≠ p →
    r ∈ refsOf (deepObj (delAct p) o) := by
  refine deepObj_ind (delAct p) fun o ih hd r hr hne => ?_
  rw [deepObj_mapKids, mem_refsOf_iff, Obj.kids_mapKids]
  rcases (mem_refsOf_iff r o).mp hr with rfl | ⟨x, hx, hrx⟩
  · exact Or.inl rfl
  · have hx' : x ∈ (delFn p o).kids := (mem_kids_delFn p hd x).mpr ⟨hx, not_isRefTo_of_ref_ne p r x hrx hne⟩
    exact Or.inr ⟨_, List.mem_map_of_mem hx', ih x hx' (deepND_kids hd x hx) r hrx hne⟩

theorem refs_deep_del_conv (p : ObjId) :
    (∀ o, DeepND o → ∀ r ∈ refsOf o, r ≠ p → r ∈ refsOf (deepObj (delAct p) o)) ∧
    (∀ es, DeepNDD es → ∀ e ∈ es, ∀ r ∈ refsOf e.2, r ≠ p → r ∈ refsOf (deepObj (delAct p) e.2)) ∧
    (∀ xs, DeepNDL xs → ∀ x ∈ xs, ∀ r ∈ refsOf x, r ≠ p → r ∈ refsOf (deepObj (delAct p) x)) :=
  ⟨refs_deep_del_conv_obj p, fun es hd e he => refs_deep_del_conv_obj p e.2 ((deepNDD_iff es).mp hd e he),
    fun xs hd x hx => refs_deep_del_conv_obj p x ((deepNDL_iff xs).mp hd x hx)⟩

/-- reachable from the trailer along references none of which is a reference to `p` (so never through `p`) -/
inductive ReachAvoid (p : ObjId) (d : Doc) : ObjId → Prop
  | root {r} : r ∈ refsOfD d.trailer → r ≠ p → ReachAvoid p d r
  | step {id o r} : ReachAvoid p d id → d.objects.get id = some o → r ∈ refsOf o → r ≠ p → ReachAvoid p d r

/-- what is reachable without passing `p` is visited by `delete_object(p)`'s traversal -/
theorem reachAvoid_visited (d : Doc) (p : ObjId) (hk : DistinctKeys d) (k : ObjId) (h : ReachAvoid p d k) :
    k ∈ delRefs d p := by
  have hcl := traverse_closed (delAct p) (stripDict p d.trailer) d.objects
  induction h with
  | root hr hne =>
    apply hcl.1
    have e : (traverse (delAct p) (stripDict p d.trailer) d.objects).1 = delDict p d.trailer :=
      (traverse_visits_once (delAct p) (stripDict p d.trailer) d.objects).1
    rw [e]
    have := (refs_deep_del_conv p).1 (.dict d.trailer) ⟨hk.1, hk.2.1⟩ _ (by simpa [refsOf] using hr) hne
    rw [deep_del_dict] at this; simpa [refsOf] using this
  | @step id o r _ hg hr hne ih =>
    apply hcl.2 id ih (deepObj (delAct p) o)
    · have := delMid_get d p id
      simp only [ih, if_true, hg, Option.map_some] at this
      exact this
    · exact (refs_deep_del_conv p).1 o (hk.2.2 id o hg) r hr hne

/-- **the deletion precondition, stated on the document before the call**: every object that holds a reference
to `p` is reachable from the trailer without passing `p`, and is not a bare reference to `p` -/
theorem delClean_of_reach (d : Doc) (p : ObjId) (hk : DistinctKeys d)
    (h : ∀ k o, d.objects.get k = some o → k ≠ p → p ∈ refsOf o → ReachAvoid p d k ∧ o ≠ .ref p.1 p.2) :
    DelClean d p := fun k o hg hkp hr => ⟨reachAvoid_visited d p hk k (h k o hg hkp hr).1, (h k o hg hkp hr).2⟩

theorem wsound_objs {P : ObjId → Obj → Prop} (h1 : P (1,0) (.dict [(PAGES, .ref 3 0)]))
    (h2 : P (2,0) (.dict [(TYPE, .name PAGE), (PARENT, .ref 3 0)]))
    (h3 : P (3,0) (.dict [(TYPE, .name PAGES), (KIDS, .arr [.ref 2 0, .ref 4 0]), (COUNT, .int 2)]))
    (h4 : P (4,0) (.dict [(TYPE, .name PAGE), (PARENT, .ref 3 0)])) :
    ∀ k o, wsound.objects.get k = some o → P k o := by
  intro k o h
  have := Objects.get_mem h
  simp only [wsound, List.mem_cons, List.mem_nil_iff, or_false] at this
  rcases this with e | e | e | e <;> cases e <;> assumption

theorem wsound_sound : Sound wsound (1,0) (3,0) [.page (2,0), .page (4,0)] := by
  refine ⟨⟨fun k hk => ?_, by unfold Objects.Sorted; decide⟩,
    wsound_objs (P := fun _ o => LenOK o) trivial trivial trivial trivial, wsound_pages⟩
  cases hg : wsound.objects.get k with
  | none => rw [hg] at hk; cases hk
  | some o => exact wsound_objs (P := fun k _ => k.1 ≤ 5) (by decide) (by decide) (by decide) (by decide) k o hg

theorem wsound_distinct : DistinctKeys wsound := by
  have nd : ∀ d : Dict, (d.map (·.1)).Nodup → NoDup d := fun _ h => h
  exact ⟨nd _ (by decide), ⟨trivial, trivial⟩, wsound_objs (P := fun _ o => DeepND o)
    ⟨nd _ (by decide), trivial, trivial⟩ ⟨nd _ (by decide), trivial, trivial, trivial⟩
    ⟨nd _ (by decide), trivial, ⟨trivial, trivial, trivial⟩, trivial, trivial⟩ ⟨nd _ (by decide), trivial, trivial, trivial⟩⟩

/-- deleting page 1 (object 2): its only holder is the `Kids` array of node 3, reached through the catalog -/
theorem wsound_delClean : DelClean wsound (2,0) := by
  refine delClean_of_reach wsound (2,0) wsound_distinct (wsound_objs ?_ ?_ ?_ ?_)
  · intro _ hr; simp [refsOf, refsOfD] at hr
  · intro hk; exact absurd rfl hk
  · intro _ _
    refine ⟨?_, by simp⟩
    have h1 : ReachAvoid (2,0) wsound (1,0) := ReachAvoid.root (by simp [wsound, refsOfD, refsOf]) (by decide)
    exact ReachAvoid.step h1 (o := .dict [(PAGES, .ref 3 0)]) rfl (by simp [refsOf, refsOfD]) (by decide)
  · intro _ hr; simp [refsOf, refsOfD] at hr

/-- the program `delete_pages([1]); prune_objects()` meets its preconditions on `wsound` -/
theorem wsound_guard : runGuard (1,0) (3,0) wsound [.delPages [1], .prune] := by
  refine ⟨?_, ?_⟩
  · intro ks _
    simp only [opGuard]
    rw [pageIter_of_inv wsound (1,0) (3,0) _ wsound_sound.pages]
    refine ⟨?_, trivial⟩
    intro p hp
    simp [pickPage, PT.leavesL, PT.leaves] at hp
    subst hp
    exact ⟨wsound_distinct, wsound_delClean⟩
  · intro d' out _
    exact ⟨fun _ _ => trivial, fun _ _ _ => trivial⟩

/-- so `sound_run` applies to deleting page 2 and pruning: the result is sound for some forest, and nothing dangles that did not -/
example : ∃ d', runOps wsound [.delPages [1], .prune] = .ok d' ∧ ∃ ks', Sound d' (1,0) (3,0) ks' ∧ NoNew wsound d' := by
  have hr : ∃ d', runOps wsound [.delPages [1], .prune] = .ok d' := by
    exact ⟨_, rfl⟩
  obtain ⟨d', hd⟩ := hr
  exact ⟨d', hd, sound_run (1,0) (3,0) _ wsound _ wsound_sound wsound_guard d' hd⟩

end Lopdf.Ed
