import LopdfModel.Thm.ParseDistinct
import LopdfModel.Thm.C08
import LopdfModel.Thm.C04
/-
  A document `Reader::read` returns is distinct-keyed, trailer and every object: the loading pass
  collects distinct-keyed objects and object-stream members only (`pIndirect_nd`, `objStmObjects_nd`),
  the merge of the blocks, the completion of the deferred streams and the final sort keep them so,
  and the trailer comes out of `pTrailer` or of a cross-reference stream dictionary with three keys
  removed. Proved for the generic reader and every structural-stream decoder that answers
  distinct-keyed dictionaries and members (`KeepsND`); the plain decoders do.
  (`Thm.C04` is imported for the functional-induction principles of the reader functions, generated there once.)
-/
namespace Lopdf.Ed
open Lopdf Lopdf.DictL

def LObjsND (os : LObjects) : Prop := ∀ p ∈ os, LObjND p.2
def BlocksND (bs : List Block) : Prop := ∀ b ∈ bs, ∀ p ∈ b.2, DeepND p.2

theorem mem_lobjects_insert (os : LObjects) (id : ObjId) (o : LObj) (p : ObjId × LObj) (h : p ∈ LObjects.insert os id o) :
    p = (id, o) ∨ p ∈ os := by
  fun_induction LObjects.insert os id o with
  | case1 => exact Or.inl (List.mem_singleton.mp h)
  | case2 => exact (List.mem_cons.mp h).imp_right (List.mem_cons_of_mem _)
  | case3 i o' rest _ ih =>
    rcases List.mem_cons.mp h with h | h
    · exact Or.inr (h ▸ List.mem_cons_self)
    · exact (ih h).imp_right (List.mem_cons_of_mem _)

theorem lobjsND_insert {os : LObjects} (h : LObjsND os) (id : ObjId) (o : LObj) (ho : LObjND o) : LObjsND (LObjects.insert os id o) := by
  intro p hp
  rcases mem_lobjects_insert os id o p hp with e | e
  · subst e; exact ho
  · exact h p e

theorem blocksND_snoc {bs : List Block} (h : BlocksND bs) (k : Nat) (objs : List (ObjId × Obj)) (ho : ∀ p ∈ objs, DeepND p.2) :
    BlocksND (bs ++ [(k, objs)]) := by
  intro b hb
  rcases List.mem_append.mp hb with hb | hb
  · exact h b hb
  · simp at hb; subst hb; exact ho

/-- a structural-stream decoder that makes distinct-keyed dictionaries and members of a stream with
a distinct-keyed dictionary -/
def KeepsND (sd : StructDec) : Prop :=
  (∀ d c x n tr, DictND d → sd.xref d c = .ok (x, n, tr) → DictND tr) ∧
  (∀ d c d' c' l, DictND d → sd.objstm d c = .ok (d', c', l) → DictND d' ∧ ∀ p ∈ l, DeepND p.2) ∧
  (∀ d d' c', DictND d → sd.deferred d = .ok (some (d', c')) → DictND d')

section
variable {sd : StructDec} (hsd : KeepsND sd)
include hsd

theorem loadStepG_nd (buf : Bytes) (x : XTable) (n : Nat) (e : Nat × XEntry) (acc : Outcome (LObjects × List Block))
    (p q : LObjects × List Block) (hp : LObjsND p.1 ∧ BlocksND p.2) (hacc : acc = .ok p)
    (h : loadStepG sd buf x n acc e = .ok q) : LObjsND q.1 ∧ BlocksND q.2 := by
  revert hacc h
  fun_cases loadStepG sd buf x n acc e <;> intro hacc h <;> cases hacc <;> cases h
  -- an object-stream container: the decoder's dictionary and members
  case case3 ho hi =>
    obtain ⟨hd, hl⟩ := hsd.2.1 _ _ _ _ _ ((lobjND_stream _ _).mp (pIndirect_nd _ _ _ _ _ _ hi)) ho
    exact ⟨lobjsND_insert hp.1 _ _ ((lobjND_stream _ _).mpr hd), blocksND_snoc hp.2 _ _ hl⟩
  -- a deferred stream completed: the decoder's dictionary, no members
  case case9 ho hi =>
    have hd := hsd.2.2 _ _ _ (pIndirect_nd _ _ _ _ _ _ hi) ho
    exact ⟨lobjsND_insert hp.1 _ _ ((lobjND_stream _ _).mpr hd), blocksND_snoc hp.2 _ _ nofun⟩
  -- any other object is stored as `pIndirect` returned it
  case case7 hi | case8 _ hi | case13 hi | case14 hi _ _ =>
    exact ⟨lobjsND_insert hp.1 _ _ (pIndirect_nd _ _ _ _ _ _ hi), hp.2⟩
  all_goals exact hp

theorem loadPassG_nd (buf : Bytes) (x : XTable) (n : Nat) (l : List (Nat × XEntry)) (p q : LObjects × List Block)
    (hp : LObjsND p.1 ∧ BlocksND p.2) (h : l.foldl (loadStepG sd buf x n) (.ok p) = .ok q) :
    LObjsND q.1 ∧ BlocksND q.2 :=
  Outcome.foldl_ok_induction (loadStepG_strict sd buf x n) (fun _ p => LObjsND p.1 ∧ BlocksND p.2)
    (fun _ a e a' ha he => loadStepG_nd hsd buf x n e _ a a' ha rfl he) l (pre := []) hp h

theorem xrefStreamAltG_nd (inp : Bytes) (x : XTable) (n : Nat) (tr : Dict)
    (h : xrefStreamAltG sd inp = .ok (x, n, tr)) : DictND tr := by
  revert h
  fun_cases xrefStreamAltG sd inp <;> intro h
  case case1 hi => exact hsd.1 _ _ _ _ _ ((lobjND_stream _ _).mp (pIndirect_nd _ _ _ _ _ _ hi)) h
  case case2 hi => exact hsd.1 _ _ _ _ _ (pIndirect_nd _ _ _ _ _ _ hi) h
  case case3 => cases h

theorem xrefAndTrailerG_nd (inp : Bytes) (x : XTable) (n : Nat) (tr : Dict)
    (h : xrefAndTrailerG sd inp = .ok (x, n, tr)) : DictND tr := by
  revert h
  fun_cases xrefAndTrailerG sd inp <;> intro h
  case case3 => cases h; exact pTrailer_nd _ _ _ ‹_›
  case case5 | case6 => exact xrefStreamAltG_nd hsd _ _ _ _ h
  all_goals cases h

end

/-- the `Prev` loop only removes `XRefStm` from the newest trailer -/
theorem prevLoopG_nd (sd : StructDec) (buf : Bytes) (fuel : Nat) (p : Option Obj) (seen : List Int) (x : XTable) (tr : Dict)
    (q : XTable × Dict) (ht : DictND tr) (h : prevLoopG sd buf fuel p seen x tr = .ok q) : DictND q.2 := by
  revert ht h
  fun_induction prevLoopG sd buf fuel p seen x tr <;> intro ht h
  -- the recursive call: it continues with the trailer less `XRefStm`; every other `ok` returns the trailer as it is
  case case7 ih => exact ih (dictND_remove ht _) h
  all_goals cases h
  all_goals exact ht

theorem decodeXrefStream_nd (d : Dict) (c : Bytes) (x : XTable) (n : Nat) (tr : Dict) (hd : DictND d)
    (h : decodeXrefStream d c = .ok (x, n, tr)) : DictND tr := by
  revert h
  fun_cases decodeXrefStream d c <;> intro h
  -- the one branch that answers `ok`: the trailer is `d` less `Length`, `W`, `Index`
  case case5 =>
    simp only [Outcome.ok.injEq, Prod.mk.injEq] at h
    rw [← h.2.2]
    exact dictND_remove (dictND_remove (dictND_remove hd _) _) _
  all_goals cases h

theorem plainDec_keepsND : KeepsND plainDec := by
  refine ⟨fun d c x n tr hd h => decodeXrefStream_nd d c x n tr hd h, fun d c d' c' l hd h => ?_,
    fun d d' c' hd h => ?_⟩ <;> simp only [plainDec] at h
  · cases ho : objStmObjects d c <;> rw [ho] at h <;> cases h
    exact ⟨hd, objStmObjects_nd d c l ho⟩
  · split at h <;> cases h
    exact hd

theorem lobjects_get_mem (os : LObjects) (id : ObjId) (o : LObj) (h : os.get id = some o) : (id, o) ∈ os := by
  fun_induction LObjects.get os id with
  | case1 => cases h
  | case2 => cases h; exact List.mem_cons_self
  | case3 i o' rest _ ih => exact List.mem_cons_of_mem _ (ih h)

theorem mergeBlocks_nd (blocks : List Block) (os : LObjects) (h1 : LObjsND os) (h2 : BlocksND blocks) :
    LObjsND (mergeBlocks os blocks) := by
  unfold mergeBlocks
  refine List.foldlRecOn _ _ (motive := LObjsND) h1 fun acc ha m hm => ?_
  obtain ⟨l, hl, hml⟩ := List.mem_flatten.mp hm
  obtain ⟨b, hb, rfl⟩ := List.mem_map.mp hl
  split
  · exact ha
  · intro p hp
    rcases List.mem_append.mp hp with hp | hp
    · exact ha p hp
    · rw [List.mem_singleton.mp hp]; exact h2 b hb m hml

theorem mergeBlocksX_nd (x : XTable) (os : LObjects) (arrived : List Block) (h1 : LObjsND os) (h2 : BlocksND arrived) :
    LObjsND (mergeBlocksX x os arrived) := by
  unfold mergeBlocksX
  apply mergeBlocks_nd _ _ h1
  intro b hb p hp
  obtain ⟨b0, hb0, rfl⟩ := List.mem_map.mp hb
  have hb0' : b0 ∈ arrived := (sortBlocks_perm arrived).mem_iff.mp hb0
  simp only [filterBlock] at hp
  exact h2 b0 hb0' p (List.mem_filter.mp hp).1

theorem completeOne_nd (buf : Bytes) (os : LObjects) (id : ObjId) (h : LObjsND os) : LObjsND (completeOne buf os id) := by
  unfold completeOne
  split
  · rename_i v hv
    obtain ⟨d, start, c, hg, rfl⟩ := completed_shape buf os id v hv
    have hd : DictND d := h _ (lobjects_get_mem os id _ hg)
    exact lobjsND_insert h _ _ ((lobjND_stream _ _).mpr (dictND_set hd _ _ (by simp [DeepND])))
  · exact h

/-- merging the blocks and completing the deferred streams keeps the objects distinct-keyed, whatever order the
blocks arrive in (`arr`) and the streams are completed in (`arr2`), as long as `arr` hands on recorded blocks only -/
theorem mergeAndComplete_nd (arr : List Block → List Block) (arr2 : List ObjId → List ObjId)
    (harr : ∀ bs, ∀ b ∈ arr bs, b ∈ bs) (buf : Bytes) (x : XTable) (os : LObjects) (fs : List Block)
    (h1 : LObjsND os) (h2 : BlocksND fs) : LObjsND (mergeAndComplete arr arr2 buf x os fs) :=
  List.foldlRecOn _ _ (motive := LObjsND) (mergeBlocksX_nd x os _ h1 fun b hb => h2 b (harr fs b hb))
    fun acc ha id _ => completeOne_nd buf acc id ha

theorem finalObjects_nd (os2 : LObjects) (h : LObjsND os2) : ObjsND (finalObjects os2) := by
  intro k o hg
  refine List.foldrRecOn _ _ (motive := fun acc : Objects => ∀ p ∈ acc, DeepND p.2) (by simp)
    (fun acc ha q hq p hp => ?_) (k, o) (Objects.get_mem hg)
  rcases (mem_insertSortedO _ _ _ p).mp hp with rfl | hp
  · -- a deferred stream that was never completed is returned with empty content
    obtain ⟨r, hr, rfl⟩ := List.mem_map.mp hq
    have hr' := h r hr
    cases hro : r.2 with
    | plain o' => rw [hro] at hr'; exact hr'
    | pending d st => rw [hro] at hr'; exact (deepND_stream d []).mpr hr'
  · exact ha p hp

/-- **a document the generic reader returns is distinct-keyed**, when the structural-stream decoder
keeps dictionaries so: the trailer for every schedule, the objects for every schedule that only
rearranges the recorded blocks -/
theorem loadDocWithG_distinct {sd : StructDec} (hsd : KeepsND sd) (arr : List Block → List Block)
    (arr2 : List ObjId → List ObjId) (file : Bytes) (L : Loaded) (h : loadDocWithG sd arr arr2 file = .ok L) :
    DictND L.trailer ∧ ((∀ bs, ∀ b ∈ arr bs, b ∈ bs) → ObjsND L.objects) := by
  obtain ⟨buf, xs, s, t, r, hs, ht, hr, htr, hobj⟩ := loadDocWithG_eq_ok h
  rw [htr, hobj]
  refine ⟨prevLoopG_nd sd _ _ _ _ _ _ _ (dictND_remove (xrefAndTrailerG_nd hsd _ _ _ _ hs) _) ht,
    fun harr => finalObjects_nd _ ?_⟩
  obtain ⟨h1, h2⟩ := loadPassG_nd hsd buf _ _ _ ([], []) r ⟨nofun, nofun⟩ hr
  exact mergeAndComplete_nd arr arr2 harr buf _ _ _ h1 h2

theorem loadPass_nd (buf : Bytes) (x : XTable) (n : Nat) : ∀ (l : List (Nat × XEntry)) (os : LObjects) (fs : List Block)
    (os' : LObjects) (fs' : List Block), LObjsND os → BlocksND fs →
    l.foldl (loadStep buf x n) (.ok (os, fs)) = .ok (os', fs') → LObjsND os' ∧ BlocksND fs' :=
  fun l os fs os' fs' h1 h2 h =>
    loadPassG_nd plainDec_keepsND buf x n l (os, fs) (os', fs') ⟨h1, h2⟩ (loadStepG_plain_fun buf x n ▸ h)

/-- **…hence every object of a document `Reader::read` returns is distinct-keyed**, for every file and every schedule that only
rearranges the recorded blocks (the identity and the permutations of hook H1 do) -/
theorem loadDocWith_objects_nd (arr : List Block → List Block) (arr2 : List ObjId → List ObjId) (harr : ∀ bs, ∀ b ∈ arr bs, b ∈ bs)
    (file : Bytes) (L : Loaded) (h : loadDocWith arr arr2 file = .ok L) : ObjsND L.objects :=
  (loadDocWithG_distinct plainDec_keepsND arr arr2 file L (loadDocWithG_plain arr arr2 file ▸ h)).2 harr

/-- the same for the sequential reader: `loadDoc` takes blocks and pending streams in recording order -/
theorem loadDoc_objects_nd (file : Bytes) (L : Loaded) (h : loadDoc file = .ok L) : ObjsND L.objects := by
  unfold loadDoc loadDocOrd loadDocOrd2 at h
  exact loadDocWith_objects_nd _ _ (by intro bs b hb; simpa using hb) file L h

/-- **the trailer of a document `Reader::read` returns is distinct-keyed**, classic trailer or cross-reference stream dictionary,
any `Prev` chain -/
theorem loadDocWith_trailer_nd (arr : List Block → List Block) (arr2 : List ObjId → List ObjId)
    (file : Bytes) (L : Loaded) (h : loadDocWith arr arr2 file = .ok L) : DictND L.trailer :=
  (loadDocWithG_distinct plainDec_keepsND arr arr2 file L (loadDocWithG_plain arr arr2 file ▸ h)).1

/-- **a loaded document is distinct-keyed** — trailer and every object: the `DistinctKeys` hypothesis of the `delete_object`
theorems holds for every document the reader returns (and, by `distinct_run`, for everything the editing calls make of it) -/
theorem loaded_distinct (arr : List Block → List Block) (arr2 : List ObjId → List ObjId) (harr : ∀ bs, ∀ b ∈ arr bs, b ∈ bs)
    (file : Bytes) (L : Loaded) (h : loadDocWith arr arr2 file = .ok L) : DictND L.trailer ∧ ObjsND L.objects :=
  ⟨loadDocWith_trailer_nd arr arr2 file L h, loadDocWith_objects_nd arr arr2 harr file L h⟩

end Lopdf.Ed
