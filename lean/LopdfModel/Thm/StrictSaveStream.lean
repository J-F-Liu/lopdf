import LopdfModel.Lemmas.StrictBasic
import LopdfModel.Thm.FileRevs
/-
  C03 — the cross-reference STREAM under the strict reader (R2, R3): the object at `startxref` is
  read back as an unfiltered `/Type /XRef` stream, its rows (W = [1 4 2], the writer's Index) decode
  to exactly the recorded entries, and it lists itself at its own offset.
-/
namespace Lopdf.Strict
open Lopdf Gen Lopdf.FileRT Lopdf.ObjRt

theorem beBytesW_horner (w n : Nat) :
    (beBytesW w n).foldl (fun acc (b : UInt8) => acc * 256 + b.toNat) 0 = n % 256 ^ w := by
  induction w generalizing n with
  | zero => simp [beBytesW, Nat.mod_one]
  | succ w ih =>
    have hb : (n % 256).toUInt8.toNat = n % 256 := by
      simp only [Nat.toUInt8, UInt8.toNat_ofNat', Nat.reducePow, Nat.mod_mod]
    rw [beBytesW, List.foldl_append, ih, List.foldl_cons, List.foldl_nil, hb, Nat.pow_succ, Nat.mul_comm (256 ^ w),
      Nat.mod_mul, Nat.add_comm, Nat.mul_comm]

theorem field_beBytesW (w d n : Nat) (r : Bytes) (hw : w ≠ 0) (hn : n < 256 ^ w) :
    field w d (beBytesW w n ++ r) = (n, r) := by
  have hl := beBytesW_length w n
  simp only [field, hw, if_false, List.take_left' hl, List.drop_left' hl, beBytesW_horner, Nat.mod_eq_of_lt hn]

/-- pair assignments as strict entries -/
def entsOf (L : List (Nat × (Nat × Nat))) : List Entry := L.map fun p => (p.1, p.2.1, p.2.2)

theorem streamRows_used {c num off g : Nat} {r : Bytes} {acc : List Entry} (ho : off < 4294967296) (hg : g < 65536)
    (hn : hasNum acc num = false) :
    streamRows 1 4 2 (c + 1) num (1 :: (beBytesW 4 off ++ (beBytesW 2 g ++ r))) acc
      = streamRows 1 4 2 c (num + 1) r (acc ++ [(num, off, g)]) := by
  have f1 : field 1 1 (1 :: (beBytesW 4 off ++ (beBytesW 2 g ++ r))) = (1, beBytesW 4 off ++ (beBytesW 2 g ++ r)) := rfl
  simp only [streamRows, f1, field_beBytesW 4 0 off _ (by omega) ho, field_beBytesW 2 0 g _ (by omega) hg,
    if_true, Nat.not_lt.mpr (Nat.le_of_lt_succ hg), if_false, hn, Bool.false_eq_true]

theorem streamRows_rows : ∀ (es : List (Nat × Nat)) (s : Nat) (rest : Bytes) (acc : List Entry)
    (Ltail : List (Nat × (Nat × Nat))),
    (∀ p ∈ es, PairOk p) → Fresh acc (assignsFrom s es ++ Ltail) →
    streamRows 1 4 2 es.length s (rowBytes es ++ rest) acc = .ok (acc ++ entsOf (assignsFrom s es), rest) ∧
      Fresh (acc ++ entsOf (assignsFrom s es)) Ltail := by
  intro es
  induction es with
  | nil => intro s rest acc Ltail _ hf; simpa [streamRows, rowBytes, assignsFrom, entsOf] using hf
  | cons e es ih =>
    intro s rest acc Ltail hok hf
    obtain ⟨off, g⟩ := e
    obtain ⟨h1, h2⟩ := hok (off, g) (by simp)
    have e0 : rowBytes ((off, g) :: es) ++ rest = 1 :: (beBytesW 4 off ++ (beBytesW 2 g ++ (rowBytes es ++ rest))) := by
      simp [rowBytes]
    rw [e0, List.length_cons, streamRows_used h1 h2 hf.head]
    simpa [assignsFrom, entsOf] using
      ih (s + 1) rest (acc ++ [(s, off, g)]) Ltail (fun q hq => hok q (by simp [hq])) (hf.push off g)

theorem indexInts_cons (s : Nat) (es : List (Nat × Nat)) (rest : List (Nat × List (Nat × Nat))) :
    indexInts ((s, es) :: rest) = (s : Int) :: (es.length : Int) :: indexInts rest := rfl

theorem streamSections_secs : ∀ (secs : List (Nat × List (Nat × Nat))) (acc : List Entry),
    (∀ sec ∈ secs, SSecOk sec) → Fresh acc (assigns secs) →
    streamSections 1 4 2 (indexInts secs) ((secs.map fun s => rowBytes s.2).flatten) acc
      = .ok (acc ++ entsOf (assigns secs)) := by
  intro secs
  induction secs with
  | nil => intro acc _ _; simp [indexInts, streamSections, assigns, entsOf]
  | cons sec more ih =>
    intro acc hok hf
    obtain ⟨s, es⟩ := sec
    rw [assigns_cons] at hf
    obtain ⟨t1, t2⟩ := streamRows_rows es s ((more.map fun s => rowBytes s.2).flatten) acc (assigns more)
      (hok (s, es) (by simp)).2 hf
    rw [indexInts_cons, List.map_cons, List.flatten_cons, streamSections, Int.toNat_natCast, Int.toNat_natCast, t1]
    simp only
    rw [ih _ (fun sec' h' => hok sec' (by simp [h'])) t2, assigns_cons, entsOf, entsOf, entsOf, List.map_append,
      List.append_assoc]

theorem streamSections_written (secs : List (Nat × List (Nat × Nat))) (hok : ∀ sec ∈ secs, SSecOk sec)
    (hnd : ((assigns secs).map (·.1)).Nodup) :
    streamSections 1 4 2 (indexInts secs) (xrefStreamContent secs) [] = .ok (entsOf (assigns secs)) := by
  rw [xrefStreamContent_eq, streamSections_secs secs [] hok (fresh_nil hnd), List.nil_append]

theorem intList_index (secs : List (Nat × List (Nat × Nat))) :
    intList (some (xrefStreamIndex secs)) = some (indexInts secs) := by
  simp only [xrefStreamIndex, intList, indexInts]
  induction secs with
  | nil => rfl
  | cons s rest ih =>
    obtain ⟨st, es⟩ := s
    simp only [List.map_cons, List.flatten_cons, List.cons_append, List.nil_append, List.mapM_cons]
    rw [ih]
    rfl

theorem rowCount_index (secs : List (Nat × List (Nat × Nat))) :
    rowCount (indexInts secs) = ((secs.map fun s => s.2.length).sum : Nat) := by
  induction secs with
  | nil => rfl
  | cons s rest ih => rw [indexInts_cons, rowCount, ih]; simp

theorem index_shape (secs : List (Nat × List (Nat × Nat))) :
    (indexInts secs).length % 2 = 0 ∧ (indexInts secs).any (· < 0) = false := by
  induction secs with
  | nil => exact ⟨rfl, rfl⟩
  | cons s rest ih =>
    have hnat : ∀ n : Nat, decide ((n : Int) < 0) = false := fun n =>
      decide_eq_false (Int.not_lt.mpr (Int.natCast_nonneg n))
    rw [indexInts_cons]
    exact ⟨by rw [List.length_cons, List.length_cons, Nat.add_assoc, Nat.add_mod_right]; exact ih.1,
      by simp only [List.any_cons, hnat, ih.2, Bool.or_false]⟩

def streamEntriesOf (x : XrefMap) (last : Nat) : List Entry := entsOf (assigns (streamSecs x last))

theorem assigns_streamSecs_nodup (x : XrefMap) (last : Nat) : ((assigns (streamSecs x last)).map (·.1)).Nodup := by
  rw [streamSecs_assigns]
  exact List.Nodup.sublist (idAssign_keys_sublist x _ _) (List.nodup_range' 1)

theorem mem_streamEntriesOf (x : XrefMap) (last n off g : Nat) :
    (n, off, g) ∈ streamEntriesOf x last ↔ (1 ≤ n ∧ n ≤ last) ∧ x.get n = some (off, g) := by
  have : (n, off, g) ∈ streamEntriesOf x last ↔ (n, (off, g)) ∈ assigns (streamSecs x last) := by
    simp only [streamEntriesOf, entsOf, List.mem_map, Prod.mk.injEq]
    constructor
    · rintro ⟨⟨a, b, c⟩, hp, rfl, rfl, rfl⟩; exact hp
    · intro hp; exact ⟨_, hp, rfl, rfl, rfl⟩
  rw [this, streamSecs_assigns, mem_filterMap_idAssign, List.mem_range'_1]
  simp only [id, exists_eq_right]
  constructor <;> rintro ⟨h1, h2⟩ <;> exact ⟨by omega, h2⟩

theorem streamEntriesOf_nodup (x : XrefMap) (last : Nat) : ((streamEntriesOf x last).map (·.1)).Nodup := by
  unfold streamEntriesOf entsOf
  rw [List.map_map]
  exact assigns_streamSecs_nodup x last

theorem xrefObj_ok (d : SDoc) (out : Bytes) (d' : SDoc) (hk : d.xrefKind = .stream)
    (h : saveFrom [] d = some (out, d')) (hlen : out.length < 4294967296) (hmax : d.maxId + 2 ≤ 4294967295)
    (hg : GensOk d)
    (htr : WFObj (.dict d.trailer) ∧ height (.dict d.trailer) ≤ MAX_NESTING ∧ NoRealD d.trailer) :
    ObjOK (xrefObj d) :=
  xrefObjP_ok [] d out d' hk h hlen hmax hg htr

theorem prevOf_none (tr : Dict) (h : tr.get PREV = none) : prevOf (normD tr) = .ok none := by
  simp only [prevOf, show kPrev = PREV from rfl, normD_get, h, Option.map_none]

theorem prevOf_some (tr : Dict) (n : Nat) (h : tr.get PREV = some (.int (n : Int))) :
    prevOf (normD tr) = .ok (some n) := by
  simp [prevOf, show kPrev = PREV from rfl, normD_get, h, norm]

/-- R2, the way through `sectionAt` for a cross-reference stream: no `xref` keyword, the header
`num gen obj`, the stream object, its dictionary entries, the rows, the entry for itself -/
theorem sectionAt_stream_of {b r content : Bytes} {x num gen e : Nat} {d : Dict} {size : Int} {index : List Int}
    {entries : List Entry} {pv : Option Nat} (hx : x ≤ b.length)
    (hdrop : b.drop x = (natDigits num ++ 32 :: natDigits gen ++ OBJ) ++ r)
    (hn : num < 10000000000000000000) (hg : gen < 10000000000000000000)
    (hobj : objectAt b x num gen (fun _ => none) = .ok (.stream d content, e))
    (hT : Dict.get d kType = some (.name kXRef)) (hF : (Dict.get d kFilter).isSome = false)
    (hW : intList (Dict.get d kW) = some [1, 4, 2]) (hS : Dict.get d kSize = some (.int size))
    (hI : intList (Dict.get d kIndex) = some index)
    (hshape : index.length % 2 = 0 ∧ index.any (· < 0) = false)
    (hrows : rowCount index * (1 + 4 + 2) = (content.length : Int))
    (hsecs : streamSections 1 4 2 index content [] = .ok entries) (hprev : prevOf d = .ok pv)
    (hself : entries.any (fun en => en.1 == num && en.2.1 == x) = true) :
    sectionAt b x = .ok ⟨entries, d, e, pv, size, some num⟩ := by
  have hd : b.drop x = natDigits num ++ 32 :: (natDigits gen ++ 32 :: (111 :: 98 :: 106 :: r)) := by
    rw [hdrop]; simp [OBJ]
  -- a digit, not the `x` of `xref`
  have hnx : stripPrefix XREF (b.drop x) = none := by
    obtain ⟨a, as, hda, hdig⟩ := ObjRt.natDigits_head num
    rw [hd, hda]; simp [XREF, stripPrefix, digit_ne_x hdig]
  unfold sectionAt
  rw [if_neg (Nat.not_lt.mpr hx), hnx]
  unfold streamSection
  simp only [hd, number_natDigits num 32 _ hn (by decide), number_natDigits gen 32 _ hg (by decide), hobj, hT,
    beq_self_eq_true, Bool.not_true, Bool.false_eq_true, if_false, hF, hW, hS, Int.reduceLT, Int.reduceGT,
    decide_false, hI, hshape.1, hshape.2, bne_self_eq_false, Bool.or_false, hrows, Int.reduceToNat, hsecs, hprev,
    hself, if_true]

/-- **R2 on a written cross-reference stream, reals included**, appended to any prefix and read
inside any extension of the file -/
theorem sectionAt_streamP_nf (pre : Bytes) (d : SDoc) (out : Bytes) (d' : SDoc) (R : Bytes) (hk : d.xrefKind = .stream)
    (h : saveFrom pre d = some (out, d')) (hlen : out.length < 4294967296) (hmax : d.maxId + 2 ≤ 4294967295)
    (hg : GensOk d)
    (htr : WFObj (.dict d.trailer) ∧ height (.dict d.trailer) ≤ MAX_NESTING)
    (pv : Option Nat) (hprev : prevOf (normD (streamTrailer pre d)) = .ok pv) :
    sectionAt (out ++ R) (bodyOf pre d).length
      = .ok (Rev.mk (streamEntriesOf (xmapStream pre d) (d.maxId + 1)) (normD (streamTrailer pre d))
          ((bodyOf pre d).length + (writeIndirect (d.maxId + 1) 0 (xrefObjP pre d)).length) pv
          ((d.maxId + 1 + 1 : Nat) : Int) (some (d.maxId + 1))) := by
  obtain ⟨hout, _⟩ := saveFrom_stream_eq pre d out d' hk h
  have hnd := dict_nodup htr.1
  have hb := body_le_out pre d out d' h
  have e : out ++ R = bodyOf pre d ++ (writeIndirect (d.maxId + 1) 0 (xrefObjP pre d) ++
      (STARTXREF_KW ++ natDigits (bodyOf pre d).length ++ EOF_KW ++ R)) := by
    rw [hout]; simp only [xrefObjP, List.append_assoc]
  obtain ⟨n1, n2, n3, n4, _, n6⟩ := normD_streamTrailer_facts pre d hnd hmax hg
  have hsecs := streamSections_written (streamSecs (xmapStream pre d) (d.maxId + 1))
    (streamSecs_ok _ _ (xmapStream_ok pre d hg) (by omega)) (assigns_streamSecs_nodup _ _)
  -- the stream lists itself at its own offset
  have hself : (streamEntriesOf (xmapStream pre d) (d.maxId + 1)).any
      (fun en => en.1 == d.maxId + 1 && en.2.1 == (bodyOf pre d).length) = true := by
    refine List.any_eq_true.mpr ⟨(d.maxId + 1, (bodyOf pre d).length, 0), ?_, by simp⟩
    rw [mem_streamEntriesOf, xmapStream, XrefMap.get_insert_same, Nat.mod_eq_of_lt (by omega)]
    exact ⟨by omega, rfl⟩
  rw [e]
  refine sectionAt_stream_of (by simp only [List.length_append]; omega) (drop_writeIndirect _ _ _ _ _) (by omega)
    (by omega)
    (objectAt_written_nf (bodyOf pre d) _ (d.maxId + 1) 0 (xrefObjP pre d) (fun _ => none)
      (xrefObjP_okN pre d out d' hk h hlen hmax hg htr))
    n6 n1 (by rw [show kW = W_KEY from rfl, n4]; rfl) n2 (by rw [show kIndex = INDEX from rfl, n3, intList_index])
    (index_shape _) (by rw [rowCount_index, xrefStreamContent_length]; omega) hsecs hprev hself

/-- **R2 on a written cross-reference stream** (plain save) -/
theorem sectionAt_stream (d : SDoc) (out : Bytes) (d' : SDoc) (hk : d.xrefKind = .stream)
    (h : saveFrom [] d = some (out, d')) (hlen : out.length < 4294967296) (hmax : d.maxId + 2 ≤ 4294967295)
    (hg : GensOk d)
    (htr : WFObj (.dict d.trailer) ∧ height (.dict d.trailer) ≤ MAX_NESTING ∧ NoRealD d.trailer)
    (hprev : d.trailer.get PREV = none) :
    sectionAt out (bodyOf [] d).length
      = .ok (Rev.mk (streamEntriesOf (xmapStream [] d) (d.maxId + 1)) (streamTrailer [] d)
          ((bodyOf [] d).length + (writeIndirect (d.maxId + 1) 0 (xrefObj d)).length) none
          ((d.maxId + 1 + 1 : Nat) : Int) (some (d.maxId + 1))) := by
  have hnd := dict_nodup htr.1
  have hP : prevOf (normD (streamTrailer [] d)) = .ok none :=
    prevOf_none _ (by
      rw [streamTrailer_get_free [] d hnd freeKey_PREV]
      exact hprev)
  have := sectionAt_streamP_nf [] d out d' [] hk h hlen hmax hg ⟨htr.1, htr.2.1⟩ none hP
  rwa [List.append_nil, normD_noReal _ (xrefObj_ok d out d' hk h hlen hmax hg htr).2.2.1] at this

end Lopdf.Strict
