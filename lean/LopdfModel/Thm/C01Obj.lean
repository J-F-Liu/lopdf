import LopdfModel.Lemmas.ObjRtCore
/-
  C01 — object level.  What `Writer::write_object` writes for a direct object is read back by
  `_direct_objects` / `_direct_object` / `parser::direct_object` as the same object (an
  integral-valued real comes back as the integer it denotes), for EVERY direct object — null,
  booleans, all i64 integers, reals in `Display` form, names and strings with arbitrary bytes,
  references within u32 × u16, arrays and dictionaries nested up to MAX_NESTING, distinct
  dictionary keys — followed by ANY text the separator logic can produce, for all sufficient
  parser fuel.  Definitions: `Lemmas/ObjRt{Base,Rec,Core}.lean`, `Lemmas/Lit.lean`.
-/
namespace Lopdf.ObjRt
open Lopdf Gen

/-- **Literal strings, every byte string**: parentheses balanced up to `MAX_BRACKET` levels stay raw, unbalanced and deeper ones, backslash
and CR are escaped, and `literal_string` reads the string back exactly, whatever follows. -/
theorem lit_rt (s rest : Bytes) : pLiteral (writeString s .lit ++ rest) = some (s, rest) :=
  LitRt.lit_rt_full s rest

example : pLiteral (writeString [40, 40, 41, 92, 41, 41, 40, 13] .lit ++ [47]) =
    some ([40, 40, 41, 92, 41, 41, 40, 13], [47]) := lit_rt _ _

/-- well-formed direct objects (no constraint on literal strings) -/
abbrev WFObj : Obj → Prop := WF (fun _ => True)

theorem litOK_all : ∀ s : Bytes, (fun _ : Bytes => True) s → LitOK s := fun s _ rest => lit_rt s rest

/-- **Object round trip through `_direct_objects`.** -/
theorem obj_rt (o : Obj) (fuel depth : Nat) (rest : Bytes) (hwf : WFObj o)
    (hdepth : depth + height o ≤ MAX_NESTING) (hfuel : size o ≤ fuel) (hstop : Follow true o rest) :
    directObjects fuel depth (writeObj o ++ rest) = .ok (norm o) rest :=
  obj_core _ litOK_all o fuel depth rest hwf hdepth hfuel hstop

/-- … through `_direct_object` (= `terminated(_direct_objects, space)`): the rest has the
following `space` consumed. -/
theorem directObject_rt (o : Obj) (fuel depth : Nat) (rest : Bytes) (hwf : WFObj o)
    (hdepth : depth + height o ≤ MAX_NESTING) (hfuel : size o ≤ fuel) (hstop : Follow true o rest) :
    directObject fuel depth (writeObj o ++ rest) = .ok (norm o) (space rest) :=
  directObject_of _ _ _ _ _ (obj_rt o fuel depth rest hwf hdepth hfuel hstop)

/-- **The stop-context invariant holds where the writer continues**: after an array item come
the remaining items and `]`, after a dictionary value the remaining entries and `>>`; both are
stop contexts, and a stop context is an admissible following text for every object. -/
theorem stop_context_established (items : List Obj) (es : List (Bytes × Obj)) (rest : Bytes)
    (h : WFL (fun _ => True) items) :
    StopCtx (writeArr false items ++ 93 :: rest) ∧ StopCtx (writeDictBody es ++ 62 :: 62 :: rest) ∧
    ∀ (C : Bytes), StopCtx C → ∀ (wr : Bool) (o : Obj), Follow wr o C :=
  ⟨stop_arr items rest h, (stop_dict es rest).1, fun _ hC wr o => hC.follow wr o⟩

mutual
theorem size_le_length (L : Bytes → Prop) : ∀ (o : Obj), WF L o → size o ≤ (writeObj o).length
  | .arr items, h => by
    simp only [WF] at h
    have := sizeL_le_length L items true h
    simp [size, writeObj]; omega
  | .dict es, h => by
    simp only [WF] at h
    have := sizeD_le_length L es h.2
    simp [size, writeObj]; omega
  | .null, h | .bool _, h | .int _, h | .real _, h | .name _, h | .str _ _, h | .ref _ _, h => by
    -- one node, and the written text is not empty
    obtain ⟨b, r, e, _⟩ := head_obj L _ [] h
    rw [List.append_nil] at e
    rw [e]; exact Nat.le_add_left 1 r.length
  | .stream es c, h => by simp [WF] at h
theorem sizeL_le_length (L : Bytes → Prop) : ∀ (items : List Obj) (first : Bool), WFL L items →
    sizeL items ≤ (writeArr first items).length
  | [], _, _ => by simp [sizeL]
  | o :: r, first, h => by
    simp only [WFL] at h
    have h1 := size_le_length L o h.1
    have h2 := sizeL_le_length L r false h.2
    rw [writeArr_cons]
    simp only [sizeL, List.length_append]
    omega
theorem sizeD_le_length (L : Bytes → Prop) : ∀ (es : List (Bytes × Obj)), WFD L es →
    sizeD es ≤ (writeDictBody es).length
  | [], _ => by simp [sizeD]
  | (k, v) :: r, h => by
    simp only [WFD] at h
    have h1 := size_le_length L v h.1
    have h2 := sizeD_le_length L r h.2
    rw [writeDictBody_cons]
    simp only [sizeD, List.length_append]
    omega
end

/-- the fuel the entry points supply — the input length and one — suffices -/
theorem size_le_input (L : Bytes → Prop) (o : Obj) (rest : Bytes) (h : WF L o) :
    size o ≤ (writeObj o ++ rest).length + 1 :=
  Nat.le_succ_of_le (Nat.le_trans (size_le_length L o h) (List.length_append ▸ Nat.le_add_right _ _))

/-- **Object round trip through `parser::direct_object`** (the entry point with its own fuel):
no fuel hypothesis left. -/
theorem parseDirect_rt (o : Obj) (rest : Bytes) (hwf : WFObj o) (hdepth : height o ≤ MAX_NESTING)
    (hstop : Follow true o rest) : parseDirect (writeObj o ++ rest) = some (norm o, space rest) := by
  unfold parseDirect
  rw [directObject_rt o _ 0 rest hwf (by omega) (size_le_input _ o rest hwf) hstop]

mutual
def NoReal : Obj → Prop
  | .real _ => False
  | .arr items => NoRealL items
  | .dict es => NoRealD es
  | _ => True
def NoRealL : List Obj → Prop
  | [] => True
  | o :: r => NoReal o ∧ NoRealL r
def NoRealD : List (Bytes × Obj) → Prop
  | [] => True
  | (_, v) :: r => NoReal v ∧ NoRealD r
end

mutual
theorem norm_noReal : ∀ (o : Obj), NoReal o → norm o = o
  | .arr items, h => by simp only [NoReal] at h; simp [norm, normL_noReal items h]
  | .dict es, h => by simp only [NoReal] at h; simp [norm, normD_noReal es h]
  | .real _, h => by simp [NoReal] at h
  | .null, _ | .bool _, _ | .int _, _ | .name _, _ | .str _ _, _ | .ref _ _, _ | .stream _ _, _ => by simp [norm]
theorem normL_noReal : ∀ (items : List Obj), NoRealL items → normL items = items
  | [], _ => rfl
  | o :: r, h => by simp only [NoRealL] at h; simp [normL, norm_noReal o h.1, normL_noReal r h.2]
theorem normD_noReal : ∀ (es : List (Bytes × Obj)), NoRealD es → normD es = es
  | [], _ => rfl
  | (k, v) :: r, h => by simp only [NoRealD] at h; simp [normD, norm_noReal v h.1, normD_noReal r h.2]
end

theorem norm_real_decimal (t : Bytes) (h : IsDecimal t) : norm (.real t) = .real t := by
  obtain ⟨neg, d1, d2, rfl, _, _, _⟩ := h.parts
  simp [norm, normReal]

/-- `[5 6 7 0 R/A<</B 1.5/C(())/D -0>>null]`-like sample: every kind, nested -/
def sampleObj : Obj :=
  .arr [.int 5, .int 6, .ref 7 0, .name [65],
    .dict [([66], .real [49, 46, 53]), ([67], .str [40, 41, 40] .lit), ([68], .real [45, 48])],
    .str [0, 255] .hex, .bool true, .null, .arr []]

theorem sample_wf : WFObj sampleObj := by
  simp only [sampleObj, WFObj, WF, WFL, WFD, RealOK]
  refine ⟨by decide, by decide, by decide, trivial, ⟨by decide, ?_, trivial, ?_, trivial⟩, trivial, trivial, trivial, trivial, trivial⟩
  · exact Or.inl ⟨⟨false, [49], [53], rfl, by simp, by decide, by decide⟩⟩
  · exact Or.inr ⟨true, [48], rfl, by simp, by intro b hb; simp at hb; subst hb; decide, by decide⟩

example : parseDirect (writeObj sampleObj ++ [10, 101]) = some (norm sampleObj, space [10, 101]) :=
  parseDirect_rt sampleObj _ sample_wf (by decide) (by simp [sampleObj, Follow])

example : norm sampleObj =
    .arr [.int 5, .int 6, .ref 7 0, .name [65],
      .dict [([66], .real [49, 46, 53]), ([67], .str [40, 41, 40] .lit), ([68], .int 0)],
      .str [0, 255] .hex, .bool true, .null, .arr []] := by
  rfl

/-- the look-ahead condition is needed: `5` followed by ` 6 R` is a reference, not the integer -/
example : writeObj (.int 5) = [53] ∧ ∀ fuel depth,
    directObjects (fuel + 1) depth ([53] ++ [32, 54, 32, 82]) = .ok (.ref 5 6) [] := by
  refine ⟨by simp [writeObj, writeInt, natDigits], fun fuel depth => directObjects_scalar fuel depth _ _ _ ?_⟩
  have e : writeObj (.ref 5 6) = [53] ++ [32, 54, 32, 82] := by simp [writeObj, natDigits]
  have := scalar_core _ litOK_all true (.ref 5 6) [] (by simp [WF]; decide) rfl (by simp) trivial
  rwa [e, List.append_nil] at this
/-- … and it is what `write_array` guarantees: in `[5 6 7 0 R]` the first integers read back as integers -/
example : StopCtx (writeArr false [.int 6, .ref 7 0] ++ 93 :: []) :=
  stop_arr (L := fun _ => True) _ _ (by simp [WFL, WF]; decide)

end Lopdf.ObjRt
