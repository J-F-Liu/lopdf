import LopdfModel.Thm.C09
import LopdfModel.Lemmas.Objects
/-
  C09 — `Stream::decompress`, `Document::compress`, `Document::decompress` as theorems
  (model: `decompress`, `docCompress`, `docDecompress` of Model/Filters.lean).
-/
namespace Lopdf
open Gen

/-- **`Stream::set_plain_content`**: afterwards no `Filter` / `DecodeParms` entry remains, the stream is plain with
the given content and `Length` is right. -/
theorem set_plain_content_spec (ext : Ext) (s : Strm) (c : Bytes) (hn : s.dict.KeysNodup) :
    (setPlainContent s c).dict.get K_FILTER = none ∧ (setPlainContent s c).dict.get K_DECODEPARMS = none ∧
    getPlainContent ext (setPlainContent s c) = .ok c ∧ LengthOk (setPlainContent s c) :=
  have h := setPlainContent_get s c hn
  ⟨h.1, h.2, getPlainContent_of_no_filter ext _ h.1, setPlainContent_length s c⟩

/-- **`Stream::decompress`** on a stream with distinct keys, when it succeeds: no `Filter` and no `DecodeParms` entry
remains, the content is exactly the decoded content, the result is plain, `Length` is right. -/
theorem decompress_spec (ext : Ext) (s s' : Strm) (hn : s.dict.KeysNodup) (h : decompress ext s = .ok s') :
    s'.dict.get K_FILTER = none ∧ s'.dict.get K_DECODEPARMS = none ∧
    decompressedContent ext s = .ok s'.content ∧ getPlainContent ext s' = .ok s'.content ∧ LengthOk s' := by
  obtain ⟨hc, e⟩ := decompress_ok ext s s' h
  obtain ⟨h1, h2, h3, h4⟩ := set_plain_content_spec ext s s'.content hn
  rw [← e] at h1 h2 h3 h4
  exact ⟨h1, h2, hc, h3, h4⟩

example : decompress toyExt toyPng = .ok ⟨[(K_LENGTH, .int 4)], [1, 2, 3, 4]⟩ ∧
    (⟨[(K_LENGTH, .int 4)], [1, 2, 3, 4]⟩ : Strm).dict.get K_FILTER = none := by
  constructor
  · rw [decompress_eq, toyPng_decoded]; rfl
  · rfl

/-- what `Document::decompress` does to one stream -/
def decompS (ext : Ext) (s : Strm) : Strm :=
  match decompress ext s with
  | .ok s' => s'
  | _ => s

/-- decompressing never changes a stream's plain content (any `Filter`, the empty array included) -/
theorem decompress_keeps_plain (ext : Ext) (s : Strm) (hn : s.dict.KeysNodup) :
    getPlainContent ext (decompS ext s) = getPlainContent ext s := by
  unfold decompS
  cases hd : decompress ext s with
  | err e => rfl
  | panic p => rfl
  | ok s' =>
    obtain ⟨_, _, hc, hp, _⟩ := decompress_spec ext s s' hn hd
    -- `decompressed_content` succeeded, so there is a filter list; on it the two readers agree
    rw [hp, ← hc]
    cases hf : streamFilters s.dict with
    | none => simp [decompressedContent, hf] at hc
    | some fs => rw [(decoded_of_filters ext s fs hf).1, (decoded_of_filters ext s fs hf).2]

/-- **compress then decompress** restores the plain content of every stream (flate2 hypotheses) -/
theorem compress_decompress_plain (ext : Ext) (deflate : Bytes → Bytes)
    (hfl : ∀ x, ext.inflate (deflate x) = x) (hne : ∀ x, deflate x ≠ [])
    (s : Strm) (hn : s.dict.KeysNodup) :
    getPlainContent ext (decompS ext (compress deflate s)) = getPlainContent ext s :=
  (decompress_keeps_plain ext _ (compress_keysNodup deflate s hn)).trans
    (compress_preserves_plain ext deflate hfl hne s hn)

/-- what `Document::decompress` does to one object -/
def decompObj (ext : Ext) : Obj → Obj
  | .stream d c => let s := decompS ext ⟨d, c⟩; .stream s.dict s.content
  | o => o

/-- what `Document::compress` does to one object (`allow` = the stream's `allows_compression`) -/
def compObj (deflate : Bytes → Bytes) (allow : Bool) : Obj → Obj
  | .stream d c => if allow then let s := compress deflate ⟨d, c⟩; .stream s.dict s.content else .stream d c
  | o => o

theorem docDecompress_eq (ext : Ext) (os : Objects) :
    docDecompress ext os = os.map fun p => (p.1, decompObj ext p.2) := by
  unfold docDecompress
  apply List.map_congr_left
  intro p _
  obtain ⟨id, o⟩ := p
  cases o with
  | stream d c =>
    simp only [decompObj, decompS]
    cases h : decompress ext ⟨d, c⟩ <;> rfl
  | _ => rfl

theorem docCompress_eq (deflate : Bytes → Bytes) (allows : ObjId → Bool) (os : Objects) :
    docCompress deflate allows os = os.map fun p => (p.1, compObj deflate (allows p.1) p.2) := by
  unfold docCompress
  apply List.map_congr_left
  intro p _
  obtain ⟨id, o⟩ := p
  cases o with
  | stream d c =>
    simp only [compObj]
    split <;> rfl
  | _ => rfl

theorem decompObj_of_not_stream (ext : Ext) (o : Obj) (ho : ∀ d c, o ≠ .stream d c) : decompObj ext o = o := by
  cases o with
  | stream d c => exact absurd rfl (ho d c)
  | _ => rfl

theorem compObj_of_not_stream (deflate : Bytes → Bytes) (allow : Bool) (o : Obj) (ho : ∀ d c, o ≠ .stream d c) :
    compObj deflate allow o = o := by
  cases o with
  | stream d c => exact absurd rfl (ho d c)
  | _ => rfl

def plainOf (ext : Ext) : Obj → Option (Outcome Bytes)
  | .stream d c => some (getPlainContent ext ⟨d, c⟩)
  | _ => none

/-- the object, if a stream, has a dictionary with distinct keys (the `IndexMap` invariant) -/
def StreamOk : Obj → Prop
  | .stream d _ => Dict.KeysNodup d
  | _ => True

/-- **`Document::decompress`**, object by object: ids are kept; non-stream objects are untouched; a stream is either
untouched (it cannot be decoded) or has lost `Filter` and `DecodeParms`, holds exactly its decoded content and a right
`Length`. -/
theorem doc_decompress_spec (ext : Ext) (os : Objects) (id : ObjId) :
    (docDecompress ext os).map (·.1) = os.map (·.1) ∧
    Objects.get (docDecompress ext os) id = (Objects.get os id).map (decompObj ext) ∧
    (∀ o, (∀ d c, o ≠ .stream d c) → decompObj ext o = o) ∧
    (∀ (d : Dict) c, d.KeysNodup →
      decompObj ext (.stream d c) = .stream d c ∨
      ∃ s', decompObj ext (.stream d c) = .stream s'.dict s'.content ∧
        s'.dict.get K_FILTER = none ∧ s'.dict.get K_DECODEPARMS = none ∧
        decompressedContent ext ⟨d, c⟩ = .ok s'.content ∧ LengthOk s') := by
  refine ⟨?_, ?_, decompObj_of_not_stream ext, ?_⟩
  · rw [docDecompress_eq, List.map_map]; rfl
  · rw [docDecompress_eq]; exact Objects.get_mapVals os (fun _ o => decompObj ext o) id
  · intro d c hn
    simp only [decompObj, decompS]
    cases hd : decompress ext ⟨d, c⟩ with
    | err e => exact Or.inl rfl
    | panic p => exact Or.inl rfl
    | ok s' =>
      obtain ⟨h1, h2, h3, _, h5⟩ := decompress_spec ext ⟨d, c⟩ s' hn hd
      exact Or.inr ⟨s', rfl, h1, h2, h3, h5⟩

/-- **`Document::compress` then `Document::decompress`**: every object keeps its id, non-streams are unchanged
(whatever their `allows_compression`), every stream keeps its plain content. -/
theorem doc_compress_decompress (ext : Ext) (deflate : Bytes → Bytes) (allows : ObjId → Bool)
    (hfl : ∀ x, ext.inflate (deflate x) = x) (hne : ∀ x, deflate x ≠ [])
    (os : Objects) (id : ObjId) :
    (docDecompress ext (docCompress deflate allows os)).map (·.1) = os.map (·.1) ∧
    Objects.get (docDecompress ext (docCompress deflate allows os)) id
      = (Objects.get os id).map (fun o => decompObj ext (compObj deflate (allows id) o)) ∧
    (∀ o allow, (∀ d c, o ≠ .stream d c) → decompObj ext (compObj deflate allow o) = o) ∧
    (∀ o allow, StreamOk o → plainOf ext (decompObj ext (compObj deflate allow o)) = plainOf ext o) := by
  refine ⟨?_, ?_, ?_, ?_⟩
  · rw [docDecompress_eq, docCompress_eq, List.map_map, List.map_map]; rfl
  · rw [docDecompress_eq, docCompress_eq, Objects.get_mapVals _ (fun _ o => decompObj ext o),
      Objects.get_mapVals _ (fun i o => compObj deflate (allows i) o), Option.map_map]; rfl
  · intro o allow ho
    rw [compObj_of_not_stream deflate allow o ho, decompObj_of_not_stream ext o ho]
  · intro o allow hs
    cases o with
    | stream d c =>
      cases allow with
      | true => exact congrArg some (compress_decompress_plain ext deflate hfl hne ⟨d, c⟩ hs)
      | false => exact congrArg some (decompress_keeps_plain ext ⟨d, c⟩ hs)
    | _ => cases allow <;> rfl

example : plainOf toyExt (decompObj toyExt (compObj (fun x => 0 :: x) true (.stream [(K_LENGTH, .int 3)] [1, 2, 3])))
    = some (.ok [1, 2, 3]) :=
  (doc_compress_decompress toyExt (fun x => 0 :: x) (fun _ => true) (fun _ => rfl) (fun _ => by simp) [] (1, 0)).2.2.2
    (.stream [(K_LENGTH, .int 3)] [1, 2, 3]) true (by unfold StreamOk Dict.KeysNodup; decide)

/-- regression of finding F-C09-d (repaired by lopdf 70e5e99): with the EMPTY filter array `decompressed_content`
is the content itself and `decompress` keeps it. (The guard `Filter ≠ []` of `chain_rt` and its instances, the
chain `c :: cs`, is therefore not necessary: `chain_rt_filters` does without it.) -/
theorem decompress_empty_filter_witness (ext : Ext) :
    getPlainContent ext ⟨[(K_FILTER, .arr [])], [1, 2, 3]⟩ = .ok [1, 2, 3] ∧
    (decompS ext ⟨[(K_FILTER, .arr [])], [1, 2, 3]⟩).content = [1, 2, 3] :=
  ⟨rfl, rfl⟩

end Lopdf
