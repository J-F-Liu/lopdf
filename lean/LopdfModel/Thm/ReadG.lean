import LopdfModel.Model.ReadG
import LopdfModel.Lemmas.Outcome
/-
  The generic reader instantiated with the plain structural-stream decoders IS the reader of
  Model/Read.lean: every theorem about `loadDocWith` / `loadDocOrd2` / `loadDoc` (C01, C02, C03,
  C04, C07, C08) is a theorem about the code of `loadDocWithG`, which the driver runs with
  `flateDec` against lopdf on every generated file.

  Also the shape of the generic reader through which its theorems are proved: a front that does not
  look at the decoder or the schedule (`loadDocWithG_front`), and behind it `readBody`, a chain of
  `Outcome.bind`s over the cross-reference section, the `Prev` loop and the object pass.
-/
namespace Lopdf
open Gen

/-- the object map `Reader::read` returns, as a function of the loaded objects (the last lines of
`loadDocWith`) -/
def finalObjects (os : LObjects) : Objects :=
  (os.map fun (p : ObjId × LObj) =>
    match p.2 with
    | .plain o => (p.1, o)
    | .pending d _ => (p.1, Obj.stream d [])).foldr
      (fun (p : ObjId × Obj) acc => insertSortedO p.1 p.2 acc) []

/-- the part of `Reader::read` that depends on the schedule: the object-stream blocks are merged in
the order `arr` gives them, the deferred streams completed in the order `arr2` gives their ids -/
def mergeAndComplete (arr : List Block → List Block) (arr2 : List ObjId → List ObjId) (buf : Bytes)
    (x : XTable) (os : LObjects) (fs : List Block) : LObjects :=
  let os1 := mergeBlocksX x os (arr fs)
  (arr2 (pendingIds os1)).foldl (completeOne buf) os1

/-- `Reader::read` from the object pass on, for the cross-reference table and the trailer the
`Prev` loop ends with -/
def readObjects (sd : StructDec) (arr : List Block → List Block) (arr2 : List ObjId → List ObjId)
    (buf version mark : Bytes) (xs : Nat) (x : XTable) (tr : Dict) : Outcome Loaded :=
  if x.maxId + 1 ≥ U32 then .err "InvalidXref" else
  if tr.has ENCRYPT then .err "ext" else
  (x.sorted.foldl (loadStepG sd buf x x.sorted.length) (.ok ([], []))).bind fun r =>
  .ok { version := version, binaryMark := mark, trailer := tr,
        objects := finalObjects (mergeAndComplete arr arr2 buf x r.1 r.2),
        maxId := x.maxId + 1 - 1, xrefStart := xs }

/-- `Reader::read` from the first cross-reference section on: `buf` is the file from `%PDF-`,
`xs` the offset `startxref` names -/
def readBody (sd : StructDec) (arr : List Block → List Block) (arr2 : List ObjId → List ObjId)
    (buf version mark : Bytes) (xs : Nat) : Outcome Loaded :=
  (xrefAndTrailerG sd (buf.drop xs)).bind fun s =>
  (prevLoopG sd buf (buf.length + 2) (s.2.2.get PREV) [] s.1 (s.2.2.remove PREV)).bind fun t =>
  readObjects sd arr arr2 buf version mark xs t.1 t.2

/-- header, binary mark and `startxref` are found (or not) before any structural stream is decoded
and before anything is scheduled: either the file is refused, whatever the decoder and the
schedule, or all of them run `readBody` on the same buffer -/
theorem loadDocWithG_front (file : Bytes) :
    (∃ e, ∀ sd arr arr2, loadDocWithG sd arr arr2 file = .err e) ∨
    (∃ buf version mark xs, ∀ sd arr arr2,
      loadDocWithG sd arr arr2 file = readBody sd arr arr2 buf version mark xs) := by
  unfold loadDocWithG
  extract_lets offset buf
  clear_value buf
  cases pHeader buf with
  | none => exact Or.inl ⟨_, fun _ _ _ => rfl⟩
  | some version =>
    cases getXrefStart buf with
    | none => exact Or.inl ⟨_, fun _ _ _ => rfl⟩
    | some xs =>
      simp only []
      by_cases h : xs > buf.length
      · exact Or.inl ⟨_, fun _ _ _ => if_pos h⟩
      · refine Or.inr ⟨buf, version, ?mark, xs, fun sd arr arr2 => (if_neg h).trans ?eq⟩
        -- the `match`es of the model against the `bind`s of `readBody`, outcome by outcome
        case eq =>
          unfold readBody readObjects
          cases xrefAndTrailerG sd (List.drop xs buf) with
          | panic s => rfl
          | err e => rfl
          | ok v =>
            obtain ⟨x0, s0, tr0⟩ := v
            simp only [Outcome.bind]
            cases prevLoopG sd buf (buf.length + 2) (tr0.get PREV) [] x0 (tr0.remove PREV) with
            | panic s => rfl
            | err e => rfl
            | ok w =>
              obtain ⟨x, tr⟩ := w
              simp only []
              split
              · rfl
              · split
                · rfl
                · cases List.foldl (loadStepG sd buf x x.sorted.length) (.ok ([], [])) x.sorted <;> rfl

theorem loadDocWithG_eq_ok {sd : StructDec} {arr : List Block → List Block} {arr2 : List ObjId → List ObjId}
    {file : Bytes} {L : Loaded} (h : loadDocWithG sd arr arr2 file = .ok L) :
    ∃ buf xs s t r, xrefAndTrailerG sd (List.drop xs buf) = .ok s ∧
      prevLoopG sd buf (buf.length + 2) (s.2.2.get PREV) [] s.1 (s.2.2.remove PREV) = .ok t ∧
      t.1.sorted.foldl (loadStepG sd buf t.1 t.1.sorted.length) (.ok ([], [])) = .ok r ∧
      L.trailer = t.2 ∧ L.objects = finalObjects (mergeAndComplete arr arr2 buf t.1 r.1 r.2) := by
  rcases loadDocWithG_front file with ⟨e, he⟩ | ⟨buf, version, mark, xs, hb⟩
  · rw [he] at h; cases h
  · rw [hb] at h
    obtain ⟨s, hs, h⟩ := Outcome.bind_eq_ok h
    obtain ⟨t, ht, h⟩ := Outcome.bind_eq_ok h
    unfold readObjects at h
    split at h
    · cases h
    · split at h
      · cases h
      · obtain ⟨r, hr, h⟩ := Outcome.bind_eq_ok h
        cases h
        exact ⟨buf, xs, s, t, r, hs, ht, hr, rfl, rfl⟩

theorem loadStepG_strict (sd : StructDec) (buf : Bytes) (x : XTable) (n : Nat) :
    Outcome.Strict (loadStepG sd buf x n) := by
  intro acc e h
  -- by `fun_cases` also so that the case principle of `loadStepG` is generated here, in a module
  -- that all its users import: two modules that each generate it cannot be imported together
  fun_cases loadStepG sd buf x n acc e
  case case16 => rfl
  all_goals exact absurd rfl (h _)

theorem xrefStreamAltG_plain (inp : Bytes) : xrefStreamAltG plainDec inp = xrefAndTrailer.xrefStreamAlt inp := by
  unfold xrefStreamAltG xrefAndTrailer.xrefStreamAlt plainDec
  rfl

theorem xrefAndTrailerG_plain (inp : Bytes) : xrefAndTrailerG plainDec inp = xrefAndTrailer inp := by
  unfold xrefAndTrailerG xrefAndTrailer
  simp only [xrefStreamAltG_plain]
  rfl

theorem hybridMergeG_plain (buf : Bytes) (x1 : XTable) (stm : Option Obj) :
    hybridMergeG plainDec buf x1 stm = hybridMerge buf x1 stm := by
  unfold hybridMergeG hybridMerge
  simp only [xrefAndTrailerG_plain]
  rfl

theorem prevLoopG_plain (buf : Bytes) : ∀ (fuel : Nat) (prevObj : Option Obj) (seen : List Int) (x : XTable) (tr : Dict),
    prevLoopG plainDec buf fuel prevObj seen x tr = prevLoop buf fuel prevObj seen x tr := by
  intro fuel
  induction fuel with
  | zero => intro _ _ _ _; rfl
  | succ n ih =>
    intro prevObj seen x tr
    unfold prevLoopG prevLoop
    simp only [xrefAndTrailerG_plain, hybridMergeG_plain, ih]
    rfl

theorem loadStepG_plain (buf : Bytes) (x : XTable) (n : Nat) (acc : Outcome (LObjects × List Block)) (e : Nat × XEntry) :
    loadStepG plainDec buf x n acc e = loadStep buf x n acc e := by
  unfold loadStepG loadStep
  cases acc with
  | ok p =>
    obtain ⟨os, fromStm⟩ := p
    simp only
    cases e.2 with
    | normal off g =>
      simp only
      split
      · rfl
      · cases hp : pIndirect (lengthOf buf x (n + 1) []) none off (List.drop off buf) with
        | none => rfl
        | some r =>
          obtain ⟨id, lo⟩ := r
          simp only
          cases lo with
          | pending d s =>
            simp only
            split
            · simp only [plainDec]
              by_cases hf : d.has FILTER = true
              · simp only [hf, if_true]
              · simp only [hf, Bool.false_eq_true, if_false]
            · rfl
          | plain o =>
            cases o with
            | stream d c =>
              simp only
              split
              · simp only [plainDec]
                cases ho : objStmObjects d c with
                | ok l => rfl
                | err s =>
                  by_cases hs : s = "ext"
                  · subst hs; rfl
                  · simp only
                | panic s => rfl
              · rfl
            | _ => rfl
    | compressed a b => rfl
  | err s => rfl
  | panic s => rfl

theorem loadStepG_plain_fun (buf : Bytes) (x : XTable) (n : Nat) :
    loadStepG plainDec buf x n = loadStep buf x n := by
  funext acc e
  exact loadStepG_plain buf x n acc e

/-- **The generic reader with the plain decoders is `Reader::read`'s model.** -/
theorem loadDocWithG_plain (arr : List Block → List Block) (arr2 : List ObjId → List ObjId) (file : Bytes) :
    loadDocWithG plainDec arr arr2 file = loadDocWith arr arr2 file := by
  unfold loadDocWithG loadDocWith
  simp only [xrefAndTrailerG_plain, prevLoopG_plain, loadStepG_plain_fun]
  rfl

end Lopdf
