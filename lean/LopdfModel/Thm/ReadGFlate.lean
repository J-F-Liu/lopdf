import LopdfModel.Thm.ReadG
import LopdfModel.Thm.Inflate
/-
  The round-trip theorem of the specification inflate, carried into the reader: a cross-reference
  stream or an object stream whose content is `zlibStored c` under `/Filter /FlateDecode` (no
  DecodeParms) is read by `flateDec` exactly as the unfiltered stream with content `c` and the
  dictionary `Stream::decompress` leaves (Filter / DecodeParms removed, Length = |c|) — for every
  dictionary and every `c`.
-/
namespace Lopdf
open Gen

theorem zlibStored_ne_nil (c : Bytes) : (Inflate.zlibStored c).isEmpty = false := by
  unfold Inflate.zlibStored
  simp

theorem decompress_stored (d : Dict) (c : Bytes)
    (hf : d.get K_FILTER = some (.name F_FLATE)) (hp : d.get K_DECODEPARMS = none) :
    streamComplete d (Inflate.zlibStored c) = true ∧
    decompress specExt ⟨d, Inflate.zlibStored c⟩ =
      .ok { dict := (removeKeysSeq d DECOMPRESS_KEYS).set K_LENGTH (.int c.length), content := c } := by
  have hfilters : streamFilters d = some [F_FLATE] := by simp [streamFilters, hf]
  have hparms : stageParms d 0 = none := by simp [stageParms, hp]
  have hinfl : specExt.inflate (Inflate.zlibStored c) = c := by simp [specExt, Inflate.zlib_stored_rt]
  have happly : applyFilter specExt none F_FLATE (Inflate.zlibStored c) = .ok c := by
    simp [applyFilter, zlibStored_ne_nil, hinfl, decompressPredictor]
  refine ⟨?_, ?_⟩
  · simp [streamComplete, hfilters, chainComplete, hparms, happly, Inflate.zlib_stored_rt]
  · simp [decompress, decompressedContent, hfilters, filterLoop, hparms, happly, Outcome.bind, Outcome.map, setContent, lenObj]

theorem has_FILTER (d : Dict) (o : Obj) (hf : d.get K_FILTER = some o) : d.has FILTER = true := by
  have : FILTER = K_FILTER := by decide
  rw [this, Dict.has, hf]; rfl

/-- **a Flate-coded cross-reference stream is read as its plain content** -/
theorem flateDec_xref_stored (d : Dict) (c : Bytes)
    (hf : d.get K_FILTER = some (.name F_FLATE)) (hp : d.get K_DECODEPARMS = none) :
    flateDec.xref d (Inflate.zlibStored c) =
      decodeXrefStream ((removeKeysSeq d DECOMPRESS_KEYS).set K_LENGTH (.int c.length)) c := by
  obtain ⟨h1, h2⟩ := decompress_stored d c hf hp
  simp only [flateDec, has_FILTER d _ hf, h1, h2, if_true, Bool.not_true, Bool.false_eq_true, if_false]

/-- **a Flate-coded object stream yields the members of its plain content**, and the container
the document keeps is the decompressed one -/
theorem flateDec_objstm_stored (d : Dict) (c : Bytes)
    (hf : d.get K_FILTER = some (.name F_FLATE)) (hp : d.get K_DECODEPARMS = none) :
    flateDec.objstm d (Inflate.zlibStored c) =
      (match objStmObjects ((removeKeysSeq d DECOMPRESS_KEYS).set K_LENGTH (.int c.length)) c with
       | .ok l => .ok ((removeKeysSeq d DECOMPRESS_KEYS).set K_LENGTH (.int c.length), c, l)
       | .err e => .err e
       | .panic p => .panic p) := by
  obtain ⟨h1, h2⟩ := decompress_stored d c hf hp
  simp only [flateDec, has_FILTER d _ hf, h1, h2, if_true, Bool.not_true, Bool.false_eq_true, if_false]
  cases objStmObjects ((removeKeysSeq d DECOMPRESS_KEYS).set K_LENGTH (.int c.length)) c <;> rfl

end Lopdf
