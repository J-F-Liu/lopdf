import LopdfModel.Thm.C11Refs
/-
  C11 — the editing calls that rewrite objects one at a time are mild steps.
-/
namespace Lopdf.Ed
open Lopdf Lopdf.DictL

theorem inheritedResAux_refs (os : Objects) : ∀ (fuel : Nat) (st : Option ObjId) (res : Dict),
    inheritedResAux os fuel st = some res → ∀ r ∈ refsOfD res, ∃ k o, os.get k = some o ∧ r ∈ refsOf o := by
  intro fuel
  induction fuel with
  | zero => intro st res h; simp [inheritedResAux] at h
  | succ fuel ih =>
    intro st res h r hr
    cases st with
    | none => simp [inheritedResAux] at h
    | some id =>
      simp only [inheritedResAux] at h
      cases hg : getDictionary os id with
      | none => rw [hg] at h; cases h
      | some anc =>
        rw [hg] at h; simp only at h
        obtain ⟨k0, hk0⟩ := getDictionary_mem os id anc hg
        split at h
        · rename_i n g _
          obtain ⟨k1, hk1⟩ := getDictionary_mem os (n, g) res h
          exact ⟨k1, _, hk1, by simpa [refsOf] using hr⟩
        · rename_i r' hres
          cases h
          exact ⟨k0, _, hk0, by simp only [refsOf]; exact Ren.mem_refsOfD_of_get anc kResources _ hres r (by simpa [refsOf] using hr)⟩
        · cases h
        · exact ih _ res h r hr

theorem inheritedRes_refs (os : Objects) (node : Dict) (r : ObjId) (hr : r ∈ refsOfD (inheritedRes os node)) :
    ∃ k o, os.get k = some o ∧ r ∈ refsOf o := by
  unfold inheritedRes at hr
  cases h : inheritedResAux os (os.length + 1) ((Dict.get node PARENT).bind Obj.asRef) with
  | none => rw [h] at hr; simp [refsOfD] at hr
  | some res => rw [h] at hr; exact inheritedResAux_refs os _ _ res h r (by simpa using hr)

theorem contents_notProt : CONTENTS ∉ Prot := by decide
theorem annots_notProt : kAnnots ∉ Prot := by decide
theorem resources_notProt : kResources ∉ Prot := by decide
theorem xobject_notProt : kXObject ∉ Prot := by decide
theorem extgstate_notProt : kExtGState ∉ Prot := by decide

theorem mildStep_setDictEntry (Ex : ObjId → Prop) (d : Doc) (id : ObjId) (key : Bytes) (v : Obj) (hk : key ∉ Prot)
    (hr : ∀ r ∈ refsOf v, Ex r) : MildStep Ex d (setDictEntry d id key v).1 := by
  rcases setDictEntry_frame d id key v with ⟨_, he⟩ | ⟨t, pd, _, hg, f1, _, f3, f4⟩
  · rw [he]; exact mildStep_refl Ex d
  · refine ⟨f1, ?_, ?_⟩
    · intro k o ho
      by_cases e : k = t
      · subst e; rw [hg] at ho; cases ho
        exact ⟨_, f3, mild_dictSet Ex pd key v hk (fun r h => Or.inr (hr r h))⟩
      · exact ⟨o, by rw [f4 k e]; exact ho, mild_refl Ex o⟩
    · intro k o' h1 h2
      by_cases e : k = t
      · subst e; rw [hg] at h1; cases h1
      · rw [f4 k e, h1] at h2; cases h2

theorem refs_contentsList (page : Dict) (r : ObjId) (h : r ∈ refsOfL (contentsList page)) : r ∈ refsOfD page := by
  unfold contentsList at h
  split at h
  · rename_i n g hc; exact Ren.mem_refsOfD_of_get page CONTENTS _ hc r (by simpa [refsOfL, refsOf] using h)
  · rename_i a hc; exact Ren.mem_refsOfD_of_get page CONTENTS _ hc r (by simpa [refsOf] using h)
  · simp [refsOfL] at h

theorem refs_streamNew (c : Bytes) : refsOf (streamNew [] c) = [] := by
  simp [streamNew, Dict.set, refsOf, refsOfD]

theorem mildStep_addPageContents (d : Doc) (pg : ObjId) (content : Bytes) (d' : Doc) (out : Out) (hinv : Inv d)
    (h : addPageContents d pg content = .ok (d', out)) :
    MildStep (fun r => (r = (d.maxId + 1, 0) ∧ (d'.objects.get r).isSome) ∨ HasRef d r) d d' := by
  suffices key : ∀ res : Doc × Out, addPageContents d pg content = .ok res →
      MildStep (fun r => (r = (d.maxId + 1, 0) ∧ (res.1.objects.get r).isSome) ∨ HasRef d r) d res.1 from key _ h
  intro res h
  revert h
  fun_cases addPageContents d pg content <;> intro h <;> cases h
  · exact mildStep_refl _ d
  · rename_i page hg _
    have hnew := (newContent_frame d pg content (.arr (contentsList page ++ [.ref (d.maxId + 1) 0])) _ rfl).2.2.1
    obtain ⟨k0, hk0⟩ := getDictionary_mem d.objects pg page hg
    apply mildStep_trans (mildStep_addObject _ d (streamNew [] content) (fresh_id d hinv) (by rw [refs_streamNew]; simp))
    apply mildStep_setDictEntry _ _ _ _ _ contents_notProt
    intro r hr
    simp only [refsOf] at hr
    obtain ⟨x, hx, hrx⟩ := (mem_refsOfL_iff r _).mp hr
    rcases List.mem_append.mp hx with hx | hx
    · exact Or.inr (Or.inr ⟨k0, _, hk0, by simp only [refsOf]; exact refs_contentsList page r ((mem_refsOfL_iff r _).mpr ⟨x, hx, hrx⟩)⟩)
    · simp at hx; subst hx; simp [refsOf] at hrx; subst hrx; exact Or.inl ⟨rfl, by rw [hnew]; rfl⟩

theorem refs_retain (id : ObjId) (a : List Obj) (r : ObjId) (h : r ∈ refsOfL (retainNotRef id a)) : r ∈ refsOfL a := by
  obtain ⟨x, hx, hr⟩ := (mem_refsOfL_iff r _).mp h
  exact (mem_refsOfL_iff r _).mpr ⟨x, (List.mem_filter.mp hx).1, hr⟩

theorem mild_of_annotRel (Ex : ObjId → Prop) (id : ObjId) (o o' : Obj) (h : AnnotRel id o o') : Mild Ex o o' := by
  rcases h with rfl | ⟨pd, a, rfl, hg, rfl⟩
  · exact mild_refl Ex _
  · apply mild_dictSet Ex pd kAnnots _ annots_notProt
    intro r hr
    simp only [refsOf] at hr
    exact Or.inl (Ren.mem_refsOfD_of_get pd kAnnots _ hg r (by simp only [refsOf]; exact refs_retain id a r hr))

/-- `remove_object` -/
theorem mildStep_removeAnnot (Ex : ObjId → Prop) (id : ObjId) (pages : List ObjId) (d : Doc) :
    MildStep Ex d (removeAnnot id pages d).1 := by
  obtain ⟨f1, _, f3⟩ := removeAnnot_frame id pages d
  refine ⟨f1, ?_, ?_⟩
  · intro k o ho
    obtain ⟨o', e, r⟩ := (f3 k).2 o ho
    exact ⟨o', e, mild_of_annotRel Ex id o o' r⟩
  · intro k o' h1 h2
    rw [(f3 k).1 h1] at h2; cases h2

/-- `get_or_create_resources`: at most one page dictionary gains a `Resources` entry (a copy of inherited ones) -/
theorem mildStep_getOrCreate (Ex : ObjId → Prop) (d : Doc) (pg : ObjId) (d1 : Doc) (loc : ResLoc)
    (hex : ∀ r, HasRef d r → Ex r)
    (h : getOrCreateResources d pg = some (d1, loc)) : MildStep Ex d d1 := by
  revert h
  fun_cases getOrCreateResources d pg <;> intro h
  · cases h
  · obtain ⟨t, _, he⟩ := Option.map_eq_some_iff.mp h
    cases he; exact mildStep_refl _ d
  · cases h
  · cases h; exact mildStep_refl _ d
  · cases h
    rename_i page _ _ _ t _ pd hpd _
    apply mildStep_setObj _ d t _ _ hpd
    apply mild_dictSet _ pd kResources _ resources_notProt
    intro r hr
    simp only [refsOf] at hr
    obtain ⟨k, o, hk, hro⟩ := inheritedRes_refs d.objects page r hr
    exact Or.inr (hex r (Or.inr ⟨k, o, hk, hro⟩))
  · cases h

/-- the resource dictionary with the sub-dictionary `cat` (created empty when missing) gaining `name -> tgt` -/
theorem mild_subEntry (Ex : ObjId → Prop) (res : Dict) (cat name : Bytes) (tgt : ObjId) (hc : cat ∉ Prot) (hx : Ex tgt)
    (sd : Dict) (hsd : Dict.get (if Dict.has res cat then res else Dict.set res cat (.dict [])) cat = some (.dict sd)) :
    Mild Ex (.dict res) (.dict (Dict.set (if Dict.has res cat then res else Dict.set res cat (.dict [])) cat
      (.dict (Dict.set sd name (.ref tgt.1 tgt.2))))) := by
  have h1 : Mild Ex (.dict res) (.dict (if Dict.has res cat then res else Dict.set res cat (.dict []))) := by
    split
    · exact mild_refl Ex _
    · exact mild_dictSet Ex res cat _ hc (by intro r hr; simp [refsOf, refsOfD] at hr)
  apply mild_trans h1
  apply mild_dictSet Ex _ cat _ hc
  intro r hr
  simp only [refsOf] at hr
  rcases refs_dictSet sd name _ r hr with h | h
  · exact Or.inl (Ren.mem_refsOfD_of_get _ cat _ hsd r (by simpa [refsOf] using h))
  · simp [refsOf] at h; subst h; exact Or.inr hx

theorem mildStep_writeLoc (Ex : ObjId → Prop) (d1 : Doc) (loc : ResLoc) (res v : Dict)
    (h : readLoc d1.objects loc = some (.dict res)) (hm : Mild Ex (.dict res) (.dict v)) :
    MildStep Ex d1 { d1 with objects := writeLoc d1.objects loc (.dict v) } := by
  cases loc with
  | obj id =>
    simp only [readLoc] at h
    simp only [writeLoc]
    exact mildStep_setObj Ex d1 id _ _ h hm
  | entry t =>
    simp only [readLoc] at h
    simp only [writeLoc]
    split at h
    · rename_i pd hpd
      apply mildStep_setObj Ex d1 t _ _ hpd
      apply mild_dictSet Ex pd kResources _ resources_notProt
      intro r hr
      rcases hm.1 r hr with h1 | h1
      · exact Or.inl (Ren.mem_refsOfD_of_get pd kResources _ h r h1)
      · exact Or.inr h1
    · cases h

theorem mildStep_addXObject (d : Doc) (pg : ObjId) (name : Bytes) (xid : ObjId) (hn : name ∉ Prot) :
    MildStep (fun r => r = xid ∨ HasRef d r) d (addXObject d pg name xid).1 := by
  have m1 : ∀ d1 loc, getOrCreateResources d pg = some (d1, loc) → MildStep (fun r => r = xid ∨ HasRef d r) d d1 :=
    fun d1 loc h => mildStep_getOrCreate _ d pg d1 loc (fun r hr => Or.inr hr) h
  fun_cases addXObject d pg name xid
  case case1 => exact mildStep_refl _ d
  case case3 d1 loc hgo _ _ _ _ _ _ t _ xd hxd =>
    apply mildStep_trans (m1 d1 loc hgo)
    apply mildStep_setObj _ d1 t _ _ hxd
    apply mild_dictSet _ xd name _ hn
    intro r hr; simp [refsOf] at hr; subst hr; exact Or.inr (Or.inl rfl)
  case case5 d1 loc hgo res hres _ xd hx =>
    exact mildStep_trans (m1 d1 loc hgo)
      (mildStep_writeLoc _ d1 loc res _ hres (mild_subEntry _ res kXObject name xid xobject_notProt (Or.inl rfl) xd hx))
  all_goals exact m1 _ _ (by assumption)

theorem mildStep_addGState (d : Doc) (pg : ObjId) (name : Bytes) (gid : ObjId) :
    MildStep (fun r => r = gid ∨ HasRef d r) d (addGraphicsState d pg name gid).1 := by
  have m1 : ∀ d1 loc, getOrCreateResources d pg = some (d1, loc) → MildStep (fun r => r = gid ∨ HasRef d r) d d1 :=
    fun d1 loc h => mildStep_getOrCreate _ d pg d1 loc (fun r hr => Or.inr hr) h
  fun_cases addGraphicsState d pg name gid
  case case1 => exact mildStep_refl _ d
  case case2 d1 loc hgo res hres _ sd hx =>
    exact mildStep_trans (m1 d1 loc hgo)
      (mildStep_writeLoc _ d1 loc res _ hres (mild_subEntry _ res kExtGState name gid extgstate_notProt (Or.inl rfl) sd hx))
  all_goals exact m1 _ _ (by assumption)

theorem keep_stream (d : Dict) (c : Bytes) (o' : Obj) : Keep (.stream d c) o' := fun nd e => by cases e

theorem Retouched.refs {d d' : Dict} (h : Retouched d d') (r : ObjId) (hr : r ∈ refsOfD d') : r ∈ refsOfD d := by
  induction h with
  | refl => exact hr
  | remove k _ ih => exact ih (refs_dictRemove _ k r hr)
  | setInt k i _ ih => exact (refs_dictSet _ k _ r hr).elim ih (by simp [refsOf])
  | setName k n _ ih => exact (refs_dictSet _ k _ r hr).elim ih (by simp [refsOf])

theorem Retouched.mild (Ex : ObjId → Prop) {d d' : Dict} (h : Retouched d d') (c c' : Bytes) :
    Mild Ex (.stream d c) (.stream d' c') :=
  ⟨fun r hr => Or.inl (h.refs r hr), keep_stream _ _ _⟩

theorem mildStep_changeContentStream (Ex : ObjId → Prop) (f : Bytes → Bytes) (d : Doc) (sid : ObjId) (c : Bytes) :
    MildStep Ex d (changeContentStream f d sid c) := by
  fun_cases changeContentStream f d sid c
  · rename_i dict c0 hg
    obtain ⟨d', c', e, hr⟩ := retouched_plainThenCompress (f c) dict c
    exact mildStep_setObj Ex d sid _ _ hg (e ▸ hr.mild Ex c0 c')
  · exact mildStep_refl Ex d

theorem mildStep_changePageContent (f : Bytes → Bytes) (d : Doc) (pg : ObjId) (c : Bytes) (d' : Doc) (out : Out) (hinv : Inv d)
    (h : changePageContent f d pg c = .ok (d', out)) :
    MildStep (fun r => r = (d.maxId + 1, 0) ∧ (d'.objects.get r).isSome) d d' := by
  suffices key : ∀ res : Doc × Out, changePageContent f d pg c = .ok res →
      MildStep (fun r => r = (d.maxId + 1, 0) ∧ (res.1.objects.get r).isSome) d res.1 from key _ h
  intro res h
  revert h
  fun_cases changePageContent f d pg c <;> intro h <;> cases h
  case case2 | case3 => exact mildStep_changeContentStream _ f d _ c
  case case6 =>
    have hnew := (newContent_frame d pg c (.ref (d.maxId + 1) 0) _ rfl).2.2.1
    apply mildStep_trans (mildStep_addObject _ d (streamNew [] c) (fresh_id d hinv) (by rw [refs_streamNew]; simp))
    apply mildStep_setDictEntry _ _ _ _ _ contents_notProt
    intro r hr; simp [refsOf] at hr; subst hr; exact ⟨rfl, by rw [hnew]; rfl⟩
  all_goals exact mildStep_refl _ d

theorem mild_compressObj (Ex : ObjId → Prop) (f : Bytes → Bytes) (al : ObjId → Bool) (id : ObjId) (o : Obj) :
    Mild Ex o (compressObj f al id o) := by
  cases o <;> simp only [compressObj] <;> try exact mild_refl Ex _
  split
  · exact (retouched_compress f _ _).mild Ex _ _
  · exact mild_refl Ex _

theorem mild_decompressObj (Ex : ObjId → Prop) (ext : Ext) (o : Obj) : Mild Ex o (decompressObj ext o) := by
  cases o <;> simp only [decompressObj] <;> try exact mild_refl Ex _
  split
  · rename_i s hs; exact (retouched_decompress ext _ _ s hs).mild Ex _ _
  · exact mild_refl Ex _

theorem mildStep_mapVals (Ex : ObjId → Prop) (d : Doc) (g : ObjId → Obj → Obj) (hg : ∀ k o, Mild Ex o (g k o)) :
    MildStep Ex d { d with objects := d.objects.map fun p => (p.1, g p.1 p.2) } := by
  refine ⟨rfl, fun k o ho => ⟨_, by simp only [Objects.get_mapVals, ho, Option.map_some], hg k o⟩, fun k o' h1 h2 => ?_⟩
  simp only [Objects.get_mapVals, h1, Option.map_none] at h2; cases h2

theorem mildStep_compress (Ex : ObjId → Prop) (f : Bytes → Bytes) (al : ObjId → Bool) (d : Doc) :
    MildStep Ex d { d with objects := docCompress f al d.objects } := by
  rw [docCompress_eq]; exact mildStep_mapVals Ex d _ (mild_compressObj Ex f al)

theorem mildStep_decompress (Ex : ObjId → Prop) (ext : Ext) (d : Doc) :
    MildStep Ex d { d with objects := docDecompress ext d.objects } := by
  rw [docDecompress_eq]; exact mildStep_mapVals Ex d _ fun _ => mild_decompressObj Ex ext

end Lopdf.Ed
