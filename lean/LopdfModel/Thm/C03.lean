import LopdfModel.Lemmas.FileSecs
/-
  C03 — property theorems about the bytes `save` produces (model `saveDoc`).
  The strict reader itself (every byte accounted for, objects recovered) runs on the REAL bytes
  in the harness (`harness/src/strict.rs`) — the model's bytes are the real bytes by the
  `save` correspondence.
-/
namespace Lopdf
open Gen

def headerBytes (n g : Nat) : Bytes := natDigits n ++ [32] ++ natDigits g ++ [32, 111, 98, 106, 10]

/-- at byte offset `off` of `out` stands the header `n g obj\n` -/
def HeaderAt (out : Bytes) (off n g : Nat) : Prop := headerBytes n g <+: out.drop off

def OffsetsOk (out : Bytes) (x : XrefMap) : Prop :=
  ∀ n off g, x.get n = some (off, g) → HeaderAt out off n g

theorem writeIndirect_header (n g : Nat) (o : Obj) : headerBytes n g <+: writeIndirect n g o := by
  unfold writeIndirect headerBytes
  refine ⟨(if needSeparator o then [32] else []) ++ writeObj o ++
    (if needEndSeparator o then [32] else []) ++ [10, 101, 110, 100, 111, 98, 106, 10], ?_⟩
  simp only [List.append_assoc]

theorem writeObjects_prefix : ∀ (os : Objects) (out : Bytes) (x : XrefMap),
    out <+: (writeObjects os out x).1 := by
  intro os
  induction os with
  | nil => intro out x; simp [writeObjects]
  | cons p rest ih =>
    intro out x
    obtain ⟨⟨n, g⟩, o⟩ := p
    simp only [writeObjects]
    split
    · exact ih out x
    · exact List.IsPrefix.trans (List.prefix_append _ _) (ih _ _)

theorem HeaderAt_append (out w : Bytes) (off n g : Nat) (h : HeaderAt out off n g) :
    HeaderAt (out ++ w) off n g := by
  unfold HeaderAt at *
  rw [List.drop_append]
  exact List.IsPrefix.trans h (List.prefix_append _ _)

theorem OffsetsOk.insert {out : Bytes} {x : XrefMap} (h : OffsetsOk out x) (hl : out.length < 4294967296)
    (n g : Nat) (o : Obj) (w : Bytes) :
    OffsetsOk (out ++ (writeIndirect n g o ++ w)) (x.insert n (out.length % 4294967296, g)) := by
  intro m off g' hget
  by_cases hm : m = n
  · subst hm
    rw [XrefMap.get_insert_same, Nat.mod_eq_of_lt hl] at hget
    cases hget
    unfold HeaderAt
    rw [List.drop_left]
    exact (writeIndirect_header m g o).trans (List.prefix_append _ _)
  · rw [XrefMap.get_insert_other _ _ _ _ hm] at hget
    exact HeaderAt_append _ _ _ _ _ (h m off g' hget)

/-- **Offset invariant.** Whatever the objects (any kinds, sparse numbers, any generations),
after the object loop of `save` every recorded cross-reference entry `n ↦ (off, g)` points at
the bytes `n g obj\n` — provided the file stays below 4 GiB (offsets are `u32`). -/
theorem writeObjects_offsets : ∀ (os : Objects) (out : Bytes) (x : XrefMap),
    OffsetsOk out x → (writeObjects os out x).1.length < 4294967296 →
    OffsetsOk (writeObjects os out x).1 (writeObjects os out x).2 := by
  intro os
  induction os with
  | nil => intro out x h _; simpa [writeObjects] using h
  | cons p rest ih =>
    intro out x h hlen
    obtain ⟨⟨n, g⟩, o⟩ := p
    simp only [writeObjects] at hlen ⊢
    split
    · rename_i hs; simp only [hs, if_true] at hlen; exact ih out x h hlen
    · rename_i hs
      simp only [hs, Bool.false_eq_true, if_false] at hlen
      have hl : out.length < 4294967296 := by
        have := (writeObjects_prefix rest (out ++ writeIndirect n g o)
          (x.insert n (out.length % 4294967296, g))).length_le
        simp only [List.length_append] at this
        omega
      exact ih _ _ (by simpa only [List.append_nil] using h.insert hl n g o []) hlen

/-- **Table entries are 20 bytes.** For all offsets and generations the writer can record. -/
theorem table_entry_20 (e : Option (Nat × Nat))
    (h : ∀ off g, e = some (off, g) → off < 4294967296 ∧ g < 65536) :
    (xrefEntryLine e).length = 20 := by
  cases e with
  | none => exact xrefEntryLine_length_none
  | some p =>
    obtain ⟨off, g⟩ := p
    obtain ⟨h1, h2⟩ := h off g rfl
    exact xrefEntryLine_length_some off g (by omega) (by omega)

namespace FileRT
open Lopdf

def hdrOf (pre : Bytes) (d : SDoc) : Bytes := pre ++ PDF_KW ++ d.version ++ [10] ++ [37] ++ d.binaryMark ++ [10]
/-- header and objects: everything before the cross-reference section -/
def bodyOf (pre : Bytes) (d : SDoc) : Bytes := (writeObjects d.objects (hdrOf pre d) []).1
/-- the entries the object loop recorded -/
def xmapOf (pre : Bytes) (d : SDoc) : XrefMap := (writeObjects d.objects (hdrOf pre d) []).2

/-- the map of a cross-reference-stream save: the stream's own entry added -/
def xmapStream (pre : Bytes) (d : SDoc) : XrefMap :=
  (xmapOf pre d).insert (d.maxId + 1) ((bodyOf pre d).length % 4294967296, 0)

def streamTrailer (pre : Bytes) (d : SDoc) : Dict :=
  let secs := streamSecs (xmapStream pre d) (d.maxId + 1)
  ((((((d.trailer.set TYPE (.name XREF_NAME)).set SIZE (.int (d.maxId + 1 + 1))).set W_KEY
    (.arr (XREF_W.map fun (w : Nat) => Obj.int (Int.ofNat w)))).set INDEX (xrefStreamIndex secs)).remove FILTER).set
    LENGTH (.int (xrefStreamContent secs).length))

theorem saveFrom_table_eq (pre : Bytes) (d : SDoc) (out : Bytes) (d' : SDoc) (hk : d.xrefKind = .table)
    (h : saveFrom pre d = some (out, d')) :
    out = bodyOf pre d ++ writeXrefTable (xmapOf pre d) (d.maxId + 1) ++ TRAILER_KW
        ++ writeObj (.dict (d.trailer.set SIZE (.int (d.maxId + 1))))
        ++ STARTXREF_KW ++ natDigits (bodyOf pre d).length ++ EOF_KW
      ∧ d'.trailer = d.trailer.set SIZE (.int (d.maxId + 1)) := by
  unfold saveFrom at h
  split at h
  · cases h
  · simp only [hk] at h
    cases h
    exact ⟨rfl, rfl⟩

theorem saveFrom_stream_eq (pre : Bytes) (d : SDoc) (out : Bytes) (d' : SDoc) (hk : d.xrefKind = .stream)
    (h : saveFrom pre d = some (out, d')) :
    out = bodyOf pre d ++ writeIndirect (d.maxId + 1) 0
          (.stream (streamTrailer pre d) (xrefStreamContent (streamSecs (xmapStream pre d) (d.maxId + 1))))
        ++ STARTXREF_KW ++ natDigits (bodyOf pre d).length ++ EOF_KW
      ∧ d'.trailer = streamTrailer pre d := by
  unfold saveFrom at h
  split at h
  · cases h
  · simp only [hk] at h
    cases h
    have e : d.maxId + 2 = (d.maxId + 1) + 1 := rfl
    simp only [streamTrailer, xmapStream, bodyOf, xmapOf, hdrOf, ← xrefStreamLoop_secs, e]
    exact ⟨rfl, rfl⟩

end FileRT

/-- **startxref (table).** The saved file is `body ++ "xref\n" … "trailer\n" dict "\nstartxref\n" N "\n%%EOF"`
with `N = |body|`: `startxref` holds the byte offset of the `xref` keyword, and `Size = max_id + 1`. -/
theorem save_table_shape (pre : Bytes) (d : SDoc) (out : Bytes) (d' : SDoc) (hk : d.xrefKind = .table)
    (h : saveFrom pre d = some (out, d')) :
    ∃ body x, out = body ++ (XREF_KW ++ xrefTableLoop x ((List.range (d.maxId + 1)).drop 1) 0 [none] [])
        ++ TRAILER_KW ++ writeObj (.dict d'.trailer) ++ STARTXREF_KW ++ natDigits body.length ++ EOF_KW
      ∧ d'.trailer.get SIZE = some (.int (d.maxId + 1)) := by
  obtain ⟨hout, htr⟩ := FileRT.saveFrom_table_eq pre d out d' hk h
  exact ⟨_, _, by rw [hout, htr]; rfl, by rw [htr]; exact Dict.get_set_same _ _ _⟩

/-- the offset invariant for the whole object section of a saved file -/
theorem save_offsets (pre : Bytes) (d : SDoc) (hlen : (writeObjects d.objects (pre ++ PDF_KW ++ d.version ++ [10] ++ [37] ++ d.binaryMark ++ [10]) []).1.length < 4294967296) :
    OffsetsOk (writeObjects d.objects (pre ++ PDF_KW ++ d.version ++ [10] ++ [37] ++ d.binaryMark ++ [10]) []).1
      (writeObjects d.objects (pre ++ PDF_KW ++ d.version ++ [10] ++ [37] ++ d.binaryMark ++ [10]) []).2 :=
  writeObjects_offsets _ _ [] (fun _ _ _ h => by cases h) hlen

/-- **startxref (cross-reference stream).** The saved file is `body ++ (N+1) 0 obj … endobj "\nstartxref\n" |body| "\n%%EOF"`:
`startxref` holds the offset of the cross-reference stream's own header, whose number is the old
max_id + 1; `Size = max_id + 2`, `W = [1 4 2]`, `Type = XRef`, `Length` = the content length. -/
theorem save_stream_shape (pre : Bytes) (d : SDoc) (out : Bytes) (d' : SDoc) (hk : d.xrefKind = .stream)
    (h : saveFrom pre d = some (out, d')) :
    ∃ body content, out = body ++ writeIndirect (d.maxId + 1) 0 (.stream d'.trailer content)
        ++ STARTXREF_KW ++ natDigits body.length ++ EOF_KW
      ∧ d'.trailer.get LENGTH = some (.int content.length) ∧ d'.maxId = d.maxId + 1 := by
  unfold saveFrom at h
  split at h
  · cases h
  · simp only [hk] at h
    cases h
    exact ⟨_, _, rfl, Dict.get_set_same _ _ _, rfl⟩

theorem xrefStreamContent_length (secs : List (Nat × List (Nat × Nat))) :
    (xrefStreamContent secs).length = 7 * (secs.map fun s => s.2.length).sum := by
  have hes : ∀ es : List (Nat × Nat),
      ((es.map fun (p : Nat × Nat) => [1] ++ beBytesW 4 p.1 ++ beBytesW 2 p.2).flatten).length = 7 * es.length := by
    intro es
    induction es with
    | nil => rfl
    | cons e es ihe =>
      simp only [List.map_cons, List.flatten_cons, List.length_append, ihe, beBytesW_length, List.length_cons,
        List.length_nil]
      omega
  induction secs with
  | nil => rfl
  | cons s rest ih =>
    simp only [xrefStreamContent] at ih ⊢
    simp only [List.map_cons, List.flatten_cons, List.length_append, List.sum_cons, ih, hes]
    omega

end Lopdf
