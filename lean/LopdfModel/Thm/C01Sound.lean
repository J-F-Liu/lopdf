import LopdfModel.Thm.C01Cycle
import LopdfModel.Thm.C02Composite
/-
  C01 / C14 — SOUNDNESS of the object parser: whatever `_direct_objects` / `_direct_object` /
  `parser::direct_object` return is well-formed (`WFParsed`): integers within i64, references
  within u32 × u16, reals carried as a text of the `real` grammar (`DerivesReal`), dictionaries
  with pairwise distinct keys, arrays / dictionaries nested at most MAX_NESTING − depth deep, never
  a stream.  Consequences: a parsed object whose reals are in `Display` form is in the scope of the
  object round trip and is its own normal form, so writing it and parsing again returns exactly it.
-/
namespace Lopdf.Grammar
open Lopdf Gen
open Lopdf.ObjRt (WF WFL WFD norm normL normD height heightL heightD RealOK normReal)

mutual
/-- what the parser can return -/
def WFParsed : Obj → Prop
  | .null => True
  | .bool _ => True
  | .int i => -(I64_MAX : Int) - 1 ≤ i ∧ i ≤ I64_MAX
  | .real t => DerivesReal t
  | .name _ => True
  | .str _ _ => True
  | .arr items => WFParsedL items
  | .dict es => (es.map (·.1)).Nodup ∧ WFParsedD es
  | .stream _ _ => False
  | .ref n g => n ≤ U32_MAX ∧ g ≤ U16_MAX
def WFParsedL : List Obj → Prop
  | [] => True
  | o :: r => WFParsed o ∧ WFParsedL r
def WFParsedD : List (Bytes × Obj) → Prop
  | [] => True
  | (_, v) :: r => WFParsed v ∧ WFParsedD r
end

mutual
/-- every real of the object is in `Display` form `[-]digits.digits*` (what `f32`'s `Display`
prints for a non-integral value, and the writer's `….0` form) -/
def DisplayReals : Obj → Prop
  | .real t => IsDecimal t
  | .arr items => DisplayRealsL items
  | .dict es => DisplayRealsD es
  | _ => True
def DisplayRealsL : List Obj → Prop
  | [] => True
  | o :: r => DisplayReals o ∧ DisplayRealsL r
def DisplayRealsD : List (Bytes × Obj) → Prop
  | [] => True
  | (_, v) :: r => DisplayReals v ∧ DisplayRealsD r
end

theorem spanP_fst_all (p : UInt8 → Bool) (l : Bytes) : ∀ b ∈ (spanP p l).1, p b = true := by
  induction l with
  | nil => intro b hb; simp [spanP] at hb
  | cons a as ih =>
    intro b hb
    simp only [spanP] at hb
    split at hb
    · rename_i ha
      simp only [List.mem_cons] at hb
      rcases hb with rfl | hb
      · exact ha
      · exact ih b hb
    · simp at hb

/-- `digit1` followed by a range check (`from_str`): a result lies in the range -/
theorem ranged_some {α : Type} {B : Nat} {g : Nat → α} {x : Option (Bytes × Bytes)} {a : α} {r : Bytes}
    (h : (x.bind fun (ds, r') => if digitsVal ds ≤ B then some (g (digitsVal ds), r') else none) = some (a, r)) :
    ∃ v, v ≤ B ∧ a = g v := by
  obtain ⟨⟨ds, r'⟩, _, h⟩ := Option.bind_eq_some_iff.mp h
  simp only at h
  split at h
  · rename_i hle; cases h; exact ⟨_, hle, rfl⟩
  · cases h

theorem pUnsigned_sound (mx : Nat) (inp : Bytes) (v : Nat) (r : Bytes) (h : pUnsigned mx inp = some (v, r)) : v ≤ mx := by
  obtain ⟨w, hw, rfl⟩ := ranged_some (g := id) h
  exact hw

theorem pReference_sound (inp : Bytes) (o : Obj) (r : Bytes) (h : pReference inp = some (o, r)) :
    ∃ n g, o = .ref n g ∧ n ≤ U32_MAX ∧ g ≤ U16_MAX := by
  rw [ObjRt.pReference_eq] at h
  obtain ⟨⟨n, r1⟩, h1, h⟩ := Option.bind_eq_some_iff.mp h
  obtain ⟨⟨g, r3⟩, h2, h⟩ := Option.map_eq_some_iff.mp h
  obtain ⟨⟨g', r2⟩, h2, h3⟩ := Option.bind_eq_some_iff.mp (show ObjRt.refTailS (space r1) = some (g, r3) from h2)
  cases h
  simp only at h3
  split at h3
  · cases h3; exact ⟨n, g, rfl, pUnsigned_sound _ _ _ _ h1, pUnsigned_sound _ _ _ _ h2⟩
  · cases h3

theorem pInteger_sound (inp : Bytes) (i : Int) (r : Bytes) (h : pInteger inp = some (i, r)) :
    -(I64_MAX : Int) - 1 ≤ i ∧ i ≤ I64_MAX := by
  unfold pInteger at h
  split at h
  · obtain ⟨v, hv, rfl⟩ := ranged_some (g := Int.ofNat) h; exact ObjRt.i64_of_magnitude false v hv
  · obtain ⟨v, hv, rfl⟩ := ranged_some (g := fun v => -(Int.ofNat v)) h; exact ObjRt.i64_of_magnitude true v hv
  · obtain ⟨v, hv, rfl⟩ := ranged_some (g := Int.ofNat) h; exact ObjRt.i64_of_magnitude false v hv

theorem optSign_sound (inp : Bytes) : IsSign (optSign inp).1 := by
  unfold optSign
  split
  · exact .plus
  · exact .minus
  · exact .none

/-- **`real` returns a text of the real grammar** -/
theorem pReal_sound (inp t r : Bytes) (h : pReal inp = some (t, r)) : DerivesReal t := by
  unfold pReal at h
  have hs := optSign_sound inp
  rcases hso : optSign inp with ⟨sign, r0⟩
  rw [hso] at hs h
  simp only at hs h
  have hd1 := spanP_fst_all isDigit r0
  rcases hsp : spanP isDigit r0 with ⟨d1, rr⟩
  rw [hsp] at hd1 h
  simp only at hd1 h
  split at h
  · rename_i a as r1 heq
    injection heq with e1 e2; subst e1; subst e2
    have hd2 := spanP_fst_all isDigit r1
    rcases hsp2 : spanP isDigit r1 with ⟨d2, r2⟩
    rw [hsp2] at hd2 h
    simp only at hd2 h
    injection h with h; injection h with h1 _
    rw [← h1]
    exact .mk sign (a :: as) d2 hs hd1 hd2 (Or.inl (by simp))
  · rename_i r1 heq
    injection heq with e1 e2; subst e1; subst e2
    have hd2 := spanP_fst_all isDigit r1
    rcases hsp2 : spanP isDigit r1 with ⟨d2, r2⟩
    rw [hsp2] at hd2 h
    simp only at hd2 h
    split at h
    · cases h
    · rename_i ds' r' hnil hpair
      injection hpair with e1 e2; subst e1; subst e2
      injection h with h; injection h with h1 _
      rw [← h1]
      have : sign ++ [46] ++ d2 = sign ++ [] ++ [46] ++ d2 := by simp
      rw [this]
      exact .mk sign [] d2 hs (by intro b hb; simp at hb) hd2 (Or.inr (fun e => hnil e))
  · cases h

theorem scalars_sound (inp : Bytes) (o : Obj) (r : Bytes) (h : ObjRt.scalars true inp = some (o, r)) :
    WFParsed o ∧ height o = 0 := by
  -- one alternative after the other, in the order of `scalars`
  unfold ObjRt.scalars at h
  split at h
  · cases h; exact ⟨trivial, rfl⟩
  split at h
  · cases h; exact ⟨trivial, rfl⟩
  split at h
  · cases h; exact ⟨trivial, rfl⟩
  split at h
  · rename_i href
    cases h
    obtain ⟨n, g, rfl, hn, hg⟩ := pReference_sound _ _ _ href
    exact ⟨⟨hn, hg⟩, rfl⟩
  split at h
  · rename_i hreal; cases h; exact ⟨pReal_sound _ _ _ hreal, rfl⟩
  split at h
  · rename_i hint; cases h; exact ⟨pInteger_sound _ _ _ hint, rfl⟩
  split at h
  · cases h; exact ⟨trivial, rfl⟩
  split at h
  · cases h; exact ⟨trivial, rfl⟩
  split at h
  · cases h; exact ⟨trivial, rfl⟩
  · cases h

/-- well-formed and nested at most `MAX_NESTING − depth` deep -/
def Good (depth : Nat) (o : Obj) : Prop := WFParsed o ∧ (depth ≤ MAX_NESTING → depth + height o ≤ MAX_NESTING)
def GoodL (depth : Nat) (os : List Obj) : Prop := WFParsedL os ∧ (depth ≤ MAX_NESTING → depth + heightL os ≤ MAX_NESTING)
def GoodD (depth : Nat) (es : List (Bytes × Obj)) : Prop :=
  WFParsedD es ∧ (depth ≤ MAX_NESTING → depth + heightD es ≤ MAX_NESTING)

theorem wfpd_set (acc : Dict) (k : Bytes) (v : Obj) (h : WFParsedD acc) (hv : WFParsed v) : WFParsedD (acc.set k v) := by
  induction acc with
  | nil => simp [Dict.set, WFParsedD, hv]
  | cons p rest ih =>
    obtain ⟨k', v'⟩ := p
    simp only [WFParsedD] at h
    simp only [Dict.set]
    split
    · simp only [WFParsedD]; exact ⟨hv, h.2⟩
    · simp only [WFParsedD]; exact ⟨h.1, ih h.2⟩

theorem heightD_set (acc : Dict) (k : Bytes) (v : Obj) : heightD (acc.set k v) ≤ max (heightD acc) (height v) := by
  induction acc with
  | nil => exact Nat.max_le.mpr ⟨Nat.le_max_right _ _, Nat.zero_le _⟩
  | cons p rest ih =>
    obtain ⟨k', v'⟩ := p
    simp only [Dict.set]
    split
    · -- `max (height v) (heightD rest) ≤ max (max (height v') (heightD rest)) (height v)`
      exact Nat.max_le.mpr ⟨Nat.le_max_right _ _, Nat.le_trans (Nat.le_max_right _ _) (Nat.le_max_left _ _)⟩
    · -- `max (height v') (heightD (rest.set k v)) ≤ max (max (height v') (heightD rest)) (height v)`
      refine Nat.max_le.mpr ⟨Nat.le_trans (Nat.le_max_left _ _) (Nat.le_max_left _ _), Nat.le_trans ih ?_⟩
      exact Nat.max_le.mpr ⟨Nat.le_trans (Nat.le_max_right _ _) (Nat.le_max_left _ _), Nat.le_max_right _ _⟩

theorem goodD_set (depth : Nat) (acc : Dict) (k : Bytes) (v : Obj) (h : GoodD depth acc) (hv : Good depth v) :
    GoodD depth (acc.set k v) := by
  refine ⟨wfpd_set acc k v h.1 hv.1, fun hd => ?_⟩
  have := heightD_set acc k v
  have h1 := h.2 hd
  have h2 := hv.2 hd
  omega

theorem goodL_nil (depth : Nat) : GoodL depth [] := ⟨trivial, fun hd => hd⟩

theorem many_sound (f depth : Nat) (Hd : ∀ inp o r, directObjects f depth inp = .ok o r → Good depth o) :
    ∀ (n : Nat) (inp : Bytes) (os : List Obj) (r : Bytes), manyObjects f depth n inp = some (os, r) → GoodL depth os := by
  intro n
  induction n with
  | zero =>
    intro inp os r h
    rw [manyObjects] at h
    cases h; exact goodL_nil depth
  | succ n ih =>
    intro inp os r h
    rw [manyObjects] at h
    split at h
    · rename_i o r1 hdir
      obtain ⟨⟨os', r'⟩, hm, h⟩ := Option.map_eq_some_iff.mp h
      cases h
      obtain ⟨r0, hdo⟩ := ObjRt.directObject_ok hdir
      have g1 := Hd _ _ _ hdo
      have g2 := ih _ _ _ hm
      exact ⟨⟨g1.1, g2.1⟩, fun hd => by
        have a := g1.2 hd; have b := g2.2 hd
        simp only [heightL]; omega⟩
    · cases h; exact goodL_nil depth
    · cases h

theorem goodD_setAll (depth : Nat) (es : List (Bytes × Obj)) : ∀ (acc : Dict), GoodD depth acc →
    (∀ e ∈ es, Good depth e.2) → GoodD depth (ObjRt.setAll acc es) := by
  induction es with
  | nil => intro acc h _; exact h
  | cons e r ih =>
    intro acc h hes
    exact ih _ (goodD_set depth acc e.1 e.2 h (hes e (by simp))) (fun x hx => hes x (by simp [hx]))

theorem dict_sound (f depth : Nat) (Hd : ∀ inp o r, directObjects f depth inp = .ok o r → Good depth o)
    (n : Nat) (inp : Bytes) (acc d : Dict) (r : Bytes) (h : dictEntries f depth n inp acc = some (d, r))
    (hacc : GoodD depth acc) : GoodD depth d := by
  obtain ⟨es, rfl, hes⟩ := ObjRt.dictEntries_setAll f depth n inp acc d r h
  exact goodD_setAll depth es acc hacc fun e he => by
    obtain ⟨i, r', hi⟩ := hes e he
    exact Hd i e.2 r' hi

theorem directObjects_sound : ∀ (f depth : Nat) (inp : Bytes) (o : Obj) (r : Bytes),
    directObjects f depth inp = .ok o r → Good depth o := by
  intro f
  induction f with
  | zero => intro depth inp o r h; rw [directObjects.eq_def] at h; cases h
  | succ f ih =>
    intro depth inp o r h
    cases hs : ObjRt.scalars true inp with
    | some p =>
      obtain ⟨o', r'⟩ := p
      rw [ObjRt.directObjects_scalar f depth inp o' r' hs] at h
      injection h with h1 _; subst h1
      obtain ⟨h1, h2⟩ := scalars_sound inp _ r' hs
      exact ⟨h1, fun hd => by rw [h2]; exact hd⟩
    | none =>
      rw [ObjRt.directObjects_compound f depth inp hs] at h
      unfold ObjRt.compound at h
      split at h
      · -- array
        split at h
        · cases h
        · rename_i hdep
          split at h
          · cases h
          · rename_i items r1 hm
            split at h
            · injection h with h1 _; subst h1
              have g := many_sound f (depth + 1) (fun inp o r hh => ih (depth + 1) inp o r hh) _ _ _ _ hm
              refine ⟨g.1, fun hd => ?_⟩
              have := g.2 (by omega)
              simp only [height]; omega
            · cases h
      · -- dictionary
        split at h
        · cases h
        · rename_i hdep
          split at h
          · cases h
          · rename_i es r1 hm
            split at h
            · injection h with h1 _; subst h1
              have g := dict_sound f (depth + 1) (fun inp o r hh => ih (depth + 1) inp o r hh) _ _ _ _ _ hm
                ⟨trivial, fun hd => by simp [heightD]; exact hd⟩
              have hn := ObjRt.dictEntries_nodup f (depth + 1) f _ [] es _ (by simp) hm
              refine ⟨⟨hn, g.1⟩, fun hd => ?_⟩
              have := g.2 (by omega)
              simp only [height]; omega
            · cases h
      · cases h

/-- **Soundness of `parser::direct_object`**: the object is well-formed and nests at most
MAX_NESTING deep. -/
theorem parseDirect_sound (inp : Bytes) (o : Obj) (r : Bytes) (h : parseDirect inp = some (o, r)) :
    WFParsed o ∧ height o ≤ MAX_NESTING := by
  unfold parseDirect at h
  cases hd : directObjects (inp.length + 1) 0 inp with
  | ok o' r' =>
    rw [ObjRt.directObject_of _ _ _ _ _ hd] at h
    injection h with h; injection h with h1 _; subst h1
    have g := directObjects_sound _ _ _ _ _ hd
    exact ⟨g.1, by have := g.2 (by omega); omega⟩
  | error => simp [directObject, hd] at h
  | failure => simp [directObject, hd] at h

theorem derivesReal_dot {t : Bytes} (h : DerivesReal t) : t.contains 46 = true := by
  cases h with
  | mk sign d1 d2 _ _ _ _ => simp

/-- a text of the real grammar is in `Display` form, or starts with `+`, or has no digit before
the point (`.5`, `-.5`): exactly these parsed reals are outside the scope of the round trip -/
theorem parsedReal_cases {t : Bytes} (h : DerivesReal t) :
    IsDecimal t ∨ (∃ r, t = 43 :: r) ∨ (∃ r, t = 46 :: r) ∨ (∃ r, t = 45 :: 46 :: r) := by
  cases h with
  | mk sign d1 d2 hs h1 h2 hne =>
    cases hs with
    | plus => right; left; exact ⟨d1 ++ [46] ++ d2, by simp⟩
    | none =>
      cases d1 with
      | nil => right; right; left; exact ⟨d2, by simp⟩
      | cons a as => left; exact ⟨⟨false, a :: as, d2, by simp, by simp, h1, h2⟩⟩
    | minus =>
      cases d1 with
      | nil => right; right; right; exact ⟨d2, by simp⟩
      | cons a as => left; exact ⟨⟨true, a :: as, d2, by simp, by simp, h1, h2⟩⟩

theorem derivesReal_of_decimal {t : Bytes} (h : IsDecimal t) : DerivesReal t := by
  obtain ⟨neg, d1, d2, rfl, hne, h1, h2⟩ := h.parts
  cases neg
  · simpa using DerivesReal.mk [] d1 d2 .none h1 h2 (Or.inl hne)
  · simpa using DerivesReal.mk [45] d1 d2 .minus h1 h2 (Or.inl hne)

/-- `.5` is a text of the real grammar that is not in `Display` form -/
theorem dot5_not_display : DerivesReal [46, 53] ∧ ¬ IsDecimal [46, 53] := by
  refine ⟨.mk [] [] [53] .none (by intro b hb; simp at hb) (by unfold AllDigits; decide) (by simp), ?_⟩
  intro h
  obtain ⟨neg, d1, d2, e, hne, hd, _⟩ := ObjRt.decimal_shape _ h
  obtain ⟨a, as, rfl⟩ := List.exists_cons_of_ne_nil hne
  have ha := ObjRt.digit_facts a (hd a (by simp))
  cases neg
  · injection e with e _; exact ha.2.2.2.2.2.1 e.symm
  · injection e with e _; cases e

example : DerivesReal [46, 53] ∧ ¬ IsDecimal [46, 53] := dot5_not_display

mutual
theorem norm_parsed : ∀ (o : Obj), WFParsed o → norm o = o
  | .real t, h => by
    have h : DerivesReal t := h
    simp only [norm, normReal, derivesReal_dot h, if_true]
  | .arr items, h => congrArg Obj.arr (normL_parsed items h)
  | .dict es, h => congrArg Obj.dict (normD_parsed es h.2)
  | .null, _ | .bool _, _ | .int _, _ | .name _, _ | .str _ _, _ | .ref _ _, _ | .stream _ _, _ => rfl
theorem normL_parsed : ∀ (items : List Obj), WFParsedL items → normL items = items
  | [], _ => rfl
  | o :: r, h => by
    show norm o :: normL r = o :: r
    rw [norm_parsed o h.1, normL_parsed r h.2]
theorem normD_parsed : ∀ (es : List (Bytes × Obj)), WFParsedD es → normD es = es
  | [], _ => rfl
  | (k, v) :: r, h => by
    show (k, norm v) :: normD r = (k, v) :: r
    rw [norm_parsed v h.1, normD_parsed r h.2]
end

mutual
theorem wf_of_parsed : ∀ (o : Obj), WFParsed o → DisplayReals o → WF (fun _ => True) o
  | .real _, _, hd => Or.inl hd
  | .arr items, h, hd => wfL_of_parsed items h hd
  | .dict es, h, hd => ⟨h.1, wfD_of_parsed es h.2 hd⟩
  | .int _, h, _ => h
  | .ref _ _, h, _ => h
  | .stream _ _, h, _ => h.elim
  | .str _ .lit, _, _ | .str _ .hex, _, _ | .null, _, _ | .bool _, _, _ | .name _, _, _ => trivial
theorem wfL_of_parsed : ∀ (items : List Obj), WFParsedL items → DisplayRealsL items → WFL (fun _ => True) items
  | [], _, _ => trivial
  | o :: r, h, hd => ⟨wf_of_parsed o h.1 hd.1, wfL_of_parsed r h.2 hd.2⟩
theorem wfD_of_parsed : ∀ (es : List (Bytes × Obj)), WFParsedD es → DisplayRealsD es → WFD (fun _ => True) es
  | [], _, _ => trivial
  | (_, v) :: r, h, hd => ⟨wf_of_parsed v h.1 hd.1, wfD_of_parsed r h.2 hd.2⟩
end

/-- **parse → write → parse (second cycle of a LOADED object).** Whatever object
`parser::direct_object` returned: if its reals are in `Display` form (what lopdf's `f32` prints —
a parsed `.5` or `+1.` is carried as that text by the model and printed differently by lopdf), then
writing it and parsing the written text returns EXACTLY the same object — no normalisation is
left to do, in any admissible following context. Hence a document written from a loaded document
reads back as the same document, object by object. -/
theorem reparse_written (inp : Bytes) (o : Obj) (r : Bytes) (h : parseDirect inp = some (o, r))
    (hd : DisplayReals o) (rest : Bytes) (hstop : ObjRt.Follow true o rest) :
    parseDirect (writeObj o ++ rest) = some (o, space rest) := by
  obtain ⟨hw, hh⟩ := parseDirect_sound inp o r h
  have := ObjRt.parseDirect_rt o rest (wf_of_parsed o hw hd) hh hstop
  rwa [norm_parsed o hw] at this

/-- the same at the level of `_direct_objects`, at any depth and fuel -/
theorem reparse_written_direct (f depth : Nat) (inp : Bytes) (o : Obj) (r : Bytes)
    (h : directObjects f depth inp = .ok o r) (hdep : depth ≤ MAX_NESTING) (hd : DisplayReals o)
    (fuel : Nat) (rest : Bytes) (hfuel : ObjRt.size o ≤ fuel) (hstop : ObjRt.Follow true o rest) :
    directObjects fuel depth (writeObj o ++ rest) = .ok o rest := by
  obtain ⟨hw, hh⟩ := directObjects_sound f depth inp o r h
  have := ObjRt.obj_rt o fuel depth rest (wf_of_parsed o hw hd) (hh hdep) hfuel hstop
  rwa [norm_parsed o hw] at this

/-- non-vacuity: the array `[1 2 3]` read from its spelling with free spacing (`exArr`, through the
completeness theorem) is written and read back unchanged -/
example : parseDirect (writeObj (.arr [.int 1, .int 2, .int 3]) ++ [10, 101]) =
    some (.arr [.int 1, .int 2, .int 3], space [10, 101]) :=
  reparse_written _ _ _
    (parseDirect_complete exArr [10] [101, 110, 100] (by decide) (.ws 10 _ (by decide) .nil)
      (by intro b r e; injection e with e _; subst e; decide) (fun h => by cases h))
    (by simp [DisplayReals, DisplayRealsL]) [10, 101] (by simp [ObjRt.Follow])

end Lopdf.Grammar
