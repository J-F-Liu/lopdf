import LopdfModel.Lemmas.FirstByte
import LopdfModel.Lemmas.Num
import LopdfModel.Spec.GrammarTokens
/-
  C02 — numbers: every spelling of an unsigned numeral / integer / real the grammar allows
  (`DerivesNat`, `DerivesInt`, `DerivesReal`: optional sign, any number of leading zeros,
  `4.`, `.5`, `-.5`, `+1.50`) is read by `digit1`/`unsigned_int`/`integer`/`real` to the value
  it denotes, whatever follows (anything that does not start with a digit).
-/
namespace Lopdf.Grammar
open Lopdf Gen

theorem derivesNat_facts {n : Nat} {ds : Bytes} (h : DerivesNat n ds) :
    ds ≠ [] ∧ AllDigits ds ∧ digitsVal ds = n := by
  induction h with
  | one d hd =>
    refine ⟨by simp, ?_, by simp [digitsVal]⟩
    intro b hb; simp at hb; subst hb; exact hd
  | snoc n ds d _ hd ih =>
    obtain ⟨_, h2, h3⟩ := ih
    refine ⟨by simp, ?_, by rw [digitsVal_append, h3]⟩
    intro b hb
    rcases List.mem_append.mp hb with hb | hb
    · exact h2 b hb
    · simp at hb; subst hb; exact hd

/-- the grammar is total on digit strings: every non-empty digit string denotes its value -/
theorem derivesNat_of_digits : ∀ (k : Nat) (ds : Bytes), ds.length = k + 1 → AllDigits ds →
    DerivesNat (digitsVal ds) ds := by
  intro k
  induction k with
  | zero =>
    intro ds hl hd
    match ds, hl with
    | [d], _ =>
      have := DerivesNat.one d (hd d (by simp))
      simpa [digitsVal] using this
  | succ k ih =>
    intro ds hl hd
    have hne : ds ≠ [] := by intro h; subst h; simp at hl
    have hsplit : ds = ds.dropLast ++ [ds.getLast hne] := (List.dropLast_concat_getLast hne).symm
    have h1 : ds.dropLast.length = k + 1 := by simp [hl]
    have h2 : AllDigits ds.dropLast := fun b hb => hd b (List.dropLast_subset ds hb)
    have h3 : isDigit (ds.getLast hne) = true := hd _ (List.getLast_mem hne)
    have := DerivesNat.snoc _ _ _ (ih ds.dropLast h1 h2) h3
    rw [← digitsVal_append, ← hsplit] at this
    exact this

theorem derivesNat_lit (n : Nat) (ds : Bytes) (k : Nat) (hl : ds.length = k + 1) (hd : AllDigits ds)
    (hv : digitsVal ds = n) : DerivesNat n ds := hv ▸ derivesNat_of_digits k ds hl hd

theorem nat_starts {n : Nat} {ds : Bytes} (h : DerivesNat n ds) : Starts (isDigit · = true) ds :=
  starts_of_forall (derivesNat_facts h).1 (derivesNat_facts h).2.1

theorem head_digit {n : Nat} {ds : Bytes} (h : DerivesNat n ds) (z : Bytes) :
    ∃ d r, ds ++ z = d :: r ∧ isDigit d = true := (nat_starts h).append z

theorem digit1_complete {n : Nat} {ds : Bytes} (h : DerivesNat n ds) (rest : Bytes)
    (hr : NoDigitAhead rest) : digit1 (ds ++ rest) = some (ds, rest) :=
  ObjRt.digit1_digits ds rest (derivesNat_facts h).1 (derivesNat_facts h).2.1 hr

theorem unsigned_eq {n : Nat} {ds : Bytes} (h : DerivesNat n ds) (mx : Nat) (rest : Bytes)
    (hr : NoDigitAhead rest) : pUnsigned mx (ds ++ rest) = if n ≤ mx then some (n, rest) else none := by
  rw [ObjRt.pUnsigned_digits mx ds rest (derivesNat_facts h).1 (derivesNat_facts h).2.1 hr, (derivesNat_facts h).2.2]

/-- **Unsigned numerals, every spelling** (object and generation numbers, cross-reference
fields): any number of leading zeros, value within the bound of the target type. -/
theorem unsigned_complete {n : Nat} {ds : Bytes} (h : DerivesNat n ds) (mx : Nat) (hn : n ≤ mx)
    (rest : Bytes) (hr : NoDigitAhead rest) : pUnsigned mx (ds ++ rest) = some (n, rest) := by
  rw [unsigned_eq h mx rest hr, if_pos hn]

theorem optSign_none (r : Bytes) (h : Ahead (fun c => c ≠ 43 ∧ c ≠ 45) r) : optSign r = ([], r) := by
  unfold optSign
  split
  · exact absurd rfl (h _ _ rfl).1
  · exact absurd rfl (h _ _ rfl).2
  · rfl

theorem digit_not_sign {c : UInt8} (h : isDigit c = true) : c ≠ 43 ∧ c ≠ 45 :=
  ⟨ne_of_class h (by decide), ne_of_class h (by decide)⟩

/-- **Integers, every spelling.** Optional `+`/`-`, any number of leading zeros, value within
`i64`: `integer` reads the denoted number, followed by any text not starting with a digit. -/
theorem int_complete (i : Int) (bs rest : Bytes) (h : DerivesInt i bs) (hr : NoDigitAhead rest) :
    pInteger (bs ++ rest) = some (i, rest) := by
  cases h with
  | unsigned n ds hd hn =>
    have hfirst := ((nat_starts hd).append rest).ahead fun c => digit_not_sign
    have hn' : n ≤ I64_MAX := hn
    unfold pInteger
    split
    · exact absurd rfl (hfirst _ _ ‹_›).1
    · exact absurd rfl (hfirst _ _ ‹_›).2
    · simp [digit1_complete hd rest hr, (derivesNat_facts hd).2.2, hn']
  | plus n ds hd hn =>
    have hn' : n ≤ I64_MAX := hn
    simp [pInteger, digit1_complete hd rest hr, (derivesNat_facts hd).2.2, hn']
  | minus n ds hd hn =>
    have hn' : n ≤ I64_MAX + 1 := hn
    simp [pInteger, digit1_complete hd rest hr, (derivesNat_facts hd).2.2, hn']

example : DerivesInt (-7) [45, 48, 48, 55] :=
  .minus 7 _ (.snoc 0 _ 55 (.snoc 0 _ 48 (.one 48 (by decide)) (by decide)) (by decide)) (by decide)
example : DerivesInt 9223372036854775807
    [43, 48, 57, 50, 50, 51, 51, 55, 50, 48, 51, 54, 56, 53, 52, 55, 55, 53, 56, 48, 55] :=
  .plus _ _ (derivesNat_of_digits 19 [48, 57, 50, 50, 51, 51, 55, 50, 48, 51, 54, 56, 53, 52, 55, 55, 53, 56, 48, 55]
    rfl (by unfold AllDigits; decide)) (by decide)

/-- `real` after the optional sign: digits with one decimal point -/
def realTail (sign r0 : Bytes) : Option (Bytes × Bytes) :=
  match spanP isDigit r0 with
  | (d1@(_ :: _), 46 :: r1) =>
    let (d2, r2) := spanP isDigit r1
    some (sign ++ d1 ++ [46] ++ d2, r2)
  | ([], 46 :: r1) =>
    match spanP isDigit r1 with
    | ([], _) => none
    | (d2, r2) => some (sign ++ [46] ++ d2, r2)
  | _ => none

theorem pReal_eq (inp : Bytes) : pReal inp = realTail (optSign inp).1 (optSign inp).2 := rfl

theorem realTail_complete (sign d1 d2 rest : Bytes) (h1 : AllDigits d1) (h2 : AllDigits d2)
    (hne : d1 ≠ [] ∨ d2 ≠ []) (hr : NoDigitAhead rest) :
    realTail sign (d1 ++ [46] ++ d2 ++ rest) = some (sign ++ d1 ++ [46] ++ d2, rest) := by
  have s1 : spanP isDigit (d1 ++ [46] ++ d2 ++ rest) = (d1, 46 :: (d2 ++ rest)) := by
    simpa using spanP_append isDigit d1 (46 :: (d2 ++ rest)) h1 (ahead_cons (by decide))
  have s2 : spanP isDigit (d2 ++ rest) = (d2, rest) := spanP_append isDigit d2 rest h2 hr
  rw [realTail, s1]
  cases d1 with
  | cons a as => simp [s2]
  | nil =>
    cases d2 with
    | nil => simp at hne
    | cons c cs => simp only [List.cons_append] at s2; simp [s2]

theorem realTail_none (sign ds rest : Bytes) (hd : AllDigits ds) (hr : NoDigitAhead rest)
    (hdot : ∀ r, rest ≠ 46 :: r) : realTail sign (ds ++ rest) = none := by
  rw [realTail, spanP_append isDigit ds rest hd hr]
  split
  · rename_i heq; injection heq with _ e; exact absurd e (hdot _)
  · rename_i heq; injection heq with _ e; exact absurd e (hdot _)
  · rfl

/-- **Reals, every spelling.** Optional sign, digits before and/or after one decimal point
(`4.`, `.5`, `-.5`, `+1.50`, leading zeros): `real` matches exactly the spelling (the text that
`f32::from_str` then converts), followed by any text not starting with a digit. -/
theorem real_complete (bs rest : Bytes) (h : DerivesReal bs) (hr : NoDigitAhead rest) :
    pReal (bs ++ rest) = some (bs, rest) := by
  cases h with
  | mk sign d1 d2 hs h1 h2 hne =>
    have key := realTail_complete sign d1 d2 rest h1 h2 hne hr
    rw [pReal_eq]
    cases hs with
    | plus => simpa [optSign] using key
    | minus => simpa [optSign] using key
    | none =>
      rw [optSign_none]
      · exact key
      · cases d1 with
        | nil => exact ahead_cons (by decide)
        | cons a as => exact ahead_cons (digit_not_sign (h1 a (by simp)))

example : DerivesReal [45, 46, 53] :=
  .mk [45] [] [53] .minus (by intro b hb; simp at hb) (by intro b hb; simp at hb; subst hb; decide) (by simp)
example : DerivesReal [43, 48, 49, 46, 53, 48] :=
  .mk [43] [48, 49] [53, 48] .plus (by intro b hb; simp at hb; rcases hb with h | h <;> subst h <;> decide)
    (by intro b hb; simp at hb; rcases hb with h | h <;> subst h <;> decide) (by simp)
example : DerivesReal [52, 46] :=
  .mk [] [52] [] .none (by intro b hb; simp at hb; subst hb; decide) (by intro b hb; simp at hb) (by simp)

end Lopdf.Grammar
