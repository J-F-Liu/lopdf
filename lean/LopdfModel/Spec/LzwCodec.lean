import LopdfModel.Model.Basic
/-
  PDF LZW (ISO 32000-1 §7.4.4) as a proof-friendly pair: reference ENCODER `lzwEncode` and list-based reference
  DECODER `lzwDecode` (same algorithm as the array-based `Spec.Lzw.go`, which the driver runs side by side with
  it), over an explicit bit layer.  Thm/C09Lzw.lean proves `lzwDecode ec (lzwEncode ec x) = some x` for every x.

  * codes are 9–12 bits wide, packed most-significant-bit first; the last byte is padded with zero bits;
  * 256 = clear table (the encoder starts with it and emits it again when the table is full), 257 = end of data;
  * new sequences get the codes 258, 259, …, 4095;
  * `EarlyChange` (`ec = true`, the default): the width grows one code early.
-/
namespace Lopdf.Spec.LzwC
open Lopdf

/-- the `w` low bits of `c`, most significant first -/
def codeBits : Nat → Nat → List Bool
  | 0, _ => []
  | w + 1, c => decide (c / 2 ^ w % 2 = 1) :: codeBits w (c % 2 ^ w)

/-- read `w` bits, most significant first -/
def readBits : Nat → List Bool → Option (Nat × List Bool)
  | 0, bs => some (0, bs)
  | _ + 1, [] => none
  | w + 1, b :: bs =>
    match readBits w bs with
    | none => none
    | some (v, r) => some ((if b then 2 ^ w else 0) + v, r)

theorem readBits_length : ∀ (w : Nat) (bs : List Bool) (v : Nat) (r : List Bool),
    readBits w bs = some (v, r) → r.length + w = bs.length := by
  intro w
  induction w with
  | zero => intro bs v r h; simp [readBits] at h; simp [h.2]
  | succ w ih =>
    intro bs v r h
    cases bs with
    | nil => simp [readBits] at h
    | cons b bs =>
      simp only [readBits] at h
      split at h
      · simp at h
      · rename_i v' r' h'
        simp only [Option.some.injEq, Prod.mk.injEq] at h
        obtain ⟨_, rfl⟩ := h
        have := ih bs v' r' h'
        simp only [List.length_cons]; omega

def toBits : Bytes → List Bool
  | [] => []
  | b :: rest => codeBits 8 b.toNat ++ toBits rest

/-- value of (at most 8) bits, padded on the right with zero bits to a whole byte -/
def byteOfBits (bs : List Bool) : UInt8 :=
  match readBits 8 (bs ++ List.replicate (8 - bs.length) false) with
  | some (v, _) => v.toUInt8
  | none => 0

def ofBits (bs : List Bool) : Bytes :=
  if h : bs = [] then [] else byteOfBits (bs.take 8) :: ofBits (bs.drop 8)
termination_by bs.length
decreasing_by
  cases bs with
  | nil => exact absurd rfl h
  | cons a t => simp; omega

/-- sequences of the codes 258, 259, … (entry `i` ↔ code `258 + i`) -/
abbrev Table := List Bytes

def CLEAR : Nat := 256
def EOD : Nat := 257
def FIRST : Nat := 258
/-- number of table entries when all 12-bit codes are used -/
def FULL : Nat := 3838

/-- the decoder's width rule after it has `next` codes assigned: grow when `next (+1 if early) ≥ 2^width` -/
def bump (ec : Bool) (wd next : Nat) : Nat :=
  if wd < 12 ∧ next + (if ec then 1 else 0) ≥ 2 ^ wd then wd + 1 else wd

/-- code of a sequence the encoder holds: a byte, or the first table entry equal to it -/
def codeOf (t : Table) (w : Bytes) : Nat :=
  match w with
  | [b] => b.toNat
  | _ => FIRST + t.findIdx (· == w)

/-- encoder main loop: `w` is the current (non-empty) phrase -/
def encLoop (ec : Bool) : Bytes → Table → Nat → Bytes → List Bool
  | [], t, wd, w => codeBits wd (codeOf t w) ++ codeBits (bump ec wd (FIRST + t.length)) EOD
  | b :: rest, t, wd, w =>
    if t.contains (w ++ [b]) then encLoop ec rest t wd (w ++ [b])
    else
      let wd' := bump ec wd (FIRST + t.length)
      let t' := t ++ [w ++ [b]]
      codeBits wd (codeOf t w) ++
        (if t'.length = FULL then codeBits wd' CLEAR ++ encLoop ec rest [] 9 [b]
         else encLoop ec rest t' wd' [b])

def encBits (ec : Bool) : Bytes → List Bool
  | [] => codeBits 9 CLEAR ++ codeBits 9 EOD
  | b :: rest => codeBits 9 CLEAR ++ encLoop ec rest [] 9 [b]

def lzwEncode (ec : Bool) (x : Bytes) : Bytes := ofBits (encBits ec x)

inductive End where | eod | truncated | invalid
  deriving Repr, DecidableEq

/-- decoder loop over the bit stream; returns what is decoded from here on and how the stream ended -/
def decLoop (ec : Bool) (bits : List Bool) (t : Table) (wd : Nat) (prev : Option Bytes) : Bytes × End :=
  if hw : wd = 0 then ([], .invalid) else
  match hr : readBits wd bits with
  | none => ([], .truncated)
  | some (code, rest) =>
    if code = CLEAR then decLoop ec rest [] 9 none
    else if code = EOD then ([], .eod)
    else
      match prev with
      | none =>
        if code < 256 then
          let r := decLoop ec rest t wd (some [code.toUInt8])
          (code.toUInt8 :: r.1, r.2)
        else ([], .invalid)
      | some p =>
        let next := FIRST + t.length
        let entry? : Option Bytes :=
          if code < 256 then some [code.toUInt8]
          else if code < next then t[code - FIRST]?
          else if code = next then some (p ++ [p.headD 0])
          else none
        match entry? with
        | none => ([], .invalid)
        | some e =>
          let t' := if next < 4096 then t ++ [p ++ [e.headD 0]] else t
          let r := decLoop ec rest t' (bump ec wd (FIRST + t'.length)) (some e)
          (e ++ r.1, r.2)
termination_by bits.length
decreasing_by
  all_goals
    have := readBits_length wd bits code rest hr
    omega

def lzwDecodeFull (ec : Bool) (inp : Bytes) : Bytes × End := decLoop ec (toBits inp) [] 9 none

/-- **reference decoder**: `some x` iff the stream ends with the end-of-data code and decodes to `x` -/
def lzwDecode (ec : Bool) (inp : Bytes) : Option Bytes :=
  match lzwDecodeFull ec inp with
  | (out, .eod) => some out
  | _ => none

end Lopdf.Spec.LzwC
