import LopdfModel.Model.Doc
import LopdfModel.Model.Pages
/-
  C10 — `Document::renumber_objects_with(starting_id)` (src/processor.rs) exactly as
  written: the page-order pass (enumerate `page_iter`, stable sort by id,
  `needs_ordering`, zip of page order with id order, temporary map,
  `rename_bookmark_pages` with the complete map (since the fix of F-C10-a), `traverse_objects`
  with the rename action, `replace.clear()`),
  then the dense pass (sorted ids, `replace` only for ids whose number changes,
  remove / temporary map / re-insert, `rename_bookmark_pages`, traversal)
  and `max_id = new_id - 1`.  `u32` arithmetic carries its panics (overflow checks on).
-/
namespace Lopdf

def U32_MAXE : Nat := 4294967295

/-- insertion into a list sorted by `le`, before the first element that is not smaller
(so that a right-to-left insertion sort is stable, like `slice::sort_by`). -/
def insertBy {α} (le : α → α → Bool) (x : α) : List α → List α
  | [] => [x]
  | y :: ys => if le x y then x :: y :: ys else y :: insertBy le x ys

/-- stable sort (`slice::sort_by`) -/
def sortBy {α} (le : α → α → Bool) (l : List α) : List α := l.foldr (insertBy le) []

def idLeE (a b : ObjId) : Bool := !idLt b a

/-- `BTreeMap<ObjectId, ObjectId>::get` on the `replace` map -/
def lookupId (m : List (ObjId × ObjId)) (k : ObjId) : Option ObjId :=
  match m with
  | [] => none
  | (a, b) :: rest => if a = k then some b else lookupId rest k

/-- the closure `|object| if let Reference(id) = object { if replace.contains_key(id) { *id = replace[id] } }` -/
def renameFn (m : List (ObjId × ObjId)) : Obj → Obj
  | .ref n g => match lookupId m (n, g) with
    | some (n', g') => .ref n' g'
    | none => .ref n g
  | o => o

theorem renameFn_size (m : List (ObjId × ObjId)) (o : Obj) : (renameFn m o).size ≤ o.size := by
  cases o with
  | ref n g => rw [renameFn]; split <;> exact Nat.le_refl _
  | _ => exact Nat.le_refl _

def renameAct (m : List (ObjId × ObjId)) : Action := ⟨renameFn m, renameFn_size m⟩

/-- `update_bookmark_pages`: depth-first over the bookmark tree; an id missing from the
table abandons the current list (`return`). `depth` bounds the recursion *depth* only
(bookmark tables built by `add_bookmark` are forests; on a cyclic table the real code
overflows the stack — outside the modelled domain). -/
def updatePages : Nat → BkTable → List Nat → ObjId → ObjId → BkTable
  | 0, t, _, _, _ => t
  | depth + 1, t, ids, old, new =>
    (ids.foldl (fun (st : BkTable × Bool) id =>
      if st.2 then st else
      match st.1.get id with
      | none => (st.1, true)
      | some b =>
        let t1 := if b.page = old then st.1.setPage id new else st.1
        let t2 := if b.children.isEmpty then t1 else updatePages depth t1 b.children old new
        (t2, false)) (t, false)).1

/-- `renumber_bookmarks` -/
def renumberBookmarks (bookmarks : List Nat) (t : BkTable) (old new : ObjId) : BkTable :=
  if bookmarks.isEmpty then t
  else updatePages (t.length + 1) t bookmarks old new

/-- state of the loop `for (old, new) in … { if let Some(object) = self.objects.remove(old) { objects.insert(new, object); replace.insert(old, new) } }`: remaining objects, temporary map, `replace` entries recorded (in order), bookmark table -/
structure MoveSt where
  objects : Objects
  tmp : Objects
  replace : List (ObjId × ObjId)
  bm : BkTable

/-- `if let Some(object) = self.objects.remove(old) { objects.insert(new, object); replace.insert(old, new) }` -/
def moveObj (st : MoveSt) (p : ObjId × ObjId) : MoveSt :=
  match st.objects.get p.1 with
  | some o => { st with objects := st.objects.remove p.1, tmp := st.tmp.insert p.2 o,
                        replace := st.replace ++ [(p.1, p.2)] }
  | none => st

/-- since the fix of F-C10-a the move loop no longer touches the bookmarks -/
def moveStep (_bookmarks : List Nat) (st : MoveSt) (p : ObjId × ObjId) : MoveSt := moveObj st p

/-- `rename_bookmark_pages`: every bookmark target goes through the COMPLETE map, once -/
def renameBkPages (replace : List (ObjId × ObjId)) (t : BkTable) : BkTable :=
  t.map fun (i, b) => (i, { b with page := (lookupId replace b.page).getD b.page })

/-- move all pairs, then re-insert the temporary map -/
def movePass (bookmarks : List Nat) (os : Objects) (bm : BkTable) (pairs : List (ObjId × ObjId)) : MoveSt :=
  let st := pairs.foldl (moveStep bookmarks) ⟨os, [], [], bm⟩
  { st with objects := st.tmp.foldl (fun acc kv => acc.insert kv.1 kv.2) st.objects,
            bm := renameBkPages st.replace st.bm }

/-- pairs of the page-order pass: k-th page in page order  ↦  (number of the k-th smallest page id, own generation) -/
def pagePairs (pages : List ObjId) : Option (List (ObjId × ObjId)) :=
  let pageOrder : List (Nat × ObjId) := (List.range pages.length).zip pages |>.map (fun (i, id) => (i + 1, id))
  let sorted := sortBy (fun a b => idLeE a.2 b.2) pageOrder
  let needs := ((List.range sorted.length).zip sorted).any (fun (j, a) => a.1 ≠ j + 1)
  if needs then
    let pages' := sortBy (fun (a b : Nat × ObjId) => a.1 ≤ b.1) sorted
    some ((pages'.zip sorted).map (fun (old, new) => (old.2, (new.2.1, old.2.2))))
  else none

/-- pairs of the dense pass: sorted ids, consecutive numbers from `start`, only ids whose number changes.
Returns the pairs and `start + n`; `none` = a number to hand out does not fit into `u32`. -/
def densePairs : List ObjId → Nat → List (ObjId × ObjId) → Option (List (ObjId × ObjId) × Nat)
  | [], newId, acc => some (acc, newId)
  | id :: rest, newId, acc =>
    let acc' := if id.1 ≠ newId then acc ++ [(id, (newId, id.2))] else acc
    -- `starting_id + offset as u32`: the number handed out must fit (overflow checks on); the cursor is
    -- never moved past the last one (fix of F-C10-c)
    if newId > U32_MAXE then none else densePairs rest (newId + 1) acc'

/-- `.filter(|id| listed.insert(*id))`: every id once, at its first position (fix of F-C11-d) -/
def firstOccAux (seen : List ObjId) : List ObjId → List ObjId
  | [] => []
  | x :: xs => if seen.contains x then firstOccAux seen xs else x :: firstOccAux (x :: seen) xs

def firstOcc (l : List ObjId) : List ObjId := firstOccAux [] l

/-- first half of `renumber_objects_with`: put the pages in page order (only when they are not); a page
the tree lists more than once is taken once -/
def pagePass (d : Doc) : Doc :=
  match pagePairs (firstOcc (pageIter d.trailer d.objects)) with
  | some pairs =>
    let st := movePass d.bookmarks d.objects d.bmTable pairs
    let r := traverse (renameAct st.replace) d.trailer st.objects
    { d with trailer := r.1, objects := r.2.1, bmTable := st.bm }
  | none => d

/-- second half: consecutive numbers from `start`, `max_id` = the last number handed out -/
def densePass (d1 : Doc) (start : Nat) : Outcome Doc :=
  match densePairs (sortBy idLeE d1.objects.keys) start [] with
  | none => .panic "add"
  | some (pairs, newId) =>
    let st := movePass d1.bookmarks d1.objects d1.bmTable pairs
    let r := traverse (renameAct st.replace) d1.trailer st.objects
    -- `last_id.unwrap_or_else(|| starting_id.saturating_sub(1))`; `newId = start + n`
    .ok { d1 with trailer := r.1, objects := r.2.1, bmTable := st.bm, maxId := newId - 1 }

/-- `Document::renumber_objects_with` -/
def renumber (d : Doc) (start : Nat) : Outcome Doc := densePass (pagePass d) start

end Lopdf
