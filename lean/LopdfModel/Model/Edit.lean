import LopdfModel.Model.Renumber
import LopdfModel.Model.Filters
import LopdfModel.Lemmas.Dict
/-
  C11 — the public editing calls as a state machine `step : Doc → Op → Outcome (Doc × Out)`:
  new_object_id, add_object, set_object (src/creator.rs); delete_object, prune_objects,
  delete_zero_length_streams, delete_pages, renumber_objects_with (src/processor.rs);
  add_page_contents (src/document.rs).
-/
namespace Lopdf

def isRefTo (id : ObjId) : Obj → Bool
  | .ref n g => (n, g) = id
  | _ => false

/-- `if let Some(index) = array.iter().position(is ref to id) { array.remove(index) }` — the FIRST match only: the array action
before the fix of F-C11-a (`delFn` filters every occurrence) -/
def eraseFirstRef (id : ObjId) : List Obj → List Obj
  | [] => []
  | x :: xs => if isRefTo id x then xs else x :: eraseFirstRef id xs

/-- `for key in keys { dict.remove(&key) }` with `keys` = all keys whose value is a reference to `id`
(collected first, in order); `remove` is `swap_remove`. -/
def removeKeys (d : Dict) (ks : List Bytes) : Dict := ks.foldl Dict.remove d

/-- `strip_dict`: remove every direct entry whose value is a reference to `id` -/
def stripDict (id : ObjId) (es : Dict) : Dict := removeKeys es ((es.filter (fun kv => isRefTo id kv.2)).map (·.1))

/-- since the fix of F-C11-a: EVERY array occurrence, plain dictionaries and a stream's own dictionary -/
def delFn (id : ObjId) : Obj → Obj
  | .arr items => .arr (items.filter (fun o => !isRefTo id o))
  | .dict es => .dict (stripDict id es)
  | .stream es c => .stream (stripDict id es) c
  | o => o

theorem sizeL_filter (p : Obj → Bool) (items : List Obj) : Obj.sizeL (items.filter p) ≤ Obj.sizeL items := by
  induction items with
  | nil => simp
  | cons x xs ih =>
    simp only [List.filter_cons]; split
    · simp only [Obj.sizeL]; omega
    · simp only [Obj.sizeL]; omega

theorem sizeL_eraseFirstRef (id : ObjId) (items : List Obj) : Obj.sizeL (eraseFirstRef id items) ≤ Obj.sizeL items := by
  induction items with
  | nil => simp [eraseFirstRef]
  | cons x xs ih =>
    simp only [eraseFirstRef]; split
    · simp only [Obj.sizeL]; omega
    · simp only [Obj.sizeL]; omega

theorem sizeD_append (a b : Dict) : Obj.sizeD (a ++ b) = Obj.sizeD a + Obj.sizeD b := by
  induction a with
  | nil => simp [Obj.sizeD]
  | cons p rest ih => obtain ⟨k, v⟩ := p; simp [Obj.sizeD, ih]; omega

theorem sizeD_remove (d : Dict) (k : Bytes) : Obj.sizeD (d.remove k) ≤ Obj.sizeD d := by
  rcases Dict.remove_cases d k with ⟨_, e⟩ | ⟨a, v, rfl, _, e⟩ | ⟨a, v, b, last, rfl, _, e⟩ <;> rw [e]
  · exact Nat.le_refl _
  · rw [sizeD_append]; exact Nat.le_add_right _ _
  · simp only [sizeD_append, Obj.sizeD]; omega

theorem sizeD_removeKeys (d : Dict) (ks : List Bytes) : Obj.sizeD (removeKeys d ks) ≤ Obj.sizeD d :=
  List.foldlRecOn (motive := fun d' => Obj.sizeD d' ≤ Obj.sizeD d) ks Dict.remove (Nat.le_refl _)
    fun d' h k _ => Nat.le_trans (sizeD_remove d' k) h

theorem delFn_size (id : ObjId) (o : Obj) : (delFn id o).size ≤ o.size := by
  cases o <;> simp [delFn, Obj.size, stripDict]
  · exact sizeL_filter _ _
  · exact sizeD_removeKeys _ _
  · exact sizeD_removeKeys _ _

def delAct (id : ObjId) : Action := ⟨delFn id, delFn_size id⟩

/-- `|_| {}` -/
def idAct : Action := ⟨fun o => o, fun _ => Nat.le_refl _⟩

inductive Op where
  | newId
  | add (o : Obj)
  | set (id : ObjId) (o : Obj)
  | del (id : ObjId)
  | prune
  | delZero
  | renumber (start : Nat)
  | delPages (nums : List Nat)
  | addContent (page : ObjId) (content : Bytes)
  | removeAnnot (id : ObjId)
  | addXObject (page : ObjId) (name : Bytes) (xid : ObjId)
  | addGState (page : ObjId) (name : Bytes) (gid : ObjId)
  | changeStream (sid : ObjId) (content deflated : Bytes)
  | changePage (page : ObjId) (content deflated : Bytes)
  | compress (deflate : Bytes → Bytes)
  | decompress (ext : Ext)

inductive Out where
  | unit
  | id (i : ObjId)
  | obj (o : Option Obj)
  | ids (l : List ObjId)
  | err

/-- `Document::delete_object` -/
def deleteObject (d : Doc) (id : ObjId) : Doc × Option Obj :=
  -- references held directly in the trailer are stripped first (they are not values of a visited object)
  let r := traverse (delAct id) (stripDict id d.trailer) d.objects
  ({ d with trailer := r.1, objects := r.2.1.remove id }, r.2.1.get id)

/-- `Document::prune_objects` -/
def pruneObjects (d : Doc) : Doc × List ObjId :=
  let r := traverse idAct d.trailer d.objects
  let ids := r.2.1.keys.filter (fun k => !r.2.2.contains k)
  ({ d with trailer := r.1, objects := ids.foldl Objects.remove r.2.1 }, ids)

def isEmptyStream : Option Obj → Bool
  | some (.stream _ c) => c.isEmpty
  | _ => false

/-- `Document::delete_zero_length_streams` -/
def deleteZeroLengthStreams (d : Doc) : Doc × List ObjId :=
  let ids := d.objects.keys.filter (fun k => isEmptyStream (d.objects.get k))
  (ids.foldl (fun d id => (deleteObject d id).1) d, ids)

def COUNT : Bytes := [67, 111, 117, 110, 116]
def PARENT : Bytes := [80, 97, 114, 101, 110, 116]
def CONTENTS : Bytes := [67, 111, 110, 116, 101, 110, 116, 115]
def LENGTHE : Bytes := [76, 101, 110, 103, 116, 104]

/-- decrement `Count` of one `Pages` dictionary, if it has an integer one -/
def decCount (pt : Dict) : Dict :=
  match (Dict.get pt COUNT).bind Obj.asInt with
  | some c => Dict.set pt COUNT (.int (c - 1))
  | none => pt

theorem unvisited_cons_lt (os : Objects) (seen : List ObjId) (id : ObjId) (v : Obj)
    (hk : id ∈ os.keys) (hs : seen.contains id = false) :
    unvisited (os.set id v) (id :: seen) < unvisited os seen := by
  unfold unvisited
  rw [Objects.keys_set]
  apply filter_length_lt _ _ _ id hk
  · simpa using hs
  · simp
  · intro y hy
    simp only [Bool.not_eq_true', List.contains_eq_mem, decide_eq_false_iff_not, List.mem_cons, not_or] at hy ⊢
    exact hy.2

/-- the `while let Ok(page_tree_id) = page_tree_ref` loop of `delete_pages` with its seen-set (fix of
F-C11-c): an ancestor id met a second time ends the walk. No fuel: every iteration marks an object that
had not been marked before. -/
def decCounts (os : Objects) (seen : List ObjId) (r : Option ObjId) : Objects :=
  match r with
  | none => os
  | some id =>
    if hs : seen.contains id then os
    else
      match hg : os.get id with
      | some (.dict pt) =>
        decCounts (os.set id (.dict (decCount pt))) (id :: seen) ((Dict.get (decCount pt) PARENT).bind Obj.asRef)
      | _ => os
termination_by unvisited os seen
decreasing_by
  exact unvisited_cons_lt os seen id _ (Objects.mem_keys_of_get hg) (by simpa using hs)

theorem decCounts_none (os : Objects) (seen : List ObjId) : decCounts os seen none = os := by rw [decCounts]

theorem decCounts_seen (os : Objects) (seen : List ObjId) (id : ObjId) (hs : seen.contains id = true) :
    decCounts os seen (some id) = os := by
  rw [decCounts]; simp only [hs, dite_true]

theorem decCounts_dict (os : Objects) (seen : List ObjId) (id : ObjId) (pt : Dict)
    (hs : seen.contains id = false) (hg : os.get id = some (.dict pt)) :
    decCounts os seen (some id) =
      decCounts (os.set id (.dict (decCount pt))) (id :: seen) ((Dict.get (decCount pt) PARENT).bind Obj.asRef) := by
  rw [decCounts]
  simp only [hs, Bool.false_eq_true, dite_false]
  split
  · rename_i pt' hg'; rw [hg] at hg'; cases hg'; rfl
  · rename_i hne; exact absurd hg (hne pt)

theorem decCounts_other (os : Objects) (seen : List ObjId) (id : ObjId)
    (hs : seen.contains id = false) (hg : ∀ pt, os.get id ≠ some (.dict pt)) :
    decCounts os seen (some id) = os := by
  rw [decCounts]
  simp only [hs, Bool.false_eq_true, dite_false]

/-- one iteration of `delete_pages`: delete page number `n` (of the page list taken at entry), then
decrement the `Count` of its ancestors -/
def deletePage1 (pages : List ObjId) (d : Doc) (n : Nat) : Doc :=
  match (if n = 0 then none else pages[n - 1]?) with
  | none => d
  | some pid =>
    match deleteObject d pid with
    | (d', some page) =>
      let parent := (page.asDict.bind fun pd => Dict.get pd PARENT).bind Obj.asRef
      { d' with objects := decCounts d'.objects [] parent }
    | (d', none) => d'

/-- `Document::delete_pages` -/
def deletePages (d : Doc) (nums : List Nat) : Doc :=
  let pages := pageIter d.trailer d.objects
  nums.foldl (fun acc n => deletePage1 pages acc n) d

/-- id of the last object of a reference chain (`dereference`'s first component, or the start id) -/
def derefIdAux (os : Objects) : Nat → ObjId → Obj → Option ObjId
  | n, _, .ref a b =>
    match os.get (a, b) with
    | none => none
    | some o' => match n with
      | 0 => none
      | n + 1 => derefIdAux os n (a, b) o'
  | _, cur, _ => some cur

/-- `get_object_mut(id)`: the id whose object is finally borrowed (last id of the reference chain) -/
def objectMutId (os : Objects) (id : ObjId) : Option ObjId :=
  (os.get id).bind fun o => derefIdAux os Gen.DEREF_LIMIT id o

/-- `self.get_object_mut(id).and_then(Object::as_dict_mut)` followed by `dict.set(key, value)` -/
def setDictEntry (d : Doc) (id : ObjId) (key : Bytes) (v : Obj) : Doc × Out :=
  match objectMutId d.objects id with
  | none => (d, .err)
  | some target =>
    match d.objects.get target with
    | some (.dict pd) => ({ d with objects := d.objects.set target (.dict (Dict.set pd key v)) }, .unit)
    | _ => (d, .err)

/-- the current content list as `add_page_contents` reads it -/
def contentsList (page : Dict) : List Obj :=
  match Dict.get page CONTENTS with
  | some (.ref n g) => [.ref n g]
  | some (.arr a) => a
  | _ => []

/-- `Document::add_object` -/
def addObject (d : Doc) (o : Obj) : Doc := { d with maxId := d.maxId + 1, objects := d.objects.insert (d.maxId + 1, 0) o }

/-- `Stream::new(dict, content)` -/
def streamNew (dict : Dict) (content : Bytes) : Obj := .stream (Dict.set dict LENGTHE (.int content.length)) content

/-- `Document::add_page_contents` -/
def addPageContents (d : Doc) (pageId : ObjId) (content : Bytes) : Outcome (Doc × Out) :=
  match getDictionary d.objects pageId with
  | none => .ok (d, .err)
  | some page =>
    if d.maxId + 1 > U32_MAXE then .panic "add" else
    .ok (setDictEntry (addObject d (streamNew [] content)) pageId CONTENTS
          (.arr (contentsList page ++ [.ref (d.maxId + 1) 0])))

def kAnnots : Bytes := [65, 110, 110, 111, 116, 115]
def kResources : Bytes := [82, 101, 115, 111, 117, 114, 99, 101, 115]
def kXObject : Bytes := [88, 79, 98, 106, 101, 99, 116]
def kExtGState : Bytes := [69, 120, 116, 71, 83, 116, 97, 116, 101]
def kFilter : Bytes := [70, 105, 108, 116, 101, 114]
def kDecodeParms : Bytes := [68, 101, 99, 111, 100, 101, 80, 97, 114, 109, 115]
def kFlateDecode : Bytes := [70, 108, 97, 116, 101, 68, 101, 99, 111, 100, 101]

/-- `annots.retain(|o| o is not a reference to id)` -/
def retainNotRef (id : ObjId) (a : List Obj) : List Obj := a.filter (fun o => !isRefTo id o)

/-- `Document::remove_object` (removes an annotation reference from every page's `Annots`); the first
page whose (dereferenced) object is no dictionary or has no direct `Annots` array ends the call with `Err` -/
def removeAnnot (id : ObjId) : List ObjId → Doc → Doc × Out
  | [], d => (d, .unit)
  | pid :: rest, d =>
    match objectMutId d.objects pid with
    | none => (d, .err)
    | some t =>
      match d.objects.get t with
      | some (.dict pd) =>
        match Dict.get pd kAnnots with
        | some (.arr a) =>
          removeAnnot id rest { d with objects := d.objects.set t (.dict (Dict.set pd kAnnots (.arr (retainNotRef id a)))) }
        | _ => (d, .err)
      | _ => (d, .err)

/-- where `get_or_create_resources` found the resource object: an object of its own, or the direct
`Resources` entry of the page dictionary stored at `page` -/
inductive ResLoc where
  | obj (id : ObjId)
  | entry (page : ObjId)

def readLoc (os : Objects) : ResLoc → Option Obj
  | .obj id => os.get id
  | .entry t => match os.get t with
    | some (.dict pd) => Dict.get pd kResources
    | _ => none

def writeLoc (os : Objects) (loc : ResLoc) (v : Obj) : Objects :=
  match loc with
  | .obj id => os.set id v
  | .entry t => match os.get t with
    | some (.dict pd) => os.set t (.dict (Dict.set pd kResources v))
    | _ => os

/-- `Document::inherited_resources`: the nearest `Resources` entry up the `Parent` chain (direct
dictionary or reference to one). The code guards against cycles with a seen-set; a chain of distinct
existing ids is at most `|objects|` long, so the bound below is exact. -/
def inheritedResAux (os : Objects) : Nat → Option ObjId → Option Dict
  | 0, _ => none
  | _, none => none
  | fuel + 1, some id =>
    match getDictionary os id with
    | none => none
    | some anc =>
      match Dict.get anc kResources with
      | some (.ref n g) => getDictionary os (n, g)
      | some (.dict r) => some r
      | some _ => none
      | none => inheritedResAux os fuel ((Dict.get anc PARENT).bind Obj.asRef)

def inheritedRes (os : Objects) (node : Dict) : Dict :=
  (inheritedResAux os (os.length + 1) ((Dict.get node PARENT).bind Obj.asRef)).getD []

/-- `Document::get_or_create_resources`; `none` = `Err` -/
def getOrCreateResources (d : Doc) (pageId : ObjId) : Option (Doc × ResLoc) :=
  match getDictionary d.objects pageId with
  | none => none
  | some page =>
    let resId := if Dict.has page kResources then (Dict.get page kResources).bind Obj.asRef else none
    match resId with
    | some rid => (objectMutId d.objects rid).map fun t => (d, .obj t)
    | none =>
      match objectMutId d.objects pageId with
      | none => none
      | some t =>
        match d.objects.get t with
        | some (.dict pd) =>
          if Dict.has pd kResources then some (d, .entry t)
          else some ({ d with objects := d.objects.set t (.dict (Dict.set pd kResources (.dict (inheritedRes d.objects page)))) }, .entry t)
        | _ => none

/-- `Document::add_xobject` -/
def addXObject (d : Doc) (pageId : ObjId) (name : Bytes) (xid : ObjId) : Doc × Out :=
  match getOrCreateResources d pageId with
  | none => (d, .unit)
  | some (d1, loc) =>
    match readLoc d1.objects loc with
    | some (.dict res) =>
      let res1 := if Dict.has res kXObject then res else Dict.set res kXObject (.dict [])
      match Dict.get res1 kXObject with
      | some (.ref n g) =>
        match objectMutId d1.objects (n, g) with
        | none => (d1, .err)
        | some t =>
          match d1.objects.get t with
          | some (.dict xd) => ({ d1 with objects := d1.objects.set t (.dict (Dict.set xd name (.ref xid.1 xid.2))) }, .unit)
          | _ => (d1, .err)
      | some (.dict xd) =>
        ({ d1 with objects := writeLoc d1.objects loc (.dict (Dict.set res1 kXObject (.dict (Dict.set xd name (.ref xid.1 xid.2))))) }, .unit)
      | _ => (d1, .err)
    | _ => (d1, .unit)

/-- `Document::add_graphics_state` -/
def addGraphicsState (d : Doc) (pageId : ObjId) (name : Bytes) (gid : ObjId) : Doc × Out :=
  match getOrCreateResources d pageId with
  | none => (d, .unit)
  | some (d1, loc) =>
    match readLoc d1.objects loc with
    | some (.dict res) =>
      let res1 := if Dict.has res kExtGState then res else Dict.set res kExtGState (.dict [])
      match Dict.get res1 kExtGState with
      | some (.dict sd) =>
        ({ d1 with objects := writeLoc d1.objects loc (.dict (Dict.set res1 kExtGState (.dict (Dict.set sd name (.ref gid.1 gid.2))))) }, .unit)
      | _ => (d1, .err)
    | _ => (d1, .unit)

/-- `Stream::set_plain_content` then `Stream::compress` on a stream's parts. `deflated` is what
`ZlibEncoder(best)` returns for `content` (external codec: a parameter, never re-implemented). -/
def plainThenCompress (deflated : Bytes) (dict : Dict) (content : Bytes) : Obj :=
  let d1 := Dict.set (Dict.remove (Dict.remove dict kDecodeParms) kFilter) LENGTHE (.int content.length)
  if deflated.length + Gen.COMPRESS_MARGIN < content.length then
    .stream (Dict.set (Dict.set (Dict.remove d1 kDecodeParms) kFilter (.name kFlateDecode)) LENGTHE (.int deflated.length)) deflated
  else .stream d1 content

/-- `Document::change_content_stream` -/
def changeContentStream (deflate : Bytes → Bytes) (d : Doc) (sid : ObjId) (content : Bytes) : Doc :=
  match d.objects.get sid with
  | some (.stream dict _) => { d with objects := d.objects.set sid (plainThenCompress (deflate content) dict content) }
  | _ => d

/-- `Document::change_page_content` -/
def changePageContent (deflate : Bytes → Bytes) (d : Doc) (pageId : ObjId) (content : Bytes) : Outcome (Doc × Out) :=
  match (getDictionary d.objects pageId).bind fun page => Dict.get page CONTENTS with
  | none => .ok (d, .err)
  | some (.ref n g) => .ok (changeContentStream deflate d (n, g) content, .unit)
  | some (.arr [.ref n g]) => .ok (changeContentStream deflate d (n, g) content, .unit)
  | some (.arr [_]) => .ok (d, .unit)
  | some (.arr _) =>
    if d.maxId + 1 > U32_MAXE then .panic "add" else
    let d1 := addObject d (streamNew [] content)
    -- `if let Ok(Object::Dictionary(dict)) = self.get_object_mut(page_id) { dict.set("Contents", new_stream) }`
    .ok ((setDictEntry d1 pageId CONTENTS (.ref (d.maxId + 1) 0)).1, .unit)
  | some _ => .ok (d, .unit)

def step (d : Doc) : Op → Outcome (Doc × Out)
  | .newId => if d.maxId + 1 > U32_MAXE then .panic "add" else .ok ({ d with maxId := d.maxId + 1 }, .id (d.maxId + 1, 0))
  | .add o => if d.maxId + 1 > U32_MAXE then .panic "add" else .ok (addObject d o, .id (d.maxId + 1, 0))
  | .set id o => .ok ({ d with maxId := max d.maxId id.1, objects := d.objects.insert id o }, .unit)
  | .del id => let r := deleteObject d id; .ok (r.1, .obj r.2)
  | .prune => let r := pruneObjects d; .ok (r.1, .ids r.2)
  | .delZero => let r := deleteZeroLengthStreams d; .ok (r.1, .ids r.2)
  | .renumber start => match renumber d start with
    | .ok d' => .ok (d', .unit)
    | .err e => .err e
    | .panic s => .panic s
  | .delPages nums => .ok (deletePages d nums, .unit)
  | .addContent page content => addPageContents d page content
  | .removeAnnot id => .ok (removeAnnot id (pageIter d.trailer d.objects) d)
  | .addXObject page name xid => .ok (addXObject d page name xid)
  | .addGState page name gid => .ok (addGraphicsState d page name gid)
  | .changeStream sid content deflated => .ok (changeContentStream (fun _ => deflated) d sid content, .unit)
  | .changePage page content deflated => changePageContent (fun _ => deflated) d page content
  -- `Document::compress` / `Document::decompress` (model of C09; every stream the harness builds allows compression)
  | .compress deflate => .ok ({ d with objects := docCompress deflate (fun _ => true) d.objects }, .unit)
  | .decompress ext => .ok ({ d with objects := docDecompress ext d.objects }, .unit)

def runOps (d : Doc) : List Op → Outcome Doc
  | [] => .ok d
  | op :: rest => match step d op with
    | .ok (d', _) => runOps d' rest
    | .err e => .err e
    | .panic s => .panic s

end Lopdf
