import LopdfModel.Model.Queries
import LopdfModel.Lemmas.Dict
/-
  C13 — models of `get_named_destinations` (src/destinations.rs), `get_outline`,
  `build_outline_result`, `get_outlines` (src/outlines.rs) and `get_toc` (src/toc.rs).

  No fuel anywhere: every walker is defined by well-founded recursion on the guard the code has.
  * `get_named_destinations` (recursion over `Kids`): the `seen` set of name-tree nodes already
    entered (ba860eb). The recursion is written as an explicit stack of frames
    (kids still to visit, node whose `Names` are read afterwards); measure: (objects not yet in
    `seen`, pending frames and kids).
  * `get_outlines` (loop over `Next`, recursion over `First`): one `seen` set of outline items
    entered through a `First` or `Next` reference (bca5e67), threaded through the recursion
    and returned with the result; measure: (objects not yet in `seen`, size of an inline
    dictionary). Inline `First` / `Next` dictionaries are strict sub-terms of the current node.
-/
namespace Lopdf.Q13
open Gen

/-- `IndexMap<Vec<u8>, Destination>`: key ↦ `.dict <Title, Page, Type>` in insertion order -/
abbrev Named := Dict

/-- `Destination::new(title, page, typ)` -/
def mkDest (title page typ : Obj) : Dict :=
  Dict.set (Dict.set (Dict.set [] K_Title title) PAGE page) TYPE typ

/-- `insert_destination`: pairs with a non-string key or fewer than two array elements are skipped -/
def insertDest (key : Obj) (val : List Obj) (named : Named) : Named :=
  match key, val with
  | .str s _, v0 :: v1 :: _ => Dict.set named s (.dict (mkDest key v0 v1))
  | _, _ => named

/-- `if let Ok(val) = dict.get(b"D") { insert_destination(named, key, val.as_array()?) }` -/
def insertDestFromDict (key : Obj) (d : Dict) (named : Named) : Outcome Named :=
  match d.get K_D with
  | none => .ok named
  | some dv =>
    match dv.asArr with
    | none => E
    | some val => .ok (insertDest key val named)

/-- one (key, value) pair of the `Names` array -/
def destOfPair (os : Objects) (key val : Obj) (named : Named) : Outcome Named :=
  match val with
  | .ref a b =>
    match getDictionary os (a, b) with
    | some d => insertDestFromDict key d named
    | none =>
      match getObject os (a, b) with
      | some (.arr v) => .ok (insertDest key v named)
      | _ => .ok named
  | .dict d => insertDestFromDict key d named
  | _ => .ok named

/-- the `Names` loop: consumes (key, value) pairs -/
def namesLoop (os : Objects) : List Obj → Named → Outcome Named
  | key :: val :: rest, named =>
    match destOfPair os key val named with
    | .ok named' => namesLoop os rest named'
    | .err e => .err e
    | .panic s => .panic s
  | _, named => .ok named

/-- the part of `get_named_destinations` after the `Kids` recursion -/
def namesPart (os : Objects) (tree : Dict) (named : Named) : Outcome Named :=
  match tree.get K_Names with
  | none => .ok named
  | some names =>
    match names.asArr with
    | none => E
    | some l => namesLoop os l named

/-- a frame of the `Kids` recursion: the kids still to visit and the node whose `Names` are read
after them -/
abbrev NdFrame := List Obj × Dict

def ndWeight (fs : List NdFrame) : Nat := (fs.map (fun f => f.1.length + 1)).sum

/-- entering a name-tree node: `if let Ok(kids) = tree.get(b"Kids") { for kid in kids.as_array()? … }`;
`none` = `Err` -/
def ndEnter (tree : Dict) : Option NdFrame :=
  match tree.get KIDS with
  | none => some ([], tree)
  | some k =>
    match k.asArr with
    | some ks => some (ks, tree)
    | none => none

/-- the recursion of `get_named_destinations_guarded` as a stack machine. A kid is entered only if
it is a reference to a dictionary; entering it twice is `Err(ReferenceCycle)`. No fuel: either the
`seen` set grows by an existing object or the pending work shrinks. -/
def ndRun (os : Objects) (fs : List NdFrame) (named : Named) (seen : List ObjId) : Outcome Named :=
  match fs with
  | [] => .ok named
  | ([], tree) :: rest =>
    match namesPart os tree named with
    | .ok named' => ndRun os rest named' seen
    | .err e => .err e
    | .panic s => .panic s
  | (kid :: kids, tree) :: rest =>
    match kid.asRef with
    | none => ndRun os ((kids, tree) :: rest) named seen
    | some id =>
      match hd : getDictionary os id with
      | none => ndRun os ((kids, tree) :: rest) named seen
      | some kd =>
        if hs : id ∈ seen then E
        else
          match ndEnter kd with
          | none => E
          | some fr => ndRun os (fr :: (kids, tree) :: rest) named (id :: seen)
termination_by (unseen os seen, ndWeight fs)
decreasing_by
  · apply Prod.Lex.right; simp [ndWeight]
  · apply Prod.Lex.right; simp [ndWeight]
  · apply Prod.Lex.right; simp [ndWeight]
  · obtain ⟨o, hm⟩ := getDictionary_mem hd
    exact Prod.Lex.left _ _ (unseen_lt os seen id o hm hs)

/-- `Document::get_named_destinations` -/
def namedDests (os : Objects) (tree : Dict) (named : Named) : Outcome Named :=
  match ndEnter tree with
  | none => E
  | some fr => ndRun os [fr] named []

inductive Outline where
  | dest (d : Dict)
  | sub (items : List Outline)
  deriving Repr

/-- `build_outline_result` on a destination that is not a reference -/
def buildDirect (dest title : Obj) (named : Named) : Outcome (Option Outline × Named) :=
  match dest with
  | .arr a =>
    match a with
    | p :: t :: _ => .ok (some (.dest (mkDest title p t)), named)
    | _ => E
  | .str key _ =>
    match named.get key with
    | some (.dict dd) =>
      let dd' := Dict.set dd K_Title title
      .ok (some (.dest dd'), Dict.set named key (.dict dd'))
    | _ => .ok (none, named)
  | _ => E

/-- `Document::build_outline_result`. The `Reference` arm calls itself on `get_object(id)?`,
which is never a reference (`getObject_not_ref`), so the recursion has depth ≤ 1; the model
unfolds it once. -/
def buildOutlineResult (os : Objects) (dest title : Obj) (named : Named) : Outcome (Option Outline × Named) :=
  match dest with
  | .ref a b =>
    match getObject os (a, b) with
    | none => E
    | some d' => buildDirect d' title named
  | d => buildDirect d title named

/-- `Document::get_outline` -/
def getOutline (os : Objects) (node : Dict) (named : Named) : Outcome (Option Outline × Named) :=
  match getDictInDict os node K_A with
  | none =>
    match node.get K_Dest with
    | none => E
    | some dest =>
      match node.get K_Title with
      | none => E
      | some title => buildOutlineResult os dest title named
  | some action =>
    match (action.get K_S).bind Obj.asName with
    | none => E
    | some cmd =>
      if cmd ≠ K_GoTo ∧ cmd ≠ K_GoToR then E else
      match node.get K_Title with
      | none => E
      | some titleObj =>
        match titleObj with
        | .ref a b =>
          match action.get K_D with
          | none => E
          | some d =>
            match getObject os (a, b) with
            | none => E
            | some t => buildOutlineResult os d t named
        | .str _ _ =>
          match action.get K_D with
          | none => E
          | some d => buildOutlineResult os d titleObj named
        | _ => E

/-- resolution of the `node` argument of a recursive `get_outlines` call -/
def outlineNode (os : Objects) (first : Obj) : Option Dict :=
  match first with
  | .dict d => some d
  | o => (o.asRef.bind (getObject os)).bind Obj.asDict

/-- `if let Ok(Some(outline)) = self.get_outline(node, named) { outlines.push(outline) }` -/
def pushOutline (r : Outcome (Option Outline × Named)) (acc : List Outline) (named : Named) : List Outline × Named :=
  match r with
  | .ok (some o, nm) => (acc ++ [o], nm)
  | .ok (none, nm) => (acc, nm)
  | _ => (acc, named)

theorem Dict.sizeOf_get_lt {d : Dict} {k : Bytes} {v : Obj} (h : d.get k = some v) : sizeOf v < sizeOf d := by
  have h1 := List.sizeOf_lt_of_mem (Lopdf.Dict.mem_of_get h)
  have h2 : sizeOf (k, v) = 1 + sizeOf k + sizeOf v := rfl
  omega

theorem Dict.sizeOf_get_dict_lt {d d' : Dict} {k : Bytes} (h : d.get k = some (.dict d')) :
    sizeOf d' < sizeOf d := by
  have h1 := Dict.sizeOf_get_lt h
  have h2 : sizeOf (Obj.dict d') = 1 + sizeOf d' := Obj.dict.sizeOf_spec d'
  omega

/-- result of a walk and the `seen` set afterwards -/
abbrev WalkOut := Outcome (List Outline × Named) × List ObjId

/-- a walk started with `seen` returns a set with no more unseen objects -/
abbrev WalkSub (os : Objects) (seen : List ObjId) := { r : WalkOut // unseen os r.2 ≤ unseen os seen }

/-- wrap the result of a sub-walk over `First` into the parent's list -/
def wrapSub (st : List Outline × Named) (r : WalkOut) : WalkOut :=
  match r.1 with
  | .ok (subs, nm) => (.ok (if subs.isEmpty then st.1 else st.1 ++ [.sub subs], nm), r.2)
  | .err e => (.err e, r.2)
  | .panic s => (.panic s, r.2)

theorem wrapSub_snd (st : List Outline × Named) (r : WalkOut) : (wrapSub st r).2 = r.2 := by
  unfold wrapSub; split <;> rfl

/-- `get_outlines_guarded` after the node has been resolved: per item `get_outline`, the recursion
over `First` (inline dictionary, or reference entered at most once), then `Next` (reference
entered at most once, or inline dictionary). `seen` is threaded through and returned. -/
def walkG (os : Objects) (node : Dict) (acc : List Outline) (named : Named) (seen : List ObjId) :
    WalkSub os seen :=
  match getOutline os node named with
  | .panic s => ⟨(.panic s, seen), Nat.le_refl _⟩
  | r =>
    let st := pushOutline r acc named
    let fr : WalkSub os seen :=
      match hf : node.get K_First with
      | none => ⟨(.ok st, seen), Nat.le_refl _⟩
      | some (.dict d) =>
        let sub := walkG os d [] st.2 seen
        ⟨wrapSub st sub.val, by rw [wrapSub_snd]; exact sub.property⟩
      | some (.ref a b) =>
        if hs : (a, b) ∈ seen then ⟨(E, seen), Nat.le_refl _⟩
        else
          match hd : getDictionary os (a, b) with
          | none => ⟨(E, seen), Nat.le_refl _⟩
          | some d =>
            let sub := walkG os d [] st.2 ((a, b) :: seen)
            ⟨wrapSub st sub.val, by rw [wrapSub_snd]; exact Nat.le_trans sub.property (unseen_le seen (a, b) os)⟩
      | some _ => ⟨(E, seen), Nat.le_refl _⟩
    match fr.val.1 with
    | .ok (acc2, named2) =>
      match hn : node.get K_Next with
      | some (.ref a b) =>
        if hs : (a, b) ∈ fr.val.2 then ⟨(E, fr.val.2), fr.property⟩
        else
          match hd : getDictionary os (a, b) with
          | some next =>
            let r2 := walkG os next acc2 named2 ((a, b) :: fr.val.2)
            ⟨r2.val, Nat.le_trans r2.property (Nat.le_trans (unseen_le fr.val.2 (a, b) os) fr.property)⟩
          | none => ⟨(.ok (acc2, named2), (a, b) :: fr.val.2), Nat.le_trans (unseen_le fr.val.2 (a, b) os) fr.property⟩
      | some (.dict d) =>
        let r2 := walkG os d acc2 named2 fr.val.2
        ⟨r2.val, Nat.le_trans r2.property fr.property⟩
      | _ => ⟨(.ok (acc2, named2), fr.val.2), fr.property⟩
    | .err e => ⟨(.err e, fr.val.2), fr.property⟩
    | .panic s => ⟨(.panic s, fr.val.2), fr.property⟩
termination_by (unseen os seen, sizeOf node)
decreasing_by
  · apply Prod.Lex.right
    have := Dict.sizeOf_get_lt hf
    simp at this; omega
  · obtain ⟨o, hm⟩ := getDictionary_mem hd
    exact Prod.Lex.left _ _ (unseen_lt os seen (a, b) o hm hs)
  · obtain ⟨o, hm⟩ := getDictionary_mem hd
    exact Prod.Lex.left _ _ (Nat.lt_of_lt_of_le (unseen_lt os fr.val.2 (a, b) o hm hs) fr.property)
  · have hsz : sizeOf d < sizeOf node := by
      have := Dict.sizeOf_get_lt hn
      simp at this; omega
    rcases Nat.lt_or_eq_of_le fr.property with h | h
    · exact Prod.Lex.left _ _ h
    · rw [h]; exact Prod.Lex.right _ hsz

/-! `walkG` without the proofs it carries: what it returns is the `Next` step applied to the result
of the `First` step. -/

/-- the recursion over `First`, given the list and names after `get_outline` -/
def firstPart (os : Objects) (node : Dict) (st : List Outline × Named) (seen : List ObjId) : WalkOut :=
  match node.get K_First with
  | none => (.ok st, seen)
  | some (.dict d) => wrapSub st (walkG os d [] st.2 seen).val
  | some (.ref a b) =>
    if (a, b) ∈ seen then (E, seen)
    else match getDictionary os (a, b) with
      | none => (E, seen)
      | some d => wrapSub st (walkG os d [] st.2 ((a, b) :: seen)).val
  | some _ => (E, seen)

/-- the continuation over `Next`, given the result of the `First` step -/
def nextPart (os : Objects) (node : Dict) (fr : WalkOut) : WalkOut :=
  match fr.1 with
  | .ok (acc2, named2) =>
    match node.get K_Next with
    | some (.ref a b) =>
      if (a, b) ∈ fr.2 then (E, fr.2)
      else match getDictionary os (a, b) with
        | some next => (walkG os next acc2 named2 ((a, b) :: fr.2)).val
        | none => (.ok (acc2, named2), (a, b) :: fr.2)
    | some (.dict d) => (walkG os d acc2 named2 fr.2).val
    | _ => (.ok (acc2, named2), fr.2)
  | .err e => (.err e, fr.2)
  | .panic s => (.panic s, fr.2)

theorem walkG_val (os : Objects) (node : Dict) (acc : List Outline) (named : Named) (seen : List ObjId)
    (hgo : ∀ s, getOutline os node named ≠ .panic s) :
    (walkG os node acc named seen).val =
      nextPart os node (firstPart os node (pushOutline (getOutline os node named) acc named) seen) := by
  -- every `match` of `walkG` is split where it stands; `firstPart` and `nextPart` are unfolded at the
  -- leaves only, with the equations the splits have produced
  rw [walkG]
  split
  · rename_i h; exact absurd h (hgo _)
  · extract_lets st fr
    have hfr : firstPart os node st seen = fr.val := by
      simp only [fr]
      split
      · rename_i h; simp only [firstPart, h]
      · rename_i h; simp only [firstPart, h]
      · rename_i h
        split
        · rename_i hs; simp only [firstPart, h, hs, if_true]
        · rename_i hs
          split <;> rename_i hd <;> simp only [firstPart, h, hs, hd, if_false]
      · rename_i h; simp only [firstPart, h]
    rw [hfr]
    split
    · rename_i acc2 named2 hok
      split
      · rename_i a b hn
        split
        · rename_i hs; simp only [nextPart, hok, hn, hs, if_true]
        · rename_i hs
          split <;> rename_i hd <;> simp only [nextPart, hok, hn, hs, hd, if_false]
      · rename_i d hn; simp only [nextPart, hok, hn]
      · simp only [nextPart, hok]
    · rename_i e h; simp only [nextPart, h]
    · rename_i s h; simp only [nextPart, h]

/-- the destination name tree `get_outlines` loads first -/
def destTree (os : Objects) (cat : Dict) : Option Dict :=
  match getDictInDict os cat K_Dests with
  | some t => some t
  | none => (getDictInDict os cat K_Names).bind fun n => getDictInDict os n K_Dests

/-- `Document::get_outlines(None, None, &mut named)` -/
def getOutlines (trailer : Dict) (os : Objects) : Outcome (List Outline × Named) :=
  match catalog trailer os with
  | none => E
  | some cat =>
    match getDictInDict os cat K_Outlines with
    | none => E
    | some outl =>
      let node := match getDictInDict os outl K_First with
        | some f => f
        | none => outl
      let named : Outcome Named := match destTree os cat with
        | none => .ok []
        | some t => namedDests os t []
      match named with
      | .err e => .err e
      | .panic s => .panic s
      | .ok nm => (walkG os node [] nm []).val.1

/-! ### table of contents (src/toc.rs) -/

/-- `IndexMap::insert` -/
def tocInsert (k : Bytes) (v : ObjId × Nat) : List (Bytes × (ObjId × Nat)) → List (Bytes × (ObjId × Nat))
  | [] => [(k, v)]
  | (k', v') :: rest => if k' = k then (k, v) :: rest else (k', v') :: tocInsert k v rest

/- `setup_outline_page_ids`: title ↦ (page id, level) in `IndexMap` order; `none` = `Err` -/
mutual
def tocIdsOne (level : Nat) : Outline → List (Bytes × (ObjId × Nat)) → Option (List (Bytes × (ObjId × Nat)))
  | .dest d, acc =>
    match (d.get K_Title).bind Obj.asStr with
    | none => none
    | some title =>
      match (d.get PAGE).bind Obj.asRef with
      | none => none
      | some pid => some (tocInsert title (pid, level) acc)
  | .sub items, acc => tocIdsList (level + 1) items acc
def tocIdsList (level : Nat) : List Outline → List (Bytes × (ObjId × Nat)) → Option (List (Bytes × (ObjId × Nat)))
  | [], acc => some acc
  | o :: rest, acc =>
    match tocIdsOne level o acc with
    | none => none
    | some acc' => tocIdsList level rest acc'
end

/-- page number of a page id: the LAST position (1-based) at which `get_pages` lists it
(`setup_page_id_to_num` overwrites) -/
def pageNumOf (pages : List ObjId) (id : ObjId) : Option Nat :=
  (pages.zipIdx.foldl (fun (acc : Option Nat) (p : ObjId × Nat) => if p.1 = id then some (p.2 + 1) else acc) none)

/-- is the title reported as an error (`toc.errors`): UTF-16 BOM with odd length -/
def tocTitleBad (t : Bytes) : Bool :=
  match t with
  | 0xfe :: 0xff :: _ => t.length % 2 = 1
  | 0xff :: 0xfe :: _ => t.length % 2 = 1
  | _ => false

/-- `Document::get_toc`: the (level, page number) entries and the number of title errors -/
def getToc (memMax : Nat) (trailer : Dict) (os : Objects) : Outcome (List (Nat × Nat) × Nat) :=
  match getOutlines trailer os with
  | .err e => .err e
  | .panic s => .panic s
  | .ok (outlines, _) =>
    match tocIdsList 1 outlines [] with
    | none => E
    | some ids =>
      match getPages memMax trailer os with
      | .err e => .err e
      | .panic s => .panic s
      | .ok pages =>
        .ok (ids.foldl (fun (acc : List (Nat × Nat) × Nat) (p : Bytes × (ObjId × Nat)) =>
          match pageNumOf pages p.2.1 with
          | none => acc
          | some n => if tocTitleBad p.1 then (acc.1, acc.2 + 1) else (acc.1 ++ [(p.2.2, n)], acc.2)) ([], 0))

end Lopdf.Q13
