import LopdfModel.Model.Obj
import LopdfModel.Lemmas.Objects
/-
  C10 / C11 — the document as the editing functions see it:
  * `Objects` as a `BTreeMap<ObjectId, Object>`: association list kept sorted by
    id; `insert` (overwrite or sorted insert), `remove`, `set` (`get_mut` + write).
  * `Doc` = trailer + objects + `max_id` + bookmark tree (`bookmarks`, `bookmark_table`).
  * `Document::traverse_objects` as the work-list algorithm it is: the action is
    applied to an object *before* its variant is inspected; a reference is pushed
    to `refs` unless it is already there; objects are processed in the order in
    which their ids were pushed. No fuel: `travLoop` terminates by the
    lexicographic measure (objects not yet processed, refs.length - index).
  Core Lean only (no Mathlib).
-/
namespace Lopdf

/-- `Ord` on `(u32, u16)`: lexicographic. -/
def idLt (a b : ObjId) : Bool := a.1 < b.1 || (a.1 == b.1 && a.2 < b.2)

namespace Objects

/-- `BTreeMap::insert`: overwrite an existing key, else insert at the sorted position. -/
def insert (os : Objects) (k : ObjId) (v : Obj) : Objects :=
  match os with
  | [] => [(k, v)]
  | (k', v') :: rest =>
    if k' = k then (k, v) :: rest
    else if idLt k k' then (k, v) :: (k', v') :: rest
    else (k', v') :: insert rest k v

/-- `BTreeMap::remove` -/
def remove (os : Objects) (k : ObjId) : Objects :=
  match os with
  | [] => []
  | (k', v') :: rest => if k' = k then remove rest k else (k', v') :: remove rest k

/-- write through `get_mut(&k)`: keys and order unchanged -/
def set (os : Objects) (k : ObjId) (v : Obj) : Objects :=
  match os with
  | [] => []
  | (k', v') :: rest => if k' = k then (k', v) :: set rest k v else (k', v') :: set rest k v

def keys (os : Objects) : List ObjId := os.map (·.1)

def has (os : Objects) (k : ObjId) : Bool := (os.get k).isSome

end Objects

/-! ### object size (termination measure of the traversal) -/

mutual
def Obj.size : Obj → Nat
  | .arr items => 1 + Obj.sizeL items
  | .dict es => 1 + Obj.sizeD es
  | .stream es _ => 1 + Obj.sizeD es
  | _ => 1
def Obj.sizeL : List Obj → Nat
  | [] => 0
  | x :: xs => 1 + x.size + Obj.sizeL xs
def Obj.sizeD : List (Bytes × Obj) → Nat
  | [] => 0
  | (_, v) :: es => 1 + v.size + Obj.sizeD es
end

/-- An action passed to `traverse_objects`: a function on objects that never
makes the object it is applied to larger (all three actions lopdf uses — none,
rename a reference, strip references to a deleted id — are of this kind). The
bound is what makes the recursive descent into the *rewritten* object total. -/
structure Action where
  f : Obj → Obj
  le : ∀ o, (f o).size ≤ o.size

/-- `if !refs.contains(id) { refs.push(*id) }` -/
def pushRef (refs : List ObjId) (id : ObjId) : List ObjId :=
  if refs.contains id then refs else refs ++ [id]

mutual
/-- `traverse_object`: apply the action, then descend into what the object now is. -/
def travObj (a : Action) (o : Obj) (refs : List ObjId) : Obj × List ObjId :=
  match _h : a.f o with
  | .arr items =>
    let r := travList a items refs
    (.arr r.1, r.2)
  | .dict es =>
    let r := travDict a es refs
    (.dict r.1, r.2)
  | .stream es c =>
    let r := travDict a es refs
    (.stream r.1 c, r.2)
  | .ref n g => (.ref n g, pushRef refs (n, g))
  | o' => (o', refs)
termination_by o.size
decreasing_by
  all_goals (have hle := a.le o; rw [_h] at hle; simp only [Obj.size] at hle; omega)
/-- `traverse_array` -/
def travList (a : Action) (items : List Obj) (refs : List ObjId) : List Obj × List ObjId :=
  match items with
  | [] => ([], refs)
  | x :: xs =>
    let r := travObj a x refs
    let r' := travList a xs r.2
    (r.1 :: r'.1, r'.2)
termination_by Obj.sizeL items
decreasing_by
  all_goals (simp only [Obj.sizeL]; omega)
/-- `traverse_dictionary` (values in `IndexMap` order) -/
def travDict (a : Action) (es : List (Bytes × Obj)) (refs : List ObjId) : List (Bytes × Obj) × List ObjId :=
  match es with
  | [] => ([], refs)
  | (k, v) :: rest =>
    let r := travObj a v refs
    let r' := travDict a rest r.2
    ((k, r.1) :: r'.1, r'.2)
termination_by Obj.sizeD es
decreasing_by
  all_goals (simp only [Obj.sizeD]; omega)
end

/-! ### what the traversal computes, as plain functions -/

mutual
/-- the object after the action has been applied top-down, once per node -/
def deepObj (a : Action) (o : Obj) : Obj :=
  match _h : a.f o with
  | .arr items => .arr (deepList a items)
  | .dict es => .dict (deepDict a es)
  | .stream es c => .stream (deepDict a es) c
  | o' => o'
termination_by o.size
decreasing_by
  all_goals (have hle := a.le o; rw [_h] at hle; simp only [Obj.size] at hle; omega)
def deepList (a : Action) (items : List Obj) : List Obj :=
  match items with
  | [] => []
  | x :: xs => deepObj a x :: deepList a xs
termination_by Obj.sizeL items
decreasing_by
  all_goals (simp only [Obj.sizeL]; omega)
def deepDict (a : Action) (es : List (Bytes × Obj)) : List (Bytes × Obj) :=
  match es with
  | [] => []
  | (k, v) :: rest => (k, deepObj a v) :: deepDict a rest
termination_by Obj.sizeD es
decreasing_by
  all_goals (simp only [Obj.sizeD]; omega)
end

mutual
/-- references inside an object, in traversal order (with repetitions) -/
def refsOf : Obj → List ObjId
  | .arr items => refsOfL items
  | .dict es => refsOfD es
  | .stream es _ => refsOfD es
  | .ref n g => [(n, g)]
  | _ => []
def refsOfL : List Obj → List ObjId
  | [] => []
  | x :: xs => refsOf x ++ refsOfL xs
def refsOfD : List (Bytes × Obj) → List ObjId
  | [] => []
  | (_, v) :: es => refsOf v ++ refsOfD es
end

def pushAll (refs : List ObjId) (ids : List ObjId) : List ObjId := ids.foldl pushRef refs

theorem pushAll_append (refs a b : List ObjId) : pushAll refs (a ++ b) = pushAll (pushAll refs a) b := by
  simp [pushAll, List.foldl_append]

/-! ### the traversal computes exactly `deepObj` and pushes exactly `refsOf` of the result -/

/-- `deepObj` unfolded, with a plain `match` one can rewrite under -/
theorem deepObj_eq (a : Action) (o : Obj) : deepObj a o =
    match a.f o with
    | .arr items => .arr (deepList a items)
    | .dict es => .dict (deepDict a es)
    | .stream es c => .stream (deepDict a es) c
    | o' => o' := by
  rw [deepObj]; split <;> simp only [*]

theorem travObj_eq (a : Action) (o : Obj) (refs : List ObjId) : travObj a o refs =
    match a.f o with
    | .arr items => (.arr (travList a items refs).1, (travList a items refs).2)
    | .dict es => (.dict (travDict a es refs).1, (travDict a es refs).2)
    | .stream es c => (.stream (travDict a es refs).1 c, (travDict a es refs).2)
    | .ref n g => (.ref n g, pushRef refs (n, g))
    | o' => (o', refs) := by
  rw [travObj]; split <;> simp only [*]

theorem deepObj_arr {a : Action} {o items} (h : a.f o = .arr items) : deepObj a o = .arr (deepList a items) := by
  rw [deepObj_eq, h]
theorem deepObj_dict {a : Action} {o es} (h : a.f o = .dict es) : deepObj a o = .dict (deepDict a es) := by
  rw [deepObj_eq, h]
theorem deepObj_stream {a : Action} {o es c} (h : a.f o = .stream es c) : deepObj a o = .stream (deepDict a es) c := by
  rw [deepObj_eq, h]
theorem deepObj_other {a : Action} {o}
    (h1 : ∀ items, a.f o ≠ .arr items) (h2 : ∀ es, a.f o ≠ .dict es) (h3 : ∀ es c, a.f o ≠ .stream es c) :
    deepObj a o = a.f o := by
  rw [deepObj_eq]; split
  · exact (h1 _ ‹_›).elim
  · exact (h2 _ ‹_›).elim
  · exact (h3 _ _ ‹_›).elim
  · rfl
theorem trav_eq (a : Action) :
    (∀ o refs, travObj a o refs = (deepObj a o, pushAll refs (refsOf (deepObj a o)))) ∧
    (∀ es refs, travDict a es refs = (deepDict a es, pushAll refs (refsOfD (deepDict a es)))) ∧
    (∀ items refs, travList a items refs = (deepList a items, pushAll refs (refsOfL (deepList a items)))) := by
  apply travObj.mutual_induct a
    (motive1 := fun o refs => travObj a o refs = (deepObj a o, pushAll refs (refsOf (deepObj a o))))
    (motive2 := fun es refs => travDict a es refs = (deepDict a es, pushAll refs (refsOfD (deepDict a es))))
    (motive3 := fun items refs => travList a items refs = (deepList a items, pushAll refs (refsOfL (deepList a items))))
  · intro o refs items h ih
    rw [travObj_eq, deepObj_eq, h]; exact congrArg (fun r => (Obj.arr r.1, r.2)) ih
  · intro o refs es h ih
    rw [travObj_eq, deepObj_eq, h]; exact congrArg (fun r => (Obj.dict r.1, r.2)) ih
  · intro o refs es c h ih
    rw [travObj_eq, deepObj_eq, h]; exact congrArg (fun r => (Obj.stream r.1 c, r.2)) ih
  · intro o refs n g h
    rw [travObj_eq, deepObj_eq, h]; rfl
  · intro o refs h1 h2 h3 h4
    rw [travObj_eq, deepObj_eq]
    cases hx : a.f o with
    | arr items => exact (h1 _ hx).elim
    | dict es => exact (h2 _ hx).elim
    | stream es c => exact (h3 _ _ hx).elim
    | ref n g => exact (h4 _ _ hx).elim
    | _ => rfl
  · intro refs; rw [travDict, deepDict]; rfl
  · intro refs k v es r ih1 ih2
    rw [show r = _ from ih1] at ih2
    rw [travDict, deepDict, refsOfD, pushAll_append, ih1, ih2]
  · intro refs; rw [travList, deepList]; rfl
  · intro refs x xs r ih1 ih2
    rw [show r = _ from ih1] at ih2
    rw [travList, deepList, refsOfL, pushAll_append, ih1, ih2]

/-! ### facts the definition of the work-list loop needs -/

theorem pushRef_prefix (refs : List ObjId) (id : ObjId) : ∃ ext, pushRef refs id = refs ++ ext := by
  unfold pushRef; split
  · exact ⟨[], by simp⟩
  · exact ⟨[id], rfl⟩

theorem pushRef_nodup (refs : List ObjId) (id : ObjId) (h : refs.Nodup) : (pushRef refs id).Nodup := by
  unfold pushRef; split
  · exact h
  · rename_i hc
    rw [List.nodup_append]
    refine ⟨h, by simp, ?_⟩
    intro a ha b hb
    simp at hb; subst hb
    intro e; subst e
    exact hc (by simpa using ha)

theorem pushAll_prefix (ids refs : List ObjId) : ∃ ext, pushAll refs ids = refs ++ ext := by
  induction ids generalizing refs with
  | nil => exact ⟨[], by simp [pushAll]⟩
  | cons x xs ih =>
    obtain ⟨e1, h1⟩ := pushRef_prefix refs x
    obtain ⟨e2, h2⟩ := ih (pushRef refs x)
    refine ⟨e1 ++ e2, ?_⟩
    simp only [pushAll, List.foldl_cons] at *
    rw [h2, h1]; simp

theorem pushAll_nodup (ids refs : List ObjId) (h : refs.Nodup) : (pushAll refs ids).Nodup := by
  induction ids generalizing refs with
  | nil => simpa [pushAll]
  | cons x xs ih =>
    simp only [pushAll, List.foldl_cons]
    exact ih _ (pushRef_nodup refs x h)

theorem travObj_prefix (a : Action) (o : Obj) (refs : List ObjId) : ∃ ext, (travObj a o refs).2 = refs ++ ext := by
  rw [(trav_eq a).1 o refs]; exact pushAll_prefix _ _
theorem travObj_nodup (a : Action) (o : Obj) (refs : List ObjId) (h : refs.Nodup) : (travObj a o refs).2.Nodup := by
  rw [(trav_eq a).1 o refs]; exact pushAll_nodup _ _ h
theorem travDict_prefix (a : Action) (d : Dict) (refs : List ObjId) : ∃ ext, (travDict a d refs).2 = refs ++ ext := by
  rw [(trav_eq a).2.1 d refs]; exact pushAll_prefix _ _
theorem travDict_nodup (a : Action) (d : Dict) (refs : List ObjId) (h : refs.Nodup) : (travDict a d refs).2.Nodup := by
  rw [(trav_eq a).2.1 d refs]; exact pushAll_nodup _ _ h

/-- number of objects whose id has not been processed yet -/
def unvisited (os : Objects) (done : List ObjId) : Nat :=
  (os.keys.filter (fun k => !done.contains k)).length

theorem Objects.keys_set (os : Objects) (k : ObjId) (v : Obj) : (os.set k v).keys = os.keys := by
  induction os with
  | nil => rfl
  | cons p rest ih =>
    obtain ⟨k', v'⟩ := p
    simp only [Objects.set, Objects.keys] at *
    split <;> simp [ih]

theorem Objects.mem_keys_of_get {os : Objects} {k : ObjId} {v : Obj} (h : os.get k = some v) : k ∈ os.keys :=
  List.mem_map.mpr ⟨_, Objects.get_mem h, rfl⟩

theorem filter_length_le {α} (l : List α) (p q : α → Bool) (himp : ∀ y, q y = true → p y = true) :
    (l.filter q).length ≤ (l.filter p).length := by
  rw [← List.countP_eq_length_filter, ← List.countP_eq_length_filter]
  exact List.countP_mono_left fun y _ => himp y

theorem filter_length_lt {α} (l : List α) (p q : α → Bool) (x : α) (hx : x ∈ l)
    (hp : p x = true) (hq : q x = false) (himp : ∀ y, q y = true → p y = true) :
    (l.filter q).length < (l.filter p).length := by
  obtain ⟨l₁, l₂, rfl⟩ := List.append_of_mem hx
  have h₁ := filter_length_le l₁ p q himp
  have h₂ := filter_length_le l₂ p q himp
  simp only [List.filter_append, List.filter_cons, hp, hq, List.length_append, List.length_cons, if_true,
    Bool.false_eq_true, if_false]
  omega

theorem getElem_not_mem_take {α} {l : List α} (hn : l.Nodup) {i : Nat} (hi : i < l.length) : l[i] ∉ l.take i := by
  intro hm
  obtain ⟨j, hj, e⟩ := List.mem_take_iff_getElem.mp hm
  have hji : j < i := Nat.lt_of_lt_of_le hj (Nat.min_le_left _ _)
  exact Nat.ne_of_lt hji ((List.getElem_inj (h₀ := Nat.lt_trans hji hi) hn).mp e)

/-- processing `refs[index]`, the id of an object: it was not among the ids done before (no id occurs twice),
it is now, and the key set is the same -/
theorem unvisited_lt (os : Objects) (refs : List ObjId) (index : Nat) (hn : refs.Nodup)
    (hi : index < refs.length) (hk : refs[index] ∈ os.keys) (refs' : List ObjId) (ext : List ObjId)
    (he : refs' = refs ++ ext) (os' : Objects) (hkeys : os'.keys = os.keys) :
    unvisited os' (refs'.take (index + 1)) < unvisited os (refs.take index) := by
  subst he
  unfold unvisited
  rw [hkeys, List.take_append_of_le_length hi]
  refine filter_length_lt _ _ _ refs[index] hk ?_ ?_ fun y => ?_
  · simpa using getElem_not_mem_take hn hi
  · simpa using List.mem_take_iff_getElem.mpr ⟨index, by omega, rfl⟩
  · simp only [Bool.not_eq_true', List.contains_eq_mem, decide_eq_false_iff_not]
    exact fun hy hm => hy (List.take_subset_take_left refs (Nat.le_succ index) hm)

/-- `while index < refs.len() { if let Some(object) = objects.get_mut(&refs[index]) { traverse_object(..) } index += 1 }`.
`refs` never contains an id twice (`pushRef`), which is what bounds the loop: every
iteration either processes an object that had not been processed before, or
consumes one entry of `refs` without adding any. -/
def travLoop (a : Action) (os : Objects) (refs : List ObjId) (index : Nat) (hn : refs.Nodup) :
    Objects × List ObjId :=
  if hi : index < refs.length then
    match hg : os.get refs[index] with
    | some o =>
      travLoop a (os.set refs[index] (travObj a o refs).1) (travObj a o refs).2 (index + 1)
        (travObj_nodup a o refs hn)
    | none => travLoop a os refs (index + 1) hn
  else (os, refs)
termination_by (unvisited os (refs.take index), refs.length - index)
decreasing_by
  · apply Prod.Lex.left
    obtain ⟨ext, he⟩ := travObj_prefix a o refs
    exact unvisited_lt os refs index hn hi (Objects.mem_keys_of_get hg) _ ext he _ (Objects.keys_set _ _ _)
  · have : List.take (index + 1) refs = List.take index refs ++ [refs[index]] := by
      rw [List.take_add_one]; simp [List.getElem?_eq_getElem hi]
    have hu : unvisited os (List.take (index + 1) refs) ≤ unvisited os (List.take index refs) := by
      unfold unvisited
      apply filter_length_le
      intro y hy
      simp only [Bool.not_eq_true', List.contains_eq_mem, decide_eq_false_iff_not] at *
      intro hm; apply hy; rw [this]; exact List.mem_append_left _ hm
    rcases Nat.lt_or_ge (unvisited os (List.take (index + 1) refs)) (unvisited os (List.take index refs)) with h | h
    · exact Prod.Lex.left _ _ h
    · have e : unvisited os (List.take (index + 1) refs) = unvisited os (List.take index refs) := by omega
      rw [e]; apply Prod.Lex.right; omega

/-- `Document::traverse_objects(action)`: new trailer, new objects, the ids pushed (in order). -/
def traverse (a : Action) (trailer : Dict) (os : Objects) : Dict × Objects × List ObjId :=
  let r := travDict a trailer []
  let l := travLoop a os r.2 0 (travDict_nodup a trailer [] List.nodup_nil)
  (r.1, l.1, l.2)

/-- the fields of `lopdf::Bookmark` the editing functions touch -/
structure Bookmark where
  children : List Nat
  page : ObjId
  deriving Repr, DecidableEq

/-- `HashMap<u32, Bookmark>`; only looked up and updated in place -/
abbrev BkTable := List (Nat × Bookmark)

def BkTable.get (t : BkTable) (id : Nat) : Option Bookmark :=
  match t with
  | [] => none
  | (i, b) :: rest => if i = id then some b else BkTable.get rest id

def BkTable.setPage (t : BkTable) (id : Nat) (page : ObjId) : BkTable :=
  t.map (fun (i, b) => if i = id then (i, { b with page := page }) else (i, b))

structure Doc where
  trailer : Dict
  objects : Objects
  maxId : Nat
  bookmarks : List Nat
  bmTable : BkTable
  deriving Repr

end Lopdf
