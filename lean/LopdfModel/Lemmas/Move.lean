import LopdfModel.Lemmas.Traverse
import LopdfModel.Model.Renumber
/-
  The move pass of `renumber_objects_with` at the level of `get` (objects leave the map for a temporary
  map under their new ids and are re-inserted), sortedness of the temporary map, the dense assignment.
-/
namespace Lopdf

theorem inj_of_nodup_map {α β} (f : α → β) (K : List α) (hn : (K.map f).Nodup) :
    ∀ a ∈ K, ∀ b ∈ K, f a = f b → a = b := by
  induction K with
  | nil => intro a ha; cases ha
  | cons x xs ih =>
    intro a ha b hb e
    obtain ⟨hx, hn⟩ := List.nodup_cons.mp hn
    rcases List.mem_cons.mp ha with rfl | ha' <;> rcases List.mem_cons.mp hb with rfl | hb'
    · rfl
    · exact absurd (e ▸ List.mem_map_of_mem hb') hx
    · exact absurd (e ▸ List.mem_map_of_mem ha') hx
    · exact ih hn a ha' b hb' e

theorem nodup_map_of_inj {α β} (f : α → β) (l : List α) (hn : l.Nodup)
    (hinj : ∀ a ∈ l, ∀ b ∈ l, f a = f b → a = b) : (l.map f).Nodup := by
  induction l with
  | nil => exact List.nodup_nil
  | cons x xs ih =>
    obtain ⟨hx, hn⟩ := List.nodup_cons.mp hn
    refine List.nodup_cons.mpr ⟨fun hm => ?_,
      ih hn fun a ha b hb => hinj a (List.mem_cons_of_mem _ ha) b (List.mem_cons_of_mem _ hb)⟩
    obtain ⟨y, hy, e⟩ := List.mem_map.mp hm
    exact hx (hinj y (List.mem_cons_of_mem _ hy) x List.mem_cons_self e ▸ hy)

/-- the old id whose object ends at `k` (last pair with new id `k` wins, as `BTreeMap::insert` overwrites) -/
def srcOf : List (ObjId × ObjId) → ObjId → Option ObjId
  | [], _ => none
  | p :: rest, k => match srcOf rest k with
    | some o => some o
    | none => if p.2 = k then some p.1 else none

theorem srcOf_mem (l : List (ObjId × ObjId)) (k o : ObjId) (h : srcOf l k = some o) : (o, k) ∈ l := by
  induction l with
  | nil => cases h
  | cons q l ihl =>
    rw [srcOf] at h
    cases hq : srcOf l k with
    | some o' => rw [hq] at h; cases h; exact List.mem_cons_of_mem _ (ihl hq)
    | none =>
      rw [hq] at h
      by_cases e : q.2 = k
      · rw [if_pos e] at h; cases h; subst e; exact List.mem_cons_self
      · rw [if_neg e] at h; cases h

theorem srcOf_some_of_mem (l : List (ObjId × ObjId)) (k o : ObjId) (h : (o, k) ∈ l) : ∃ o', srcOf l k = some o' := by
  induction l with
  | nil => cases h
  | cons q l ihl =>
    rw [srcOf]
    rcases List.mem_cons.mp h with rfl | h
    · cases srcOf l k <;> simp
    · obtain ⟨o', ho'⟩ := ihl h; exact ⟨o', by rw [ho']⟩

theorem moveObj_objects (st : MoveSt) (p : ObjId × ObjId) (k : ObjId) :
    (moveObj st p).objects.get k = if p.1 = k then none else st.objects.get k := by
  unfold moveObj
  cases h : st.objects.get p.1 with
  | none =>
    by_cases hk : p.1 = k
    · subst hk; simp [h]
    · simp [hk]
  | some o => simp [Objects.get_remove]

theorem moveObj_tmp (st : MoveSt) (p : ObjId × ObjId) (o : Obj)
    (h : st.objects.get p.1 = some o) (k : ObjId) :
    (moveObj st p).tmp.get k = if p.2 = k then some o else st.tmp.get k := by
  unfold moveObj; simp [h, Objects.get_insert]

theorem moveObj_replace (st : MoveSt) (p : ObjId × ObjId) (o : Obj)
    (h : st.objects.get p.1 = some o) : (moveObj st p).replace = st.replace ++ [p] := by
  unfold moveObj; simp [h]

theorem foldl_moveObj_objects (pairs : List (ObjId × ObjId)) (st : MoveSt) (k : ObjId) :
    (pairs.foldl moveObj st).objects.get k = if k ∈ pairs.map (·.1) then none else st.objects.get k := by
  induction pairs generalizing st with
  | nil => rfl
  | cons p rest ih =>
    rw [List.foldl_cons, ih, moveObj_objects]
    by_cases hk : k ∈ rest.map (·.1) <;> by_cases hpk : p.1 = k <;> simp [hk, hpk, Ne.symm]

theorem foldl_moveObj (pairs : List (ObjId × ObjId)) (st : MoveSt)
    (h1 : (pairs.map (·.1)).Nodup) (h2 : ∀ p ∈ pairs, st.objects.get p.1 ≠ none) :
    (∀ k, (pairs.foldl moveObj st).tmp.get k =
        match srcOf pairs k with
        | some old => st.objects.get old
        | none => st.tmp.get k) ∧
    (pairs.foldl moveObj st).replace = st.replace ++ pairs := by
  induction pairs generalizing st with
  | nil => exact ⟨fun _ => rfl, (List.append_nil _).symm⟩
  | cons p rest ih =>
    obtain ⟨hp, hrest⟩ : p.1 ∉ rest.map (·.1) ∧ (rest.map (·.1)).Nodup := List.nodup_cons.mp h1
    obtain ⟨o, ho⟩ := Option.ne_none_iff_exists'.mp (h2 p List.mem_cons_self)
    have h2' : ∀ q ∈ rest, (moveObj st p).objects.get q.1 ≠ none := fun q hq => by
      rw [moveObj_objects, if_neg fun e : p.1 = q.1 => hp (e ▸ List.mem_map_of_mem hq)]
      exact h2 q (List.mem_cons_of_mem _ hq)
    obtain ⟨i2, i3⟩ := ih (moveObj st p) hrest h2'
    clear ih
    rw [List.foldl_cons]
    refine ⟨fun k => ?_, ?_⟩
    · rw [i2 k, srcOf]
      cases hs : srcOf rest k with
      | some old =>
        have : p.1 ≠ old := fun e => hp (e ▸ List.mem_map_of_mem (f := (·.1)) (srcOf_mem _ _ _ hs))
        simp only; rw [moveObj_objects, if_neg this]
      | none =>
        simp only; rw [moveObj_tmp st p o ho]
        by_cases hk : p.2 = k <;> simp [hk, ho]
    · rw [i3, moveObj_replace st p o ho, List.append_assoc]; rfl

theorem idLt_iff (a b : ObjId) : idLt a b = true ↔ (a.1 < b.1 ∨ (a.1 = b.1 ∧ a.2 < b.2)) := by
  simp [idLt]
theorem idLt_trans {a b c : ObjId} (h1 : idLt a b = true) (h2 : idLt b c = true) : idLt a c = true := by
  rw [idLt_iff] at *
  rcases h1 with h | ⟨e, h⟩ <;> rcases h2 with h' | ⟨e', h'⟩
  · exact Or.inl (Nat.lt_trans h h')
  · exact Or.inl (e' ▸ h)
  · exact Or.inl (e ▸ h')
  · exact Or.inr ⟨e.trans e', Nat.lt_trans h h'⟩
theorem idLt_irrefl (a : ObjId) : idLt a a = false := by
  cases h : idLt a a
  · rfl
  · rw [idLt_iff] at h; omega
theorem idLt_total {a b : ObjId} (h1 : idLt a b = false) (h2 : b ≠ a) : idLt b a = true := by
  have : ¬ (idLt a b = true) := by simp [h1]
  rw [idLt_iff] at *
  have : ¬ (b.1 = a.1 ∧ b.2 = a.2) := fun e => h2 (Prod.ext e.1 e.2)
  omega

theorem Objects.get_none_of_not_mem (os : Objects) (k : ObjId) (h : k ∉ os.keys) : os.get k = none := by
  cases hg : os.get k with
  | none => rfl
  | some v => exact absurd (Objects.mem_keys_of_get hg) h

theorem Objects.mem_keys_iff (os : Objects) (k : ObjId) : k ∈ os.keys ↔ (os.get k).isSome := by
  constructor
  · intro h
    induction os with
    | nil => cases h
    | cons p rest ih =>
      rw [Objects.get]
      by_cases e : p.1 = k
      · rw [if_pos e]; rfl
      · rw [if_neg e]
        exact ih ((List.mem_cons.mp h).resolve_left (Ne.symm e))
  · intro h
    cases hg : os.get k with
    | none => rw [hg] at h; cases h
    | some v => exact Objects.mem_keys_of_get hg

theorem Objects.mem_keys_insert (os : Objects) (k : ObjId) (v : Obj) (q : ObjId)
    (h : q ∈ (os.insert k v).keys) : q = k ∨ q ∈ os.keys := by
  rw [Objects.mem_keys_iff, Objects.get_insert] at h
  by_cases e : k = q
  · exact Or.inl e.symm
  · rw [if_neg e] at h; exact Or.inr ((Objects.mem_keys_iff os q).mpr h)

/-- keys strictly increasing -/
def Objects.Sorted (os : Objects) : Prop := os.keys.Pairwise (fun a b => idLt a b = true)

theorem Objects.sorted_insert (os : Objects) (k : ObjId) (v : Obj) (hs : os.Sorted) : (os.insert k v).Sorted := by
  induction os with
  | nil => exact List.pairwise_singleton _ _
  | cons p rest ih =>
    obtain ⟨k0, v0⟩ := p
    obtain ⟨hk0, hrest⟩ := List.pairwise_cons.mp hs
    rw [Objects.insert]
    by_cases h1 : k0 = k
    · rw [if_pos h1]; subst h1; exact hs
    · rw [if_neg h1]
      by_cases h2 : idLt k k0 = true
      · rw [if_pos h2]
        refine List.pairwise_cons.mpr ⟨fun a ha => ?_, hs⟩
        rcases List.mem_cons.mp ha with rfl | ha
        · exact h2
        · exact idLt_trans h2 (hk0 a ha)
      · rw [if_neg h2]
        refine List.pairwise_cons.mpr ⟨fun a ha => ?_, ih hrest⟩
        rcases Objects.mem_keys_insert rest k v a ha with rfl | ha
        · exact idLt_total (by simpa using h2) h1
        · exact hk0 a ha

theorem Objects.get_foldl_insert (l : Objects) (acc : Objects) (hs : l.Sorted) (k : ObjId) :
    (l.foldl (fun acc kv => acc.insert kv.1 kv.2) acc).get k =
      match l.get k with
      | some v => some v
      | none => acc.get k := by
  induction l generalizing acc with
  | nil => rfl
  | cons p rest ih =>
    obtain ⟨k0, v0⟩ := p
    obtain ⟨hk0, hrest⟩ := List.pairwise_cons.mp hs
    rw [List.foldl_cons, ih _ hrest, Objects.get]
    by_cases h : k0 = k
    · subst h
      have : k0 ∉ Objects.keys rest := fun hm => by have := hk0 _ hm; rw [idLt_irrefl] at this; cases this
      simp [Objects.get_none_of_not_mem rest k0 this, Objects.get_insert]
    · rw [if_neg h]
      cases Objects.get rest k with
      | some v => rfl
      | none => simp [Objects.get_insert, h]

theorem foldl_moveObj_sorted (pairs : List (ObjId × ObjId)) (st : MoveSt) (h : st.tmp.Sorted) :
    (pairs.foldl moveObj st).tmp.Sorted := by
  induction pairs generalizing st with
  | nil => exact h
  | cons p rest ih =>
    refine ih _ ?_
    unfold moveObj; split
    · exact Objects.sorted_insert _ _ _ h
    · exact h

/-- **the move pass at the level of `get`**: for pairs with distinct old ids that all exist, the object
map afterwards holds, at `k`, the object of the (last) pair whose new id is `k`; an old id that was
not re-used is empty; every other key is untouched.  `replace` is exactly the list of pairs. -/
theorem movePass_get (bks : List Nat) (os : Objects) (bm : BkTable) (pairs : List (ObjId × ObjId))
    (h1 : (pairs.map (·.1)).Nodup) (h2 : ∀ p ∈ pairs, os.get p.1 ≠ none) :
    (∀ k, (movePass bks os bm pairs).objects.get k =
      match srcOf pairs k with
      | some old => os.get old
      | none => if k ∈ pairs.map (·.1) then none else os.get k) ∧
    (movePass bks os bm pairs).replace = pairs := by
  obtain ⟨i2, i3⟩ := foldl_moveObj pairs ⟨os, [], [], bm⟩ h1 h2
  have hs := foldl_moveObj_sorted pairs ⟨os, [], [], bm⟩ List.Pairwise.nil
  refine ⟨fun k => ?_, i3⟩
  show (List.foldl _ (pairs.foldl moveObj _).objects (pairs.foldl moveObj _).tmp).get k = _
  rw [Objects.get_foldl_insert _ _ hs, i2 k, foldl_moveObj_objects]
  cases hsrc : srcOf pairs k with
  | none => rfl
  | some old =>
    obtain ⟨o, ho⟩ := Option.ne_none_iff_exists'.mp (h2 (old, k) (srcOf_mem _ _ _ hsrc))
    show (match os.get old with | some v => some v | none => _) = os.get old
    rw [ho]

theorem movePass_isSome (bks : List Nat) (os : Objects) (bm : BkTable) (pairs : List (ObjId × ObjId))
    (h1 : (pairs.map (·.1)).Nodup) (h2 : ∀ p ∈ pairs, os.get p.1 ≠ none) (k : ObjId) :
    ((movePass bks os bm pairs).objects.get k).isSome ↔
      (∃ p ∈ pairs, p.2 = k) ∨ ((os.get k).isSome ∧ k ∉ pairs.map (·.1)) := by
  rw [(movePass_get bks os bm pairs h1 h2).1 k]
  cases hs : srcOf pairs k with
  | some old =>
    have hm := srcOf_mem _ _ _ hs
    exact ⟨fun _ => Or.inl ⟨_, hm, rfl⟩, fun _ => Option.isSome_iff_ne_none.mpr (h2 _ hm)⟩
  | none =>
    have : ¬ ∃ p ∈ pairs, p.2 = k := fun ⟨p, hp, e⟩ => by
      obtain ⟨o', ho'⟩ := srcOf_some_of_mem pairs k p.1 (e ▸ hp)
      rw [hs] at ho'; cases ho'
    by_cases hk : k ∈ pairs.map (·.1) <;> simp [this, hk]

/-- the pairs the dense pass records: ids whose number changes -/
def denseSpec : List ObjId → Nat → List (ObjId × ObjId)
  | [], _ => []
  | id :: rest, s => (if id.1 ≠ s then [(id, (s, id.2))] else []) ++ denseSpec rest (s + 1)

/-- the complete assignment old id ↦ new id of the dense pass -/
def assign : List ObjId → Nat → List (ObjId × ObjId)
  | [], _ => []
  | id :: rest, s => (id, (s, id.2)) :: assign rest (s + 1)

theorem densePairs_eq (ids : List ObjId) (s : Nat) (acc : List (ObjId × ObjId)) (h : s + ids.length ≤ U32_MAXE + 1) :
    densePairs ids s acc = some (acc ++ denseSpec ids s, s + ids.length) := by
  induction ids generalizing s acc with
  | nil => simp [densePairs, denseSpec]
  | cons id rest ih =>
    rw [List.length_cons] at h
    rw [densePairs, if_neg (by omega), ih (s + 1) _ (by omega), denseSpec, List.length_cons,
      Nat.add_assoc, Nat.add_comm 1]
    split <;> simp

theorem denseSpec_eq_filter (ids : List ObjId) (s : Nat) :
    denseSpec ids s = (assign ids s).filter fun p => p.1.1 ≠ p.2.1 := by
  induction ids generalizing s with
  | nil => rfl
  | cons id rest ih =>
    rw [denseSpec, assign, List.filter_cons, ih]
    split <;> simp [*]

theorem denseSpec_sublist_assign (ids : List ObjId) (s : Nat) : (denseSpec ids s).Sublist (assign ids s) :=
  denseSpec_eq_filter ids s ▸ List.filter_sublist

theorem assign_getElem? (ids : List ObjId) (s k : Nat) :
    (assign ids s)[k]? = (ids[k]?).map (fun x => (x, (s + k, x.2))) := by
  induction ids generalizing s k with
  | nil => rfl
  | cons id rest ih =>
    cases k with
    | zero => rfl
    | succ k =>
      rw [assign, List.getElem?_cons_succ, List.getElem?_cons_succ, ih, Nat.add_assoc, Nat.add_comm 1 k]

theorem assign_numbers (ids : List ObjId) (s : Nat) :
    (assign ids s).map (fun p => p.2.1) = List.range' s ids.length := by
  induction ids generalizing s with
  | nil => rfl
  | cons id rest ih => simp [assign, ih, List.range'_succ]

theorem assign_olds (ids : List ObjId) (s : Nat) : (assign ids s).map (·.1) = ids := by
  induction ids generalizing s with
  | nil => rfl
  | cons id rest ih => simp [assign, ih]

theorem assign_inj (ids : List ObjId) (s : Nat) : ∀ p ∈ assign ids s, ∀ q ∈ assign ids s, p.2.1 = q.2.1 → p = q :=
  inj_of_nodup_map (fun p : ObjId × ObjId => p.2.1) _ (by rw [assign_numbers]; exact List.nodup_range')

theorem denseSpec_olds_sublist (ids : List ObjId) (s : Nat) : ((denseSpec ids s).map (·.1)).Sublist ids :=
  by simpa only [assign_olds] using (denseSpec_sublist_assign ids s).map (·.1)

theorem assign_gen (ids : List ObjId) (s : Nat) : ∀ p ∈ assign ids s, p.2.2 = p.1.2 := by
  induction ids generalizing s with
  | nil => exact fun p hp => nomatch hp
  | cons id rest ih =>
    intro p hp
    rcases List.mem_cons.mp hp with rfl | hp
    · rfl
    · exact ih _ p hp

theorem mem_denseSpec {ids : List ObjId} {s : Nat} {p : ObjId × ObjId} :
    p ∈ denseSpec ids s ↔ p ∈ assign ids s ∧ p.2 ≠ p.1 := by
  rw [denseSpec_eq_filter, List.mem_filter, decide_eq_true_iff]
  refine and_congr_right fun hp => not_congr ⟨fun h => Prod.ext h.symm (assign_gen ids s p hp), fun e => by rw [e]⟩

theorem assign_stays_iff {ids : List ObjId} {s : Nat} (hn : ids.Nodup) {p : ObjId × ObjId} (hp : p ∈ assign ids s) :
    p.1 ∉ (denseSpec ids s).map (·.1) ↔ p.2 = p.1 := by
  constructor
  · exact fun h => Classical.byContradiction fun hmv => h (List.mem_map_of_mem (mem_denseSpec.mpr ⟨hp, hmv⟩))
  · intro hfix hm
    obtain ⟨q, hq, hqk⟩ := List.mem_map.mp hm
    obtain ⟨hqa, hqm⟩ := mem_denseSpec.mp hq
    exact hqm (inj_of_nodup_map (·.1) _ (by rw [assign_olds]; exact hn) q hqa p hp hqk ▸ hfix)


/-- after the move pass of the dense renumbering, exactly the new ids of the assignment hold objects -/
theorem dense_move_isSome (bks : List Nat) (os : Objects) (bm : BkTable) (ids : List ObjId) (s : Nat)
    (hn : ids.Nodup) (hk : ∀ k, k ∈ ids ↔ (os.get k).isSome) (k : ObjId) :
    ((movePass bks os bm (denseSpec ids s)).objects.get k).isSome ↔ ∃ p ∈ assign ids s, p.2 = k := by
  have hold : ∀ p ∈ assign ids s, (os.get p.1).isSome := fun p hp =>
    (hk p.1).mp (assign_olds ids s ▸ List.mem_map_of_mem hp)
  rw [movePass_isSome bks os bm _ ((denseSpec_olds_sublist ids s).nodup hn)
    fun p hp => Option.isSome_iff_ne_none.mp (hold p (mem_denseSpec.mp hp).1)]
  constructor
  · rintro (⟨p, hp, e⟩ | ⟨hkk, hko⟩)
    · exact ⟨p, (mem_denseSpec.mp hp).1, e⟩
    · obtain ⟨p, hp, hpk⟩ := List.mem_map.mp (assign_olds ids s ▸ (hk k).mpr hkk)
      exact ⟨p, hp, ((assign_stays_iff hn hp).mp (hpk ▸ hko)).trans hpk⟩
  · rintro ⟨p, hp, rfl⟩
    by_cases hfix : p.2 = p.1
    · exact Or.inr ⟨hfix ▸ hold p hp, hfix ▸ (assign_stays_iff hn hp).mpr hfix⟩
    · exact Or.inl ⟨p, mem_denseSpec.mpr ⟨hp, hfix⟩, rfl⟩

theorem insertBy_perm {α} (le : α → α → Bool) (x : α) (l : List α) : (insertBy le x l).Perm (x :: l) := by
  induction l with
  | nil => exact List.Perm.refl _
  | cons y ys ih =>
    rw [insertBy]; split
    · exact List.Perm.refl _
    · exact (List.Perm.cons y ih).trans (List.Perm.swap x y ys)

theorem sortBy_perm {α} (le : α → α → Bool) (l : List α) : (sortBy le l).Perm l := by
  induction l with
  | nil => exact List.Perm.refl _
  | cons x xs ih => exact (insertBy_perm le x _).trans (List.Perm.cons x ih)

/-- the ids the dense pass numbers: every key once -/
theorem sortedKeys (os : Objects) (hnd : os.keys.Nodup) :
    (sortBy idLeE os.keys).Nodup ∧ (∀ k, k ∈ sortBy idLeE os.keys ↔ (os.get k).isSome) ∧
    (sortBy idLeE os.keys).length = os.length :=
  have hperm := sortBy_perm idLeE os.keys
  ⟨hperm.nodup_iff.mpr hnd, fun k => hperm.mem_iff.trans (Objects.mem_keys_iff os k),
    hperm.length_eq.trans (List.length_map _)⟩
end Lopdf
