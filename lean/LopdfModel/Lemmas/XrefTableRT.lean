import LopdfModel.Lemmas.FileSecs
import LopdfModel.Lemmas.Num
/-
  Reading back a written cross-reference table: zero-padded fields, entry lines, subsection
  headers, `manyXrefEntries`, `pXrefSection`, `addSection`, `foldSections`.
-/
namespace Lopdf.FileRT
open Lopdf Gen

theorem digitsVal_zeros (k : Nat) (ds : Bytes) : digitsVal (List.replicate k 48 ++ ds) = digitsVal ds := by
  unfold digitsVal
  rw [List.foldl_append]
  congr 1
  induction k with
  | zero => rfl
  | succ k ih => simp only [List.replicate_succ, List.foldl_cons]; simpa using ih

theorem padZero_digits (w n : Nat) : ∀ b ∈ padZero w (natDigits n), isDigit b = true := by
  intro b hb
  simp only [padZero, List.mem_append, List.mem_replicate] at hb
  rcases hb with ⟨_, rfl⟩ | hb
  · decide
  · exact natDigits_all_digit n b hb

theorem padZero_ne_nil (w n : Nat) : padZero w (natDigits n) ≠ [] := by
  simp [padZero, natDigits_ne_nil]

/-- **zero-padded field round trip**: `{:>0w}` of a number reads back as that number -/
theorem pUnsigned_padZero (mx w n : Nat) (rest : Bytes) (hn : n ≤ mx) (hr : NoDigitAhead rest) :
    pUnsigned mx (padZero w (natDigits n) ++ rest) = some (n, rest) := by
  have hv : digitsVal (padZero w (natDigits n)) = n := by
    rw [padZero, digitsVal_zeros, digitsVal_natDigits]
  rw [ObjRt.pUnsigned_digits mx _ rest (padZero_ne_nil w n) (padZero_digits w n) hr, hv, if_pos hn]

theorem pUnsigned_natDigits_cases (mx n : Nat) (rest : Bytes) (hr : NoDigitAhead rest) :
    pUnsigned mx (natDigits n ++ rest) = if n ≤ mx then some (n, rest) else none := by
  rw [ObjRt.pUnsigned_digits mx _ rest (natDigits_ne_nil n) (natDigits_all_digit n) hr, digitsVal_natDigits]

/-- what `pXrefEntry` returns for a written line -/
def entryParsed : Option (Nat × Nat) → Nat × Nat × Bool
  | some (off, g) => (off, g, true)
  | none => (0, 65535, false)

def EntryOk : Option (Nat × Nat) → Prop
  | some (off, g) => off < 4294967296 ∧ g < 65536
  | none => True

theorem pXrefEntry_fields (a b : Nat) (k : UInt8) (rest : Bytes) (ha : a ≤ U32_MAX) (hb : b ≤ U32_MAX)
    (hk : k = 110 ∨ k = 102) :
    pXrefEntry (padZero 10 (natDigits a) ++ [32] ++ padZero 5 (natDigits b) ++ [32, k, 32, 10] ++ rest)
      = some ((a, b, k == 110), rest) := by
  simp only [List.append_assoc, List.cons_append, List.nil_append]
  unfold pXrefEntry
  rw [pUnsigned_padZero U32_MAX 10 a _ ha (noDigitAhead_cons _ (by decide))]
  simp only [Option.bind_some]
  rw [pUnsigned_padZero U32_MAX 5 b _ hb (noDigitAhead_cons _ (by decide))]
  rcases hk with rfl | rfl <;> rfl

theorem pXrefEntry_line (e : Option (Nat × Nat)) (rest : Bytes) (h : EntryOk e) :
    pXrefEntry (xrefEntryLine e ++ rest) = some (entryParsed e, rest) := by
  cases e with
  | none => exact pXrefEntry_fields 0 65535 102 rest (by decide) (by decide) (Or.inr rfl)
  | some p =>
    have h1 : p.1 ≤ U32_MAX := by have := h.1; simp only [U32_MAX]; omega
    have h2 : p.2 ≤ U32_MAX := by have := h.2; simp only [U32_MAX]; omega
    exact pXrefEntry_fields p.1 p.2 110 rest h1 h2 (Or.inl rfl)

/-- a subsection header is not an entry line (`manyXrefEntries` stops there) -/
theorem pXrefEntry_header (s n : Nat) (r : Bytes) :
    pXrefEntry (natDigits s ++ [32] ++ natDigits n ++ [10] ++ r) = none := by
  simp only [List.append_assoc, List.cons_append, List.nil_append]
  unfold pXrefEntry
  rw [pUnsigned_natDigits_cases U32_MAX s _ (noDigitAhead_cons _ (by decide))]
  split
  · simp only [Option.bind_some]
    rw [pUnsigned_natDigits_cases U32_MAX n _ (noDigitAhead_cons _ (by decide))]
    split <;> rfl
  · rfl

theorem pXrefEntry_noDigit (rest : Bytes) (hr : NoDigitAhead rest) : pXrefEntry rest = none := by
  unfold pXrefEntry
  rw [ObjRt.pUnsigned_none _ rest hr]
  rfl

theorem manyXrefEntries_lines : ∀ (es : List (Option (Nat × Nat))) (fuel : Nat) (rest : Bytes),
    (∀ e ∈ es, EntryOk e) → pXrefEntry rest = none → es.length ≤ fuel →
    manyXrefEntries fuel ((es.map xrefEntryLine).flatten ++ rest) = (es.map entryParsed, rest) := by
  intro es
  induction es with
  | nil =>
    intro fuel rest _ hr _
    cases fuel with
    | zero => rfl
    | succ f => simp [manyXrefEntries, hr]
  | cons e es ih =>
    intro fuel rest hok hr hf
    cases fuel with
    | zero => simp at hf
    | succ f =>
      simp only [List.map_cons, List.flatten_cons, List.append_assoc, manyXrefEntries]
      rw [pXrefEntry_line e _ (hok e (by simp))]
      simp only
      rw [ih f rest (fun e' h' => hok e' (by simp [h'])) hr (by simpa using hf)]

theorem xrefEntryLine_pos (e : Option (Nat × Nat)) : 1 ≤ (xrefEntryLine e).length := by
  cases e <;> simp only [xrefEntryLine, List.length_append, List.length_cons] <;> omega

theorem lines_length (es : List (Option (Nat × Nat))) : es.length ≤ ((es.map xrefEntryLine).flatten).length := by
  induction es with
  | nil => simp
  | cons e es ih =>
    have := xrefEntryLine_pos e
    simp only [List.map_cons, List.flatten_cons, List.length_append, List.length_cons]
    omega

theorem pXrefSection_bytes (s : Nat) (es : List (Option (Nat × Nat))) (rest : Bytes)
    (hs : s ≤ USIZE_MAX) (hn : es.length ≤ U32_MAX) (hok : ∀ e ∈ es, EntryOk e)
    (hr : pXrefEntry rest = none) :
    pXrefSection (xrefSectionBytes s es ++ rest) = some ((s, es.map entryParsed), rest) := by
  simp only [xrefSectionBytes, List.append_assoc, List.cons_append, List.nil_append]
  unfold pXrefSection
  rw [ObjRt.pUnsigned_natDigits USIZE_MAX s _ hs (noDigitAhead_cons _ (by decide))]
  simp only [Option.bind_some]
  rw [ObjRt.pUnsigned_natDigits U32_MAX es.length _ hn (noDigitAhead_cons _ (by decide))]
  have key := manyXrefEntries_lines es (((es.map xrefEntryLine).flatten ++ rest).length + 1) rest hok hr
    (by have := lines_length es; simp only [List.length_append]; omega)
  simp only [Option.bind_some]
  show Option.map _ (some (([10] : Bytes), (es.map xrefEntryLine).flatten ++ rest)) = _
  simp only [Option.map_some, key]

/-- object numbers are reduced modulo 2^32 (`as u32`): no change below 2^32 -/
theorem toNat_emod_U32 (n : Nat) (h : n < 4294967296) : ((n : Int) % (U32 : Int)).toNat = n := by
  rw [Int.emod_eq_of_lt (by omega) (by simp only [U32]; omega), Int.toNat_natCast]

/-- insert the in-use assignments into a table -/
def applyAssigns (t : XTable) : List (Nat × Option (Nat × Nat)) → XTable
  | [] => t
  | (k, some (off, g)) :: rest => applyAssigns (t.insert k (.normal off g)) rest
  | (_, none) :: rest => applyAssigns t rest

theorem applyAssigns_append (a b : List (Nat × Option (Nat × Nat))) : ∀ t : XTable,
    applyAssigns t (a ++ b) = applyAssigns (applyAssigns t a) b := by
  induction a with
  | nil => intro t; rfl
  | cons p rest ih =>
    intro t
    obtain ⟨k, e⟩ := p
    cases e with
    | none => simp only [List.cons_append, applyAssigns, ih]
    | some v => obtain ⟨off, g⟩ := v; simp only [List.cons_append, applyAssigns, ih]

theorem addSection_assigns : ∀ (es : List (Option (Nat × Nat))) (t : XTable) (s idx : Nat),
    (∀ e ∈ es, EntryOk e) → s + idx + es.length ≤ 4294967296 →
    addSection t s (es.map entryParsed) idx = .ok (applyAssigns t (assignsFrom (s + idx) es)) := by
  intro es
  induction es with
  | nil => intro t s idx _ _; rfl
  | cons e es ih =>
    intro t s idx hok hb
    rw [List.length_cons] at hb
    have ih' := fun t => ih t s (idx + 1) (fun e' h' => hok e' (by simp [h'])) (by omega)
    rw [show s + (idx + 1) = s + idx + 1 by omega] at ih'
    cases e with
    | none =>
      simp only [List.map_cons, entryParsed, addSection, assignsFrom, applyAssigns, Bool.false_eq_true, if_false]
      exact ih' t
    | some p =>
      obtain ⟨off, g⟩ := p
      obtain ⟨h1, h2⟩ := hok (some (off, g)) (by simp)
      have hg : g ≤ U16_MAX := by simp only [U16_MAX]; omega
      have hnot : ¬ (s + idx ≥ U64) := by simp only [U64]; omega
      have hmod : (s + idx) % U32 = s + idx := Nat.mod_eq_of_lt (by simp only [U32]; omega)
      simp only [List.map_cons, entryParsed, addSection, assignsFrom, applyAssigns, if_true, hg, hnot, if_false,
        hmod]
      exact ih' _

def SecOk (sec : Nat × List (Option (Nat × Nat))) : Prop :=
  sec.1 + sec.2.length ≤ 4294967295 ∧ ∀ e ∈ sec.2, EntryOk e

theorem secsBytes_cons (sec : Nat × List (Option (Nat × Nat))) (more : List (Nat × List (Option (Nat × Nat)))) :
    secsBytes (sec :: more) = xrefSectionBytes sec.1 sec.2 ++ secsBytes more := rfl

theorem pXrefEntry_secsBytes (secs : List (Nat × List (Option (Nat × Nat)))) (rest : Bytes)
    (hr : NoDigitAhead rest) : pXrefEntry (secsBytes secs ++ rest) = none := by
  cases secs with
  | nil => exact pXrefEntry_noDigit rest hr
  | cons sec more =>
    rw [secsBytes_cons, xrefSectionBytes, List.append_assoc, List.append_assoc]
    exact pXrefEntry_header sec.1 sec.2.length _

theorem secsBytes_length (secs : List (Nat × List (Option (Nat × Nat)))) : secs.length ≤ (secsBytes secs).length := by
  induction secs with
  | nil => simp [secsBytes]
  | cons sec more ih =>
    rw [secsBytes_cons]
    simp only [xrefSectionBytes, List.length_append, List.length_cons]
    omega

theorem pXrefSection_noDigit (rest : Bytes) (hr : NoDigitAhead rest) : pXrefSection rest = none := by
  unfold pXrefSection
  rw [ObjRt.pUnsigned_none _ rest hr]
  rfl

/-- **`fold_many1(xref_section)`** over the written sections: all of them are read, each entry
lands under its own object number, and the fold stops at the first non-digit -/
theorem foldSections_secs : ∀ (secs : List (Nat × List (Option (Nat × Nat)))) (fuel : Nat) (rest : Bytes)
    (t : XTable) (any : Bool),
    (∀ sec ∈ secs, SecOk sec) → NoDigitAhead rest → secs.length + 1 ≤ fuel → (secs ≠ [] ∨ any = true) →
    foldSections fuel (secsBytes secs ++ rest) t any = .ok (some (applyAssigns t (assigns secs), rest)) := by
  intro secs
  induction secs with
  | nil =>
    intro fuel rest t any _ hr hf hany
    have hany : any = true := hany.resolve_left (fun h => h rfl)
    cases fuel with
    | zero => simp at hf
    | succ f =>
      simp [secsBytes, foldSections, pXrefSection_noDigit rest hr, hany, assigns, applyAssigns]
  | cons sec more ih =>
    intro fuel rest t any hok hr hf _
    obtain ⟨s, es⟩ := sec
    obtain ⟨hb, he⟩ := hok (s, es) (by simp)
    simp only at hb he
    cases fuel with
    | zero => simp at hf
    | succ f =>
      have hsec := pXrefSection_bytes s es (secsBytes more ++ rest) (by simp only [USIZE_MAX]; omega)
        (by simp only [U32_MAX]; omega) he (pXrefEntry_secsBytes more rest hr)
      have ha := addSection_assigns es t s 0 he (by omega)
      rw [secsBytes_cons, List.append_assoc]
      simp only [foldSections, hsec, ha]
      rw [ih f rest _ true (fun sec' h' => hok sec' (by simp [h'])) hr (by simp at hf ⊢; omega) (Or.inr rfl)]
      rw [assigns_cons, applyAssigns_append, Nat.add_zero]

end Lopdf.FileRT
