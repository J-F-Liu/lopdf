import LopdfModel.Lemmas.Bytes
import LopdfModel.Model.Write
import LopdfModel.Model.Parse
/-
  Lemmas about the lexical layer: `spanP`, digits, the name and hex-string loops.
-/
namespace Lopdf
open Gen

theorem spanP_append (p : UInt8 → Bool) (a rest : Bytes) (ha : ∀ b ∈ a, p b = true)
    (hr : ∀ b r, rest = b :: r → p b = false) : spanP p (a ++ rest) = (a, rest) := by
  induction a with
  | nil =>
    cases rest with
    | nil => rfl
    | cons b r => simp [spanP, hr b r rfl]
  | cons x xs ih =>
    have hx : p x = true := ha x (by simp)
    have := ih (fun b hb => ha b (by simp [hb]))
    simp [spanP, hx, this]

/-- first byte of a stop context: empty or a non-digit -/
def NoDigitAhead (rest : Bytes) : Prop := ∀ b r, rest = b :: r → isDigit b = false

theorem noDigitAhead_cons {b : UInt8} (r : Bytes) (h : isDigit b = false) : NoDigitAhead (b :: r) := by
  rintro _ _ ⟨⟩; exact h

/-- a context in which a name ends: end of input, or a byte that is not regular
(white space or delimiter). -/
def NameStop (rest : Bytes) : Prop := ∀ b r, rest = b :: r → isRegular b = false

theorem nameStop_cons {b : UInt8} (r : Bytes) (h : isRegular b = false) : NameStop (b :: r) := by
  rintro _ _ ⟨⟩; exact h

theorem not_regular_mem {b : UInt8} (h : isRegular b = false) : b ∈ WHITESPACE ++ DELIMITERS := by
  simp only [isRegular, isWhitespace, isDelimiter, Bool.and_eq_false_iff, Bool.not_eq_false',
    List.contains_iff_mem] at h
  exact List.mem_append.mpr h

/-- `write_name` escapes `#` and every byte that is not regular -/
theorem name_raw_regular (b : UInt8) (h : nameEscaped b = false) : (b != 35) = true ∧ isRegular b = true := by
  have key : ∀ b ∈ 35 :: (WHITESPACE ++ DELIMITERS), nameEscaped b = true := by decide +kernel
  constructor
  · rw [bne_iff_ne]; rintro rfl; simp [key 35 (by simp)] at h
  · cases hr : isRegular b with
    | true => rfl
    | false => simp [key b (List.mem_cons_of_mem _ (not_regular_mem hr))] at h

theorem nameBody_raw (f : Nat) (b : UInt8) (r : Bytes) (hb : b ≠ 35) :
    nameBody (f + 1) (b :: r) =
      if isRegular b then (b :: (nameBody f r).1, (nameBody f r).2) else ([], b :: r) := by
  rw [nameBody]
  · simp [hb]
  · rintro _ _ _ rfl; exact absurd rfl hb

theorem nameBody_stop (fuel : Nat) (rest : Bytes) (h : NameStop rest) :
    nameBody fuel rest = ([], rest) := by
  cases fuel with
  | zero => rfl
  | succ f =>
    cases rest with
    | nil => rfl
    | cons b r =>
      have hb := h b r rfl
      rw [nameBody_raw f b r (by rintro rfl; exact absurd hb (by decide)), hb]
      rfl

/-- the two hexadecimal digits `{:02X}` prints for a byte denote that byte -/
theorem hexDigitU_facts : ∀ n : UInt8, n < 16 → isHexDigit (hexDigitU n) = true ∧
    isWhitespace (hexDigitU n) = false ∧ hexVal (hexDigitU n) = n :=
  forall_uint8_lt 16 _ (by decide +kernel)

theorem nibbles_join : ∀ b : UInt8, (b >>> 4) < 16 ∧ (b &&& 15) < 16 ∧ ((b >>> 4) <<< 4 ||| (b &&& 15)) = b := by
  apply forall_uint8; decide +kernel

theorem nameBody_write (bs : Bytes) : ∀ (fuel : Nat) (rest : Bytes), NameStop rest →
    bs.length + 1 ≤ fuel → nameBody fuel (writeNameBody bs ++ rest) = (bs, rest) := by
  induction bs with
  | nil => intro fuel rest h _; simpa [writeNameBody] using nameBody_stop fuel rest h
  | cons b bs ih =>
    intro fuel rest h hf
    cases fuel with
    | zero => simp at hf
    | succ f =>
      have ih' := ih f rest h (by simp at hf ⊢; omega)
      by_cases he : nameEscaped b = true
      · obtain ⟨n1, n2, n3⟩ := nibbles_join b
        obtain ⟨a1, _, a3⟩ := hexDigitU_facts _ n1
        obtain ⟨b1, _, b3⟩ := hexDigitU_facts _ n2
        simp only [writeNameBody, he, if_true, hex2U, List.cons_append, List.nil_append]
        unfold nameBody
        simp [a1, b1, a3, b3, n3, ih']
      · have he' : nameEscaped b = false := by simpa using he
        obtain ⟨h1, h2⟩ := name_raw_regular b he'
        simp only [writeNameBody, he', Bool.false_eq_true, if_false, List.cons_append, List.nil_append]
        rw [nameBody_raw f b _ (bne_iff_ne.mp h1), h2, ih']
        rfl

theorem writeNameBody_length (n : Bytes) : n.length ≤ (writeNameBody n).length := by
  induction n with
  | nil => simp [writeNameBody]
  | cons b bs ih => simp only [writeNameBody, List.length_append, List.length_cons]; split <;> simp <;> omega

theorem writeHexBody_length (s : Bytes) : (writeHexBody s).length = 2 * s.length := by
  induction s with
  | nil => simp [writeHexBody]
  | cons b bs ih => simp [writeHexBody, hex2U, ih]; omega


theorem whiteSpace_nonws (d : UInt8) (r : Bytes) (h : isWhitespace d = false) :
    whiteSpace (d :: r) = d :: r := by
  simp [whiteSpace, spanP, h]

theorem hexBody_write (s : Bytes) : ∀ (fuel : Nat) (rest acc : Bytes),
    2 * s.length + 1 ≤ fuel →
    hexBody fuel (writeHexBody s ++ 62 :: rest) none acc = (acc ++ s, 62 :: rest) := by
  induction s with
  | nil =>
    intro fuel rest acc hf
    cases fuel with
    | zero => simp at hf
    | succ f =>
      simp only [writeHexBody, List.nil_append]
      unfold hexBody
      rw [whiteSpace_nonws 62 rest (by decide)]
      simp [show isHexDigit 62 = false by decide]
  | cons b s ih =>
    intro fuel rest acc hf
    obtain ⟨n1, n2, n3⟩ := nibbles_join b
    obtain ⟨a1, a2, a3⟩ := hexDigitU_facts (b >>> 4) n1
    obtain ⟨b1, b2, b3⟩ := hexDigitU_facts (b &&& 15) n2
    match fuel, hf with
    | f + 2, hf =>
      have ih' := ih f rest (acc ++ [b]) (by simp at hf ⊢; omega)
      simp only [writeHexBody, hex2U, List.cons_append, List.nil_append]
      unfold hexBody
      rw [whiteSpace_nonws _ _ a2]
      simp only [a1, if_true]
      unfold hexBody
      rw [whiteSpace_nonws _ _ b2]
      simp only [b1, if_true, a3, b3, n3]
      rw [ih']
      simp

end Lopdf
