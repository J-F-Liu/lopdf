import LopdfModel.Lemmas.Move
import LopdfModel.Model.Edit
/-
  The object map under the editing calls (C11) and the move passes of renumbering (C10): it stays a sorted
  BTreeMap through insert / remove / get_mut / traversal / move passes and no key appears out of nothing
  (`WF`: allocation invariant + sortedness); a property of all stored objects (`Objects.All`) and a relation
  between the objects before and after (`Objects.Rel`) through the same operations; induction over a run of
  calls (`runOps_induction`).
-/
namespace Lopdf

theorem Objects.keys_remove_sublist (os : Objects) (k : ObjId) : (os.remove k).keys.Sublist os.keys := by
  induction os with
  | nil => simp [Objects.remove, Objects.keys]
  | cons p rest ih =>
    obtain ⟨k0, v0⟩ := p
    simp only [Objects.remove]
    split
    · exact List.Sublist.cons _ ih
    · exact List.Sublist.cons_cons _ ih

theorem Objects.sorted_remove (os : Objects) (k : ObjId) (h : os.Sorted) : (os.remove k).Sorted :=
  List.Pairwise.sublist (Objects.keys_remove_sublist os k) h

theorem Objects.sorted_nodup (os : Objects) (h : os.Sorted) : os.keys.Nodup := by
  unfold Objects.Sorted at h
  exact List.Pairwise.imp (fun {a b} hab e => by subst e; rw [idLt_irrefl] at hab; cases hab) h

theorem travLoop_keys (a : Action) (os : Objects) (refs : List ObjId) (index : Nat) (hn : refs.Nodup) :
    (travLoop a os refs index hn).1.keys = os.keys := by
  induction os, refs, index, hn using travLoop.induct_unfolding (a := a) with
  | case1 os refs index hn hi o hg ih => rw [ih, Objects.keys_set]
  | case2 os refs index hn hi hg ih => exact ih
  | case3 os refs index hn hi => rfl

theorem traverse_keys (a : Action) (tr : Dict) (os : Objects) : (traverse a tr os).2.1.keys = os.keys := by
  unfold traverse; exact travLoop_keys _ _ _ _ _

theorem sorted_foldl_insert (l : Objects) (acc : Objects) (h : acc.Sorted) :
    (l.foldl (fun acc kv => acc.insert kv.1 kv.2) acc).Sorted :=
  List.foldlRecOn l _ h fun _ h kv _ => Objects.sorted_insert _ _ _ h

theorem sorted_foldl_remove (ids : List ObjId) (os : Objects) (h : os.Sorted) : (ids.foldl Objects.remove os).Sorted :=
  List.foldlRecOn ids _ h fun _ h k _ => Objects.sorted_remove _ k h

theorem moveObj_objects_sorted (st : MoveSt) (p : ObjId × ObjId) (h : st.objects.Sorted) : (moveObj st p).objects.Sorted := by
  unfold moveObj; split
  · exact Objects.sorted_remove _ _ h
  · exact h

theorem movePass_sorted (bks : List Nat) (os : Objects) (bm : BkTable) (pairs : List (ObjId × ObjId)) (h : os.Sorted) :
    (movePass bks os bm pairs).objects.Sorted :=
  sorted_foldl_insert _ _ (List.foldlRecOn (motive := fun st : MoveSt => st.objects.Sorted) pairs _ h
    fun st h p _ => moveObj_objects_sorted st p h)

theorem sorted_of_keys_eq {a b : Objects} (h : a.keys = b.keys) (hs : b.Sorted) : a.Sorted := by
  unfold Objects.Sorted; rw [h]; exact hs

theorem isSome_of_keys_eq (a b : Objects) (h : a.keys = b.keys) (k : ObjId) : (a.get k).isSome = (b.get k).isSome := by
  have h1 := Objects.mem_keys_iff a k
  rw [h, Objects.mem_keys_iff b k] at h1
  exact Bool.eq_iff_iff.mpr h1.symm

theorem traverse_sorted (a : Action) (tr : Dict) (os : Objects) (h : os.Sorted) : (traverse a tr os).2.1.Sorted :=
  sorted_of_keys_eq (traverse_keys a tr os) h

theorem traverse_isSome (a : Action) (tr : Dict) (os : Objects) (k : ObjId) :
    ((traverse a tr os).2.1.get k).isSome = (os.get k).isSome :=
  isSome_of_keys_eq _ _ (traverse_keys a tr os) k

theorem pagePass_sorted (d : Doc) (h : d.objects.Sorted) : (pagePass d).objects.Sorted := by
  unfold pagePass; split
  · exact traverse_sorted _ _ _ (movePass_sorted _ _ _ _ h)
  · exact h

theorem get_foldl_remove (ids : List ObjId) (os : Objects) (k : ObjId) :
    (ids.foldl Objects.remove os).get k = if k ∈ ids then none else os.get k := by
  induction ids generalizing os with
  | nil => simp
  | cons x xs ih =>
    rw [List.foldl_cons, ih, Objects.get_remove]
    by_cases h1 : k ∈ xs
    · simp [h1]
    · by_cases h2 : x = k
      · simp [h1, h2]
      · simp [h1, h2, Ne.symm h2]

theorem decCounts_keys (os : Objects) (seen : List ObjId) (r : Option ObjId) :
    (decCounts os seen r).keys = os.keys := by
  induction os, seen, r using decCounts.induct with
  | case1 os seen => rw [decCounts_none]
  | case2 os seen id hs => rw [decCounts_seen _ _ _ hs]
  | case3 os seen id hs pt hg ih =>
    rw [decCounts_dict _ _ _ pt (by simpa using hs) hg, ih, Objects.keys_set]
  | case4 os seen id hs hne =>
    rw [decCounts_other _ _ _ (by simpa using hs) (fun pt h => hne pt h)]

/-- rewriting every stored object in place, as `Document::compress` / `decompress` do -/
theorem Objects.keys_mapVals (os : Objects) (g : ObjId → Obj → Obj) :
    Objects.keys (os.map fun p => (p.1, g p.1 p.2)) = os.keys := by
  unfold Objects.keys; rw [List.map_map]; rfl

theorem densePairs_some (ids : List ObjId) (s : Nat) (acc : List (ObjId × ObjId)) (p : List (ObjId × ObjId)) (n : Nat)
    (h : densePairs ids s acc = some (p, n)) : p = acc ++ denseSpec ids s ∧ n = s + ids.length := by
  induction ids generalizing s acc with
  | nil => simp [densePairs] at h; simp [denseSpec, h.1.symm, h.2.symm]
  | cons id rest ih =>
    simp only [densePairs] at h
    split at h
    · cases h
    · obtain ⟨h1, h2⟩ := ih _ _ h
      refine ⟨?_, by simp [h2]; omega⟩
      rw [h1]; simp only [denseSpec]
      split <;> simp

theorem assign_lt (ids : List ObjId) (s : Nat) : ∀ p ∈ assign ids s, p.2.1 < s + ids.length := by
  induction ids generalizing s with
  | nil => simp [assign]
  | cons id rest ih =>
    intro p hp; simp only [assign, List.mem_cons] at hp
    rcases hp with rfl | hp
    · simp
    · have := ih _ p hp; simp; omega

/-- document well-formedness carried by every editing call: the allocation invariant, and the object
map is a `BTreeMap` (keys strictly increasing) -/
def WF (d : Doc) : Prop := (∀ k, (d.objects.get k).isSome → k.1 ≤ d.maxId) ∧ d.objects.Sorted

theorem wf_densePass (d1 : Doc) (start : Nat) (hs : d1.objects.Sorted) (d' : Doc)
    (h : densePass d1 start = .ok d') : WF d' := by
  unfold densePass at h
  split at h
  · cases h
  · rename_i pairs newId hp
    obtain ⟨hp1, hp2⟩ := densePairs_some _ _ _ _ _ hp
    simp only [List.nil_append] at hp1
    cases h
    have hperm := sortBy_perm idLeE d1.objects.keys
    have hn : (sortBy idLeE d1.objects.keys).Nodup := hperm.nodup_iff.mpr (Objects.sorted_nodup _ hs)
    have hk : ∀ k, k ∈ sortBy idLeE d1.objects.keys ↔ (d1.objects.get k).isSome := by
      intro k; rw [hperm.mem_iff]; exact Objects.mem_keys_iff _ _
    constructor
    · intro k hk'
      simp only at hk'
      rw [traverse_isSome] at hk'
      rw [hp1] at hk'
      obtain ⟨p, hpm, hpk⟩ := (dense_move_isSome d1.bookmarks d1.objects d1.bmTable _ start hn hk k).mp hk'
      have := assign_lt _ start p hpm
      simp only
      rw [← hpk, hp2]; omega
    · exact traverse_sorted _ _ _ (movePass_sorted _ _ _ _ hs)

theorem wf_of_keys_eq (d : Doc) (os' : Objects) (h : WF d) (hk : os'.keys = d.objects.keys) : WF { d with objects := os' } :=
  ⟨fun q hq => h.1 q (by rw [← isSome_of_keys_eq _ _ hk]; exact hq), sorted_of_keys_eq hk h.2⟩

theorem wf_setObj (d : Doc) (k : ObjId) (v : Obj) (h : WF d) : WF { d with objects := d.objects.set k v } :=
  wf_of_keys_eq d _ h (Objects.keys_set _ k v)

theorem wf_of_sub (d : Doc) (tr : Dict) (os' : Objects) (h : WF d) (hs : os'.Sorted)
    (hk : ∀ k, (os'.get k).isSome → (d.objects.get k).isSome) : WF { d with trailer := tr, objects := os' } :=
  ⟨fun k hq => h.1 k (hk k hq), hs⟩

theorem wf_insert (d : Doc) (id : ObjId) (o : Obj) (m : Nat) (h : WF d) (h1 : d.maxId ≤ m) (h2 : id.1 ≤ m) :
    WF { d with maxId := m, objects := d.objects.insert id o } := by
  refine ⟨fun k hk => ?_, Objects.sorted_insert _ _ _ h.2⟩
  simp only [Objects.get_insert] at hk
  split at hk
  · rename_i e; subst e; exact h2
  · exact Nat.le_trans (h.1 k hk) h1

theorem wf_addObject (d : Doc) (o : Obj) (h : WF d) : WF (addObject d o) :=
  wf_insert d _ o _ h (Nat.le_succ _) (Nat.le_refl _)

def Objects.All (P : Obj → Prop) (os : Objects) : Prop := ∀ k o, os.get k = some o → P o

namespace Objects.All
variable {P : Obj → Prop} {os : Objects}

theorem set (h : os.All P) (k : ObjId) {v : Obj} (hv : P v) : (os.set k v).All P := by
  intro q o hq
  rw [Objects.get_set] at hq
  split at hq
  · cases hos : os.get q <;> rw [hos] at hq <;> cases hq; exact hv
  · exact h q o hq

theorem insert (h : os.All P) (k : ObjId) {v : Obj} (hv : P v) : (os.insert k v).All P := by
  intro q o hq
  rw [Objects.get_insert] at hq
  split at hq
  · cases hq; exact hv
  · exact h q o hq

theorem remove (h : os.All P) (k : ObjId) : (os.remove k).All P := by
  intro q o hq
  rw [Objects.get_remove] at hq
  split at hq
  · cases hq
  · exact h q o hq

theorem foldl_remove (h : os.All P) (ids : List ObjId) : (ids.foldl Objects.remove os).All P :=
  List.foldlRecOn ids _ h fun _ h k _ => h.remove k

theorem mapVals (h : os.All P) (g : ObjId → Obj → Obj) (hg : ∀ k o, P o → P (g k o)) :
    Objects.All P (os.map fun p => (p.1, g p.1 p.2)) := by
  intro q o hq
  rw [Objects.get_mapVals] at hq
  cases hos : os.get q <;> rw [hos] at hq <;> cases hq
  exact hg q _ (h q _ hos)

theorem traverse (h : os.All P) (a : Action) (tr : Dict) (ha : ∀ o, P o → P (deepObj a o)) :
    (traverse a tr os).2.1.All P := by
  intro k o hk
  rw [(traverse_visits_once a tr os).2.2 k] at hk
  split at hk
  · cases hos : os.get k <;> rw [hos] at hk <;> cases hk
    exact ha _ (h k _ hos)
  · exact h k o hk

theorem foldl_insert (l acc : Objects) (hl : ∀ q ∈ l, P q.2) (h : acc.All P) :
    (l.foldl (fun acc kv => acc.insert kv.1 kv.2) acc).All P :=
  List.foldlRecOn l _ h fun _ h q hq => h.insert q.1 (hl q hq)

theorem decCounts (hP : ∀ pt, P (.dict pt) → P (.dict (decCount pt))) (seen : List ObjId) (r : Option ObjId)
    (h : os.All P) : (decCounts os seen r).All P := by
  induction os, seen, r using decCounts.induct with
  | case1 os seen => rw [decCounts_none]; exact h
  | case2 os seen id hs => rw [decCounts_seen _ _ _ hs]; exact h
  | case3 os seen id hs pt hg ih =>
    rw [decCounts_dict _ _ _ pt (by simpa using hs) hg]
    exact ih (h.set id (hP pt (h id _ hg)))
  | case4 os seen id hs hne =>
    rw [decCounts_other _ _ _ (by simpa using hs) (fun pt h' => hne pt h')]; exact h

end Objects.All

/-- no key appears or disappears, and the objects under each key are related by `R` -/
def Objects.Rel (R : Obj → Obj → Prop) (os os' : Objects) : Prop :=
  ∀ x, (os.get x = none → os'.get x = none) ∧ ∀ o, os.get x = some o → ∃ o', os'.get x = some o' ∧ R o o'

namespace Objects.Rel
variable {R : Obj → Obj → Prop}

theorem refl (hr : ∀ o, R o o) (os : Objects) : Objects.Rel R os os := fun _ => ⟨id, fun o h => ⟨o, h, hr o⟩⟩

theorem trans (ht : ∀ a b c, R a b → R b c → R a c) {a b c : Objects} (h1 : Objects.Rel R a b)
    (h2 : Objects.Rel R b c) : Objects.Rel R a c := by
  refine fun x => ⟨fun h => (h2 x).1 ((h1 x).1 h), fun o ho => ?_⟩
  obtain ⟨o1, e1, r1⟩ := (h1 x).2 o ho
  obtain ⟨o2, e2, r2⟩ := (h2 x).2 o1 e1
  exact ⟨o2, e2, ht _ _ _ r1 r2⟩

theorem set (hr : ∀ o, R o o) (os : Objects) {k : ObjId} {o v : Obj} (h : os.get k = some o) (hv : R o v) :
    Objects.Rel R os (os.set k v) := by
  intro x
  rw [Objects.get_set]
  by_cases e : k = x
  · subst e
    rw [if_pos rfl, h]
    exact ⟨fun hn => (by cases hn), fun o' ho => (by cases ho; exact ⟨v, rfl, hv⟩)⟩
  · rw [if_neg e]
    exact ⟨fun h => h, fun o' ho => ⟨o', ho, hr o'⟩⟩

/-- the `Parent` walk of `delete_pages` rewrites `Pages` dictionaries by `decCount`, some of them more than once -/
theorem decCounts (hr : ∀ o, R o o) (ht : ∀ a b c, R a b → R b c → R a c)
    (hd : ∀ nd, R (.dict nd) (.dict (decCount nd))) (os : Objects) (seen : List ObjId) (r : Option ObjId) :
    Objects.Rel R os (decCounts os seen r) := by
  induction os, seen, r using decCounts.induct with
  | case1 os seen => rw [decCounts_none]; exact refl hr os
  | case2 os seen id hs => rw [decCounts_seen _ _ _ hs]; exact refl hr os
  | case3 os seen id hs pt hg ih =>
    rw [decCounts_dict _ _ _ pt (by simpa using hs) hg]
    exact trans ht (set hr os hg (hd pt)) ih
  | case4 os seen id hs hne =>
    rw [decCounts_other _ _ _ (by simpa using hs) (fun pt h' => hne pt h')]; exact refl hr os

end Objects.Rel

theorem Objects.mem_insert (os : Objects) (k : ObjId) (v : Obj) (kv : ObjId × Obj) (h : kv ∈ os.insert k v) :
    kv = (k, v) ∨ kv ∈ os := by
  induction os with
  | nil => simp [Objects.insert] at h; exact Or.inl h
  | cons p rest ih =>
    obtain ⟨k', v'⟩ := p
    simp only [Objects.insert] at h
    split at h
    · exact (List.mem_cons.mp h).imp id (List.mem_cons_of_mem _)
    · split at h
      · exact List.mem_cons.mp h
      · rcases List.mem_cons.mp h with h | h
        · exact Or.inr (h ▸ List.mem_cons_self)
        · exact (ih h).imp id (List.mem_cons_of_mem _)

/-- the move pass of `renumber_objects_with` only moves objects: the temporary map, which is iterated and not
looked up, is described by membership -/
theorem Objects.All.movePass {P : Obj → Prop} {os : Objects} (h : os.All P) (bks : List Nat) (bm : BkTable)
    (pairs : List (ObjId × ObjId)) : (movePass bks os bm pairs).objects.All P := by
  obtain ⟨a, b⟩ := List.foldlRecOn (motive := fun st : MoveSt => st.objects.All P ∧ ∀ q ∈ st.tmp, P q.2)
      pairs (moveStep bks) (b := ⟨os, [], [], bm⟩) ⟨h, fun q hq => by cases hq⟩ fun st ⟨a, b⟩ p _ => by
    show (moveObj st p).objects.All P ∧ ∀ q ∈ (moveObj st p).tmp, P q.2
    unfold moveObj
    cases hg : st.objects.get p.1
    · exact ⟨a, b⟩
    · refine ⟨a.remove _, fun q hq => ?_⟩
      rcases Objects.mem_insert _ _ _ q hq with rfl | hq
      · exact a _ _ hg
      · exact b q hq
  exact foldl_insert _ _ b a

/-- induction over a program that runs to completion. `M ops d` is what is known of the state `d` when the calls
`ops` are still to be made (an invariant of `d`, together with whatever is asked of `ops`); if every call that
returns carries it over to the rest of the program, it holds of the final state -/
theorem runOps_induction {M : List Op → Doc → Prop}
    (hstep : ∀ op rest d d1 out, M (op :: rest) d → step d op = .ok (d1, out) → M rest d1) :
    ∀ (ops : List Op) (d d' : Doc), M ops d → runOps d ops = .ok d' → M [] d' := by
  intro ops
  induction ops with
  | nil => intro d d' h hr; simp only [runOps] at hr; cases hr; exact h
  | cons op rest ih =>
    intro d d' h hr
    simp only [runOps] at hr
    split at hr
    · rename_i d1 out hs; exact ih d1 d' (hstep op rest d d1 out h hs) hr
    · cases hr
    · cases hr

end Lopdf
