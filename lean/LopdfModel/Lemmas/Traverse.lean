import LopdfModel.Model.Doc
/-
  Helper lemmas: the BTreeMap operations at the level of `get`, and the specification of
  `traverse_objects` (work list): every pushed id is processed exactly once, the result is
  closed under references, and nothing unreachable is pushed.
-/
namespace Lopdf
namespace Objects

theorem get_insert (os : Objects) (k : ObjId) (v : Obj) (q : ObjId) :
    (os.insert k v).get q = if k = q then some v else os.get q := by
  induction os with
  | nil => simp [insert, get]
  | cons p rest ih =>
    obtain ⟨k0, v0⟩ := p
    simp only [insert]
    by_cases h1 : k0 = k
    · subst h1; simp only [if_true, get]
      by_cases h3 : k0 = q <;> simp [h3]
    · simp only [h1, if_false]
      by_cases h2 : idLt k k0 = true
      · simp only [h2, if_true, get]
      · have h2' : idLt k k0 = false := by simpa using h2
        by_cases h3 : k0 = q
        · subst h3; simp [h2', get, Ne.symm h1]
        · simp [h2', get, h3, ih]

theorem get_remove (os : Objects) (k q : ObjId) :
    (os.remove k).get q = if k = q then none else os.get q := by
  induction os with
  | nil => simp [remove, get]
  | cons p rest ih =>
    obtain ⟨k0, v0⟩ := p
    simp only [remove]
    by_cases h1 : k0 = k
    · subst h1; simp only [if_true, ih, get]
      by_cases h3 : k0 = q <;> simp [h3]
    · simp only [h1, if_false, get, ih]
      by_cases h3 : k0 = q
      · subst h3; simp [Ne.symm h1]
      · simp [h3]

theorem get_set (os : Objects) (k : ObjId) (v : Obj) (q : ObjId) :
    (os.set k v).get q = if k = q then (os.get q).map (fun _ => v) else os.get q := by
  induction os with
  | nil => simp [set, get]
  | cons p rest ih =>
    obtain ⟨k0, v0⟩ := p
    simp only [set]
    by_cases h1 : k0 = k
    · subst h1; simp only [if_true, get, ih]
      by_cases h3 : k0 = q <;> simp [h3]
    · simp only [h1, if_false, get, ih]
      by_cases h3 : k0 = q
      · subst h3; simp [Ne.symm h1]
      · simp [h3]

end Objects

theorem mem_pushRef {refs : List ObjId} {x y : ObjId} : y ∈ pushRef refs x ↔ y ∈ refs ∨ y = x := by
  unfold pushRef; split
  · rename_i h
    exact ⟨Or.inl, fun h' => h'.elim id fun e => e ▸ by simpa using h⟩
  · simp

theorem mem_pushAll {ids refs : List ObjId} {y : ObjId} : y ∈ pushAll refs ids ↔ y ∈ refs ∨ y ∈ ids := by
  induction ids generalizing refs with
  | nil => simp [pushAll]
  | cons x xs ih =>
    show y ∈ pushAll (pushRef refs x) xs ↔ _
    rw [ih, mem_pushRef, List.mem_cons, or_assoc]

theorem getElem_not_mem_drop {α} {l : List α} (hn : l.Nodup) {i : Nat} (hi : i < l.length) :
    l[i] ∉ l.drop (i + 1) := by
  intro hm
  obtain ⟨j, hj, e⟩ := List.mem_iff_getElem.mp hm
  rw [List.length_drop] at hj
  rw [List.getElem_drop] at e
  exact Nat.ne_of_gt (Nat.lt_add_right j (Nat.lt_succ_self i)) ((List.getElem_inj (h₀ := by omega) hn).mp e)

/-- in a duplicate-free list that extends `refs`, the part from `index` on is `refs[index]` followed by a
part that does not contain it -/
theorem drop_of_prefix {refs ext R : List ObjId} (he : R = refs ++ ext) (hn : R.Nodup) {index : Nat}
    (hi : index < refs.length) :
    R.drop index = refs[index] :: R.drop (index + 1) ∧ refs[index] ∉ R.drop (index + 1) := by
  subst he
  have hlen : index < (refs ++ ext).length := List.length_append ▸ Nat.lt_add_right _ hi
  rw [← List.getElem_append_left (h' := hlen) hi]
  exact ⟨List.drop_eq_getElem_cons hlen, getElem_not_mem_drop hn hlen⟩

/-- what the loop started at `(os, refs, index)` guarantees about its result `R` -/
def LoopSpec (a : Action) (os : Objects) (refs : List ObjId) (index : Nat) (R : Objects × List ObjId) : Prop :=
  (∃ ext, R.2 = refs ++ ext) ∧ R.2.Nodup ∧
  (∀ q, R.1.get q = if q ∈ R.2.drop index then (os.get q).map (deepObj a) else os.get q) ∧
  (∀ q ∈ R.2.drop index, ∀ o, os.get q = some o → ∀ x ∈ refsOf (deepObj a o), x ∈ R.2)

theorem loopSpec_some (a : Action) (os : Objects) (refs : List ObjId) (index : Nat)
    (hi : index < refs.length) (o : Obj) (hg : os.get refs[index] = some o) (R : Objects × List ObjId)
    (ih : LoopSpec a (os.set refs[index] (travObj a o refs).1) (travObj a o refs).2 (index + 1) R) :
    LoopSpec a os refs index R := by
  simp only [(trav_eq a).1 o refs] at ih
  obtain ⟨⟨ext1, he1⟩, hnd, hget, hcl⟩ := ih
  obtain ⟨ext0, he0⟩ := pushAll_prefix (refsOf (deepObj a o)) refs
  have heR : R.2 = refs ++ (ext0 ++ ext1) := by rw [he1, he0, List.append_assoc]
  obtain ⟨hdrop, hnot⟩ := drop_of_prefix heR hnd hi
  refine ⟨⟨_, heR⟩, hnd, fun q => ?_, fun q hq o2 ho2 x hx => ?_⟩
  · rw [hget q, hdrop, Objects.get_set]
    by_cases hq : refs[index] = q
    · subst hq; simp [hnot, hg]
    · simp [hq, Ne.symm hq]
  · rw [hdrop] at hq
    rcases List.mem_cons.mp hq with rfl | hq
    · cases hg.symm.trans ho2
      rw [he1]
      exact List.mem_append_left _ (mem_pushAll.mpr (Or.inr hx))
    · have hne : refs[index] ≠ q := fun e => hnot (e ▸ hq)
      exact hcl q hq o2 (by rw [Objects.get_set, if_neg hne, ho2]) x hx

theorem loopSpec_none (a : Action) (os : Objects) (refs : List ObjId) (index : Nat)
    (hi : index < refs.length) (hg : os.get refs[index] = none) (R : Objects × List ObjId)
    (ih : LoopSpec a os refs (index + 1) R) : LoopSpec a os refs index R := by
  obtain ⟨⟨ext1, he1⟩, hnd, hget, hcl⟩ := ih
  obtain ⟨hdrop, -⟩ := drop_of_prefix he1 hnd hi
  refine ⟨⟨ext1, he1⟩, hnd, fun q => ?_, fun q hq o2 ho2 x hx => ?_⟩
  · rw [hget q, hdrop]
    by_cases hq : q = refs[index]
    · subst hq; simp [hg]
    · simp [hq]
  · rw [hdrop] at hq
    rcases List.mem_cons.mp hq with rfl | hq
    · rw [hg] at ho2; cases ho2
    · exact hcl q hq o2 ho2 x hx

theorem travLoop_spec (a : Action) (os : Objects) (refs : List ObjId) (index : Nat) (hn : refs.Nodup) :
    LoopSpec a os refs index (travLoop a os refs index hn) := by
  induction os, refs, index, hn using travLoop.induct_unfolding (a := a) with
  | case1 os refs index hn hi o hg ih => exact loopSpec_some a os refs index hi o hg _ ih
  | case2 os refs index hn hi hg ih => exact loopSpec_none a os refs index hi hg _ ih
  | case3 os refs index hn hi =>
    have : refs.drop index = [] := List.drop_eq_nil_of_le (by omega)
    exact ⟨⟨[], by simp⟩, hn, fun q => by simp [this], fun q hq => by simp [this] at hq⟩

/-- ids reachable from `roots` in the graph `G` (declarative reachability) -/
inductive Reach (roots : List ObjId) (G : ObjId → Option Obj) : ObjId → Prop
  | root {r} : r ∈ roots → Reach roots G r
  | step {id o r} : Reach roots G id → G id = some o → r ∈ refsOf o → Reach roots G r

theorem Reach.of_roots {roots roots' : List ObjId} {G : ObjId → Option Obj}
    (h : ∀ r ∈ roots, Reach roots' G r) {x : ObjId} (hx : Reach roots G x) : Reach roots' G x := by
  induction hx with
  | root hr => exact h _ hr
  | step _ ho hr ih => exact ih.step ho hr

/-- nothing is pushed that is not reachable from `refs` in the *final* graph -/
theorem travLoop_sub (a : Action) (os : Objects) (refs : List ObjId) (index : Nat) (hn : refs.Nodup) :
    ∀ r ∈ (travLoop a os refs index hn).2, Reach refs (fun id => (travLoop a os refs index hn).1.get id) r := by
  induction os, refs, index, hn using travLoop.induct_unfolding (a := a) with
  | case1 os refs index hn hi o hg ih =>
    -- the ids pushed in this step are references of the object that ends up at `refs[index]`
    have hspec := loopSpec_some a os refs index hi o hg _ (travLoop_spec a _ _ (index + 1) (travObj_nodup a o refs hn))
    obtain ⟨hdrop, -⟩ := drop_of_prefix hspec.1.choose_spec hspec.2.1 hi
    have hfin := hspec.2.2.1 refs[index]
    rw [if_pos (hdrop ▸ List.mem_cons_self), hg] at hfin
    refine fun r hr => Reach.of_roots (fun r hr => ?_) (ih r hr)
    rw [(trav_eq a).1 o refs] at hr
    rcases mem_pushAll.mp hr with h | h
    · exact .root h
    · exact .step (.root (List.getElem_mem hi)) hfin h
  | case2 os refs index hn hi hg ih => exact ih
  | case3 os refs index hn hi => exact fun r hr => .root hr

theorem traverse_loop (a : Action) (tr : Dict) (os : Objects) :
    LoopSpec a os (travDict a tr []).2 0 (traverse a tr os).2 :=
  travLoop_spec a os (travDict a tr []).2 0 (travDict_nodup a tr [] List.nodup_nil)

theorem traverse_trailer (a : Action) (tr : Dict) (os : Objects) : (traverse a tr os).1 = deepDict a tr :=
  congrArg Prod.fst ((trav_eq a).2.1 tr [])

theorem mem_traverse_of_root (a : Action) (tr : Dict) (os : Objects) {r : ObjId} :
    r ∈ (travDict a tr []).2 ↔ r ∈ refsOfD (traverse a tr os).1 := by
  rw [traverse_trailer, (trav_eq a).2.1 tr [], mem_pushAll]; simp

/-- **visits once**: the trailer and every object whose id was pushed are rewritten by the action
exactly once (`deepObj` applies the action once per node); no other object changes; no id is pushed twice. -/
theorem traverse_visits_once (a : Action) (tr : Dict) (os : Objects) :
    (traverse a tr os).1 = deepDict a tr ∧ (traverse a tr os).2.2.Nodup ∧
    ∀ q, (traverse a tr os).2.1.get q =
      if q ∈ (traverse a tr os).2.2 then (os.get q).map (deepObj a) else os.get q :=
  ⟨traverse_trailer a tr os, (traverse_loop a tr os).2.1, (traverse_loop a tr os).2.2.1⟩

/-- the pushed ids are closed under the references of the *result*: trailer and processed objects -/
theorem traverse_closed (a : Action) (tr : Dict) (os : Objects) :
    (∀ r ∈ refsOfD (traverse a tr os).1, r ∈ (traverse a tr os).2.2) ∧
    (∀ q ∈ (traverse a tr os).2.2, ∀ o, (traverse a tr os).2.1.get q = some o →
      ∀ r ∈ refsOf o, r ∈ (traverse a tr os).2.2) := by
  obtain ⟨⟨ext, he⟩, _, hget, hcl⟩ := traverse_loop a tr os
  refine ⟨fun r hr => ?_, fun q hq o ho r hr => ?_⟩
  · rw [he]
    exact List.mem_append_left _ ((mem_traverse_of_root a tr os).mpr hr)
  · have ho' := hget q
    rw [if_pos (show q ∈ List.drop 0 _ from hq), ho] at ho'
    cases hos : os.get q with
    | none => rw [hos] at ho'; cases ho'
    | some o0 =>
      rw [hos] at ho'; cases ho'
      exact hcl q hq o0 hos r hr

/-- **traverse = reachability closure**: the ids `traverse_objects` returns are exactly the ids
reachable from the (rewritten) trailer in the (rewritten) object graph. -/
theorem traverse_eq_reach (a : Action) (tr : Dict) (os : Objects) (q : ObjId) :
    q ∈ (traverse a tr os).2.2 ↔
      Reach (refsOfD (traverse a tr os).1) (fun id => (traverse a tr os).2.1.get id) q := by
  constructor
  · intro hq
    exact Reach.of_roots (fun r hr => .root ((mem_traverse_of_root a tr os).mp hr))
      (travLoop_sub a os (travDict a tr []).2 0 (travDict_nodup a tr [] List.nodup_nil) q hq)
  · intro hr
    have hc := traverse_closed a tr os
    induction hr with
    | root h => exact hc.1 _ h
    | step _ ho hr ih => exact hc.2 _ ih _ ho _ hr

end Lopdf
