import LopdfModel.Model.Crypt
import LopdfModel.Lemmas.Dict
/- The primitives of C05 / C06: RC4, PKCS#5, CBC and the AES filter round trip; that `Length` is read by no decision of the
walkers; permission words, `Perms` and the 48-byte `U` / `O` strings. Core Lean only. -/
namespace Lopdf.Crypt
open Lopdf Lopdf.Gen

theorem xor_cancel (a b : UInt8) : (a ^^^ b) ^^^ b = a := by
  rw [UInt8.xor_assoc, UInt8.xor_self, UInt8.xor_zero]

theorem prga_involutive (s : RState) (i j : UInt8) (d : Bytes) : prga s i j (prga s i j d) = d := by
  induction d generalizing s i j with
  | nil => simp [prga]
  | cons b rest ih => simp [prga, xor_cancel, ih]

theorem prga_length (s : RState) (i j : UInt8) (d : Bytes) : (prga s i j d).length = d.length := by
  induction d generalizing s i j with
  | nil => simp [prga]
  | cons b rest ih => simp [prga, ih]

theorem rc4_length (k d : Bytes) : (rc4 k d).length = d.length := prga_length _ _ _ _

theorem xorB_length (a b : Bytes) : (xorB a b).length = min a.length b.length := by
  simp [xorB]

theorem xorB_cancel (a b : Bytes) (h : a.length = b.length) : xorB (xorB a b) b = a := by
  induction a generalizing b with
  | nil => simp [xorB]
  | cons x xs ih =>
    cases b with
    | nil => simp at h
    | cons y ys =>
      simp at h
      have := ih ys h
      simp [xorB] at this ⊢
      exact ⟨xor_cancel x y, this⟩


theorem padLen_pos (n : Nat) : 1 ≤ padLen n ∧ padLen n ≤ 16 :=
  ⟨Nat.sub_pos_of_lt (Nat.mod_lt _ (by decide)), Nat.sub_le _ _⟩

theorem pkcs5Pad_length (d : Bytes) : (pkcs5Pad d).length = d.length + padLen d.length := by
  simp [pkcs5Pad]

theorem pkcs5Pad_length_mod (d : Bytes) : (pkcs5Pad d).length % 16 = 0 := by
  rw [pkcs5Pad_length]; unfold padLen; omega

theorem pkcs5Unpad_append (d : Bytes) (k : Nat) (b : UInt8) (h1 : 1 ≤ k) (h16 : k ≤ 16) (hb : b.toNat = k) :
    pkcs5Unpad (d ++ List.replicate k b) = some d := by
  obtain ⟨m, rfl⟩ : ∃ m, k = m + 1 := ⟨k - 1, by omega⟩
  have hlast : (d ++ List.replicate (m + 1) b).getLast? = some b := by
    rw [List.replicate_succ', ← List.append_assoc, List.getLast?_append]; rfl
  have hb0 : ¬ b = 0 := fun h => by rw [h] at hb; cases hb
  have hlen : (d ++ List.replicate (m + 1) b).length - (m + 1) = d.length := by
    rw [List.length_append, List.length_replicate, Nat.add_sub_cancel]
  have hall : ((List.replicate (m + 1) b).dropLast).all (fun x => x == b) = true := by
    rw [List.dropLast_replicate, List.all_eq_true]
    intro x hx; rw [(List.mem_replicate.mp hx).2]; exact beq_self_eq_true b
  simp only [pkcs5Unpad, hlast, hb, hb0, Nat.not_lt.mpr h16, decide_false, Bool.or_self, Bool.false_eq_true,
    if_false, hlen, List.drop_left, List.take_left, hall, if_true]

theorem pkcs5_unpad_pad (d : Bytes) : pkcs5Unpad (pkcs5Pad d) = some d := by
  have hp := padLen_pos d.length
  exact pkcs5Unpad_append d _ _ hp.1 hp.2 (by rw [Nat.toUInt8, UInt8.toNat_ofNat']; omega)

theorem cbcEncN_length (E : Bytes → Bytes) (hE : ∀ b, (E b).length = 16) (n : Nat) (iv d : Bytes) :
    (cbcEncN E n iv d).length = 16 * n := by
  induction n generalizing iv d with
  | zero => simp [cbcEncN]
  | succ n ih => simp [cbcEncN, hE, ih]; omega

theorem cbcN_dec_enc (E D : Bytes → Bytes) (hE : ∀ b, (E b).length = 16)
    (hD : ∀ b, b.length = 16 → D (E b) = b) (n : Nat) (iv d : Bytes)
    (hiv : iv.length = 16) (hd : d.length = 16 * n) :
    cbcDecN D n iv (cbcEncN E n iv d) = d := by
  induction n generalizing iv d with
  | zero => rw [List.length_eq_zero_iff.mp hd]; rfl
  | succ n ih =>
    have ht : (d.take 16).length = 16 := by rw [List.length_take]; omega
    have hx : (xorB (d.take 16) iv).length = 16 := by rw [xorB_length, ht, hiv]; rfl
    have hc := hE (xorB (d.take 16) iv)
    simp only [cbcEncN, cbcDecN]
    rw [List.take_left' hc, List.drop_left' hc, hD _ hx, xorB_cancel _ _ (ht.trans hiv.symm),
      ih _ _ hc (by rw [List.length_drop]; omega), List.take_append_drop]

theorem cbc_dec_enc (E D : Bytes → Bytes) (hE : ∀ b, (E b).length = 16)
    (hD : ∀ b, b.length = 16 → D (E b) = b) (iv d : Bytes)
    (hiv : iv.length = 16) (hd : d.length % 16 = 0) :
    cbcDec D iv (cbcEnc E iv d) = d := by
  unfold cbcDec cbcEnc
  rw [cbcEncN_length E hE, Nat.mul_div_cancel_left _ (by decide)]
  exact cbcN_dec_enc E D hE hD _ iv d hiv (by omega)

theorem cbcEnc_length (E : Bytes → Bytes) (hE : ∀ b, (E b).length = 16) (iv d : Bytes) :
    (cbcEnc E iv d).length = 16 * (d.length / 16) := cbcEncN_length E hE _ _ _


/-- what the theorems need of the block cipher, per key -/
structure BlockOK (P : Prims) (key : Bytes) : Prop where
  enc_len : ∀ b, (P.aesEnc key b).length = 16
  dec_enc : ∀ b, b.length = 16 → P.aesDec key (P.aesEnc key b) = b

/-- what a successful `encrypt` of an AES filter returns: IV ‖ CBC(PKCS#5(plaintext)) -/
theorem aesEncrypt_ok {P : Prims} {kl : Nat} {key iv pt ct : Bytes} (h : aesEncrypt P kl key iv pt = .ok ct) :
    key.length = kl ∧ ct = iv ++ cbcEnc (P.aesEnc key) iv (pkcs5Pad pt) := by
  unfold aesEncrypt at h
  split at h
  · cases h
  · exact ⟨Decidable.of_not_not ‹_›, (Except.ok.inj h).symm⟩

theorem aesEncrypt_length (P : Prims) (kl : Nat) (key iv pt ct : Bytes) (hk : BlockOK P key)
    (hiv : iv.length = 16) (h : aesEncrypt P kl key iv pt = .ok ct) :
    ct.length = 16 + (pt.length + padLen pt.length) := by
  have := pkcs5Pad_length_mod pt
  rw [(aesEncrypt_ok h).2, List.length_append, hiv, cbcEnc_length _ hk.enc_len, ← pkcs5Pad_length]
  omega

theorem aes_rt (P : Prims) (kl : Nat) (key iv pt ct : Bytes) (hk : BlockOK P key)
    (hiv : iv.length = 16) (h : aesEncrypt P kl key iv pt = .ok ct) :
    aesDecrypt P kl key ct = .ok pt := by
  have hlen := aesEncrypt_length P kl key iv pt ct hk hiv h
  have hpl := padLen_pos pt.length
  have hmod := pkcs5Pad_length_mod pt
  rw [pkcs5Pad_length] at hmod
  obtain ⟨hkl, rfl⟩ := aesEncrypt_ok h
  -- the ciphertext is a whole number of blocks, at least two: `decrypt` reaches the CBC step
  have h2 : ((iv ++ cbcEnc (P.aesEnc key) iv (pkcs5Pad pt)).isEmpty ||
      decide ((iv ++ cbcEnc (P.aesEnc key) iv (pkcs5Pad pt)).length = 16)) = false := by
    rw [List.isEmpty_eq_false_iff.mpr (List.append_ne_nil_of_left_ne_nil (by rintro rfl; cases hiv) _), hlen,
      Bool.false_or, decide_eq_false_iff_not]
    omega
  unfold aesDecrypt
  rw [if_neg (Decidable.not_not.mpr hkl), if_neg (by omega), h2, List.take_left' hiv, List.drop_left' hiv,
    cbc_dec_enc _ _ hk.enc_len hk.dec_enc iv _ hiv (pkcs5Pad_length_mod pt), pkcs5_unpad_pad]
  rfl

/-- every crypt filter: decrypt ∘ encrypt = id, for every key, IV and plaintext -/
theorem filter_rt (P : Prims) (f : CF) (key iv pt ct : Bytes) (hk : BlockOK P key)
    (hiv : iv.length = 16) (h : f.encrypt P key iv pt = .ok ct) : f.decrypt P key ct = .ok pt := by
  cases f with
  | identity => simp [CF.encrypt] at h; simp [CF.decrypt, h]
  | rc4 =>
    simp [CF.encrypt] at h; subst h
    simp [CF.decrypt, rc4, prga_involutive]
  | aes128 => exact aes_rt P 16 key iv pt ct hk hiv h
  | aes256 => exact aes_rt P 32 key iv pt ct hk hiv h

/-! ### `Stream::set_content` writes `Length`, which no decision of the walkers reads -/

theorem hasType_setLength (d : Dict) (v : Obj) (t : Bytes) : hasType (d.set K_LENGTH v) t = hasType d t := by
  simp [hasType, Dict.get_set_ne d K_LENGTH K_TYPE v (by decide)]

theorem getType_setLength (d : Dict) (v : Obj) : Dict.getType (d.set K_LENGTH v) = Dict.getType d := by
  unfold Dict.getType Dict.has
  rw [Dict.get_set_ne d K_LENGTH TYPE v (by decide), Dict.get_set_ne d K_LENGTH LINEARIZED v (by decide)]

theorem overrideFilter_setLength (st : EncState) (d : Dict) (v : Obj) :
    overrideFilter st (d.set K_LENGTH v) = overrideFilter st d := by
  simp [overrideFilter, streamFilters, Dict.get_set_ne d K_LENGTH K_FILTER v (by decide),
    Dict.get_set_ne d K_LENGTH K_DECODEPARMS v (by decide)]

theorem streamCF_setLength (st : EncState) (d : Dict) (v : Obj) :
    streamCF st (d.set K_LENGTH v) = streamCF st d := by
  simp [streamCF, overrideFilter_setLength]

theorem isXref_setLength (d : Dict) (v : Obj) (c c' : Bytes) :
    isXrefStream (.stream (d.set K_LENGTH v) c') = isXrefStream (.stream d c) := by
  simp [isXrefStream, hasType_setLength]

theorem metadataExempt_setLength (st : EncState) (d : Dict) (v : Obj) (c c' : Bytes) :
    metadataExempt st (.stream (d.set K_LENGTH v) c') = metadataExempt st (.stream d c) := by
  simp [metadataExempt, getType_setLength]

/-- conforming permission words (reserved bits as `p_value` sets them) survive `from_bits_truncate ∘ p_value` -/
theorem permsTruncate_pValue (p : Nat) (h : p &&& PERM_ALL = p) : permsTruncate (pValue p) = p := by
  unfold permsTruncate pValue
  rw [Nat.and_or_distrib_right, h, show P_RESERVED &&& PERM_ALL = 0 by decide, Nat.or_zero]

theorem leBytes_length (k n : Nat) : (leBytes k n).length = k := by
  induction k generalizing n with
  | zero => rfl
  | succ k ih => simp [leBytes, ih]

/-- `validate_permissions` accepts the block `compute_permissions` encrypts -/
theorem validatePerms_permsPlain (P : Prims) (a : Alg) (key rnd : Bytes) (hk : BlockOK P key) (hr : 4 ≤ rnd.length)
    (h : a.permsEncrypted = P.aesEnc key (a.permsPlain rnd)) : a.validatePerms P key = .ok () := by
  have l8 := leBytes_length 8 (pValue a.permissions)
  have l9 : (leBytes 8 (pValue a.permissions) ++ [if a.encryptMetadata then 84 else 70]).length = 9 := by
    rw [List.length_append, l8]; rfl
  have l3 : PERMS_TAG.length = 3 := rfl
  have hb : (a.permsPlain rnd).length = 16 := by
    simp only [Alg.permsPlain, List.length_append, l9, l3, List.length_take]; omega
  have s1 : slice (a.permsPlain rnd) 9 3 = PERMS_TAG := by
    rw [Alg.permsPlain, slice, List.append_assoc, List.drop_left' l9, List.take_left' l3]
  have s2 : (a.permsPlain rnd).take 3 = (leBytes 8 (pValue a.permissions)).take 3 := by
    rw [Alg.permsPlain, List.append_assoc, List.append_assoc, List.take_append_of_le_length (by omega)]
  have s3 : slice (a.permsPlain rnd) 8 1 = [if a.encryptMetadata then 84 else 70] := by
    rw [Alg.permsPlain, slice, List.append_assoc, List.append_assoc, List.drop_left' l8]; rfl
  rw [Alg.validatePerms, h, hk.dec_enc _ hb]
  simp only [s1, s2, s3, ne_eq, not_true_eq_false, if_false]

/-- the 48-byte U / O strings: hash ‖ validation salt ‖ key salt -/
theorem salted (h salts : Bytes) (hh : h.length = 32) (hs : 16 ≤ salts.length) :
    (h ++ salts.take 8 ++ slice salts 8 8).length = 48 ∧
    slice (h ++ salts.take 8 ++ slice salts 8 8) 32 8 = salts.take 8 ∧
    slice (h ++ salts.take 8 ++ slice salts 8 8) 40 8 = slice salts 8 8 ∧
    (h ++ salts.take 8 ++ slice salts 8 8).take 32 = h := by
  have l1 : (salts.take 8).length = 8 := by rw [List.length_take]; omega
  have l2 : (slice salts 8 8).length = 8 := by simp only [slice, List.length_take, List.length_drop]; omega
  have l40 : (h ++ salts.take 8).length = 40 := by rw [List.length_append, hh, l1]
  refine ⟨by rw [List.length_append, l40, l2], ?_, ?_, ?_⟩
  · rw [slice, List.append_assoc, List.drop_left' hh, List.take_left' l1]
  · rw [slice, List.drop_left' l40, List.take_of_length_le (Nat.le_of_eq l2)]
  · rw [List.append_assoc, List.take_left' hh]

end Lopdf.Crypt
