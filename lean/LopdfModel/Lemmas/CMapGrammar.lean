import LopdfModel.Thm.C15Text
import LopdfModel.Spec.CMapRender
/-
  C15 — the grammar model reads back what the canonical writer wrote: the written text is one of the
  spellings of the grammar of CMap texts (upper-case hex, one blank between tokens, LF at the end of
  a line, count 1), so everything follows from the completeness theorem of Thm/C15Text.
-/
namespace Lopdf.CMap
open Lopdf Lopdf.Gen Lopdf.CMapRender

def CodeOk (c len : Nat) : Prop := 1 ≤ len ∧ len ≤ 4 ∧ c < 256 ^ len

/-- a target the grammar accepts: 1..256 sixteen-bit units -/
def TargetOk (t : List Nat) : Prop := t ≠ [] ∧ t.length ≤ 256 ∧ ∀ u ∈ t, u < 65536

def RangeLineOk (l : (Nat × Nat × Nat) × List (List Nat)) : Prop :=
  CodeOk l.1.1 l.1.2.2 ∧ CodeOk l.1.2.1 l.1.2.2 ∧ l.2 ≠ [] ∧ ∀ t ∈ l.2, TargetOk t

def CsLineOk (l : Nat × Nat × Nat) : Prop := CodeOk l.1 l.2.2 ∧ CodeOk l.2.1 l.2.2

def CharLineOk (l : (Nat × Nat) × List Nat) : Prop := CodeOk l.1.1 l.1.2 ∧ TargetOk l.2

/-- what the canonical writer can write and the grammar accepts -/
def SectionOk : Section → Prop
  | .csRange ls => ls ≠ [] ∧ ∀ l ∈ ls, CsLineOk l
  | .bfChar ls => ls ≠ [] ∧ ∀ l ∈ ls, CharLineOk l
  | .bfRange ls => ls ≠ [] ∧ ∀ l ∈ ls, RangeLineOk l

theorem psection_begin (bk : String) (hbk : HeadNonWs (strBytes bk)) {l : Bytes} (hl : HeadNonWs l) :
    (pdigit1 >>> pspace1 >>> ptagS bk >>> pms1 >>> fun i => PR.ok () i) (49 :: 32 :: (strBytes bk ++ [10]) ++ l)
      = .ok () l := by
  have e : 49 :: 32 :: (strBytes bk ++ [10]) ++ l = [49] ++ ([32] ++ (strBytes bk ++ ([10] ++ l))) := by simp
  rw [e, CMapText.digits_kw_then (CMapText.digits1 49 (by decide)) CMapText.blank1_sp hbk,
    pthen_ok (CMapText.pms1_tok CMapText.ms1_lf hl)]

section Spelling
open Lopdf.CMapText

theorem hexDigit_facts : ∀ n : Fin 16,
    isHexDigit (hexDigitU n.val.toUInt8) = true ∧ (hexVal (hexDigitU n.val.toUInt8)).toNat = n.val := by
  decide

theorem hexBytes_render (bs : List Nat) (h : ∀ b ∈ bs, b < 256) : DHexBytes bs (bs.flatMap hex2) := by
  induction bs with
  | nil => exact .nil
  | cons b bs ih =>
    have hb := h b List.mem_cons_self
    obtain ⟨a1, a2⟩ := hexDigit_facts ⟨b / 16, by omega⟩
    obtain ⟨b1, b2⟩ := hexDigit_facts ⟨b % 16, Nat.mod_lt _ (by omega)⟩
    have := DHexBytes.cons _ _ _ _ a1 b1 (ih fun x hx => h x (List.mem_cons_of_mem _ hx))
    rwa [a2, b2, Nat.div_add_mod' b 16] at this

theorem codeBytes_length (len c : Nat) : (codeBytes len c).length = len := by
  induction len generalizing c with
  | zero => rfl
  | succ n ih => simp [codeBytes, ih]

theorem codeBytes_lt (len c : Nat) : ∀ b ∈ codeBytes len c, b < 256 := by
  induction len generalizing c with
  | zero => intro b hb; cases hb
  | succ n ih =>
    intro b hb
    simp only [codeBytes, List.mem_append, List.mem_singleton] at hb
    rcases hb with hb | hb
    · exact ih _ b hb
    · omega

theorem codeBytes_val (len c : Nat) (h : c < 256 ^ len) :
    (codeBytes len c).foldl (fun acc b => acc * 256 + b) 0 = c := by
  induction len generalizing c with
  | zero => simp at h; simp [codeBytes, h]
  | succ n ih =>
    have : c / 256 < 256 ^ n := by
      rw [Nat.pow_succ] at h
      exact Nat.div_lt_of_lt_mul (by rw [Nat.mul_comm]; exact h)
    simp only [codeBytes, List.foldl_append, List.foldl_cons, List.foldl_nil, ih _ this]
    omega

theorem src_render {c len : Nat} (h : CodeOk c len) : DSrc (c, len) (renderCode c len) := by
  have := DSrc.mk (codeBytes len c) _ (hexBytes_render _ (codeBytes_lt len c))
    (by rw [codeBytes_length]; exact h.1) (by rw [codeBytes_length]; exact h.2.1)
  rwa [codeBytes_val len c h.2.2, codeBytes_length] at this

theorem units_render (us : List Nat) (h : ∀ u ∈ us, u < 65536) : DUnits us (us.flatMap unitHex) := by
  induction us with
  | nil => exact .nil
  | cons u us ih =>
    have hu := h u List.mem_cons_self
    have hex1 : ∀ b, b < 256 → DHexBytes [b] (hex2 b) := fun b hb => by
      simpa using hexBytes_render [b] (by simpa using hb)
    have := DUnits.cons (u / 256) (u % 256) _ _ [] us _ (hex1 _ (by omega)) (hex1 _ (Nat.mod_lt _ (by omega))) .nil
      (ih fun x hx => h x (List.mem_cons_of_mem _ hx))
    rw [Nat.div_add_mod' u 256] at this
    simpa [unitHex] using this

theorem target_render {us : List Nat} (h : TargetOk us) : DTarget us (renderUnits us) :=
  .mk us _ (units_render us h.2.2) (List.length_pos_iff.mpr h.1) h.2.1

theorem pair_render {lo hi len : Nat} (h1 : CodeOk lo len) (h2 : CodeOk hi len) :
    DPair (lo, hi, len) (renderCode lo len ++ 32 :: renderCode hi len) := by
  simpa using DPair.mk lo hi len _ [32] _ (src_render h1) blank1_sp.1 (src_render h2)

theorem more_render (ts : List (List Nat)) (h : ∀ t ∈ ts, TargetOk t) : DMoreTargets ts (renderMore ts) := by
  induction ts with
  | nil => exact .nil
  | cons t ts ih =>
    simpa [renderMore] using DMoreTargets.cons t ts [32] _ _ blank1_sp (target_render (h t List.mem_cons_self))
      (ih fun x hx => h x (List.mem_cons_of_mem _ hx))

theorem targets_render {ts : List (List Nat)} (hne : ts ≠ []) (h : ∀ t ∈ ts, TargetOk t) :
    DTargets ts (renderTargets ts) := by
  match ts, hne with
  | [t], _ => exact .single t _ (target_render (h t List.mem_cons_self))
  | t :: t' :: ts, _ =>
    simpa [renderTargets] using DTargets.array t (t' :: ts) [] _ _ [] blank0_nil (target_render (h t List.mem_cons_self))
      (more_render _ fun x hx => h x (List.mem_cons_of_mem _ hx)) blank0_nil

theorem charLine_render {l : (Nat × Nat) × List Nat} (h : CharLineOk l) : DCharLine l (renderCharLine l) := by
  simpa [renderCharLine] using DCharLine.mk l.1 l.2 _ [32] _ [10] (src_render h.1) blank1_sp.1 (target_render h.2) ms1_lf

theorem rangeLine_render {l : (Nat × Nat × Nat) × List (List Nat)} (h : RangeLineOk l) :
    DRangeLine l (renderRangeLine l) := by
  simpa [renderRangeLine] using DRangeLine.mk l.1 l.2 _ [32] _ [10] (pair_render h.1 h.2.1) blank1_sp.1
    (targets_render h.2.2.1 h.2.2.2) ms1_lf

theorem csLine_render {l : Nat × Nat × Nat} (h : CsLineOk l) : DCsLine l (renderCsLine l) := by
  simpa [renderCsLine] using DCsLine.mk l _ [10] (pair_render h.1 h.2) ms1_lf

theorem dlist_render {α : Type} {D : α → Bytes → Prop} (render : α → Bytes) (ls : List α)
    (h : ∀ a ∈ ls, D a (render a)) : DList D ls (ls.flatMap render) := by
  induction ls with
  | nil => exact .nil
  | cons a ls ih =>
    exact .cons a ls _ _ (h a List.mem_cons_self) (ih fun x hx => h x (List.mem_cons_of_mem _ hx))

theorem section_render {s : Section} (h : SectionOk s) : DSection s (renderSection s) := by
  have h1 : strBytes "1 begincodespacerange\n" = [49] ++ [32] ++ strBytes "begincodespacerange" ++ [10] := by
    simp only [strBytes_data]; decide +kernel
  have h2 : strBytes "1 beginbfchar\n" = [49] ++ [32] ++ strBytes "beginbfchar" ++ [10] := by
    simp only [strBytes_data]; decide +kernel
  have h3 : strBytes "1 beginbfrange\n" = [49] ++ [32] ++ strBytes "beginbfrange" ++ [10] := by
    simp only [strBytes_data]; decide +kernel
  have e1 : strBytes "endcodespacerange\n" = strBytes "endcodespacerange" ++ [10] := by
    simp only [strBytes_data]; decide +kernel
  have e2 : strBytes "endbfchar\n" = strBytes "endbfchar" ++ [10] := by
    simp only [strBytes_data]; decide +kernel
  have e3 : strBytes "endbfrange\n" = strBytes "endbfrange" ++ [10] := by
    simp only [strBytes_data]; decide +kernel
  have one := digits1 49 (by decide)
  cases s with
  | csRange ls =>
    rw [renderSection, h1, e1, ← List.append_assoc]
    exact .cs ls _ _ _ _ _ one blank1_sp ms1_lf h.1 (dlist_render _ ls fun l hl => csLine_render (h.2 l hl)) ms1_lf
  | bfChar ls =>
    rw [renderSection, h2, e2, ← List.append_assoc]
    exact .bfChar ls _ _ _ _ _ one blank1_sp ms1_lf h.1 (dlist_render _ ls fun l hl => charLine_render (h.2 l hl)) ms1_lf
  | bfRange ls =>
    rw [renderSection, h3, e3, ← List.append_assoc]
    exact .bfRange ls _ _ _ _ _ one blank1_sp ms1_lf h.1 (dlist_render _ ls fun l hl => rangeLine_render (h.2 l hl)) ms1_lf

/-- the written stream is a text of the grammar: no leading white space, `/ProcSet`, `12 dict`,
`/CMapName /Adobe-Identity-UCS def` then `/CMapType 2 def`, one blank or one LF everywhere -/
theorem derives_render (ss : List Section) (hne : ss ≠ []) (hok : ∀ s ∈ ss, SectionOk s) :
    DerivesCMapText ss (renderCMap ss) := by
  have hH : header = strBytes "/CIDInit" ++ 32 :: (strBytes "/ProcSet" ++ 32 :: (strBytes "findresource" ++ 32 ::
      (strBytes "begin" ++ 10 :: 49 :: 50 :: 32 :: (strBytes "dict" ++ 32 :: (strBytes "begin" ++ 10 ::
      (strBytes "begincmap" ++ 10 :: (strBytes "/CMapName" ++ 32 :: 47 :: (strBytes "Adobe-Identity-UCS" ++ 32 ::
      (strBytes "def" ++ 10 :: (strBytes "/CMapType" ++ 32 :: 50 :: 32 :: (strBytes "def" ++ [10]))))))))))) := by
    simp only [header, strBytes_data]; decide +kernel
  have hT : trailer = strBytes "endcmap" ++ 10 :: (strBytes "CMapName" ++ 32 :: (strBytes "currentdict" ++ 32 ::
      (strBytes "/CMap" ++ 32 :: (strBytes "defineresource" ++ 32 :: (strBytes "pop" ++ 10 ::
      (strBytes "end" ++ 10 :: (strBytes "end" ++ [10]))))))) := by
    simp only [trailer, strBytes_data]; decide +kernel
  have hname : PlainName (strBytes "Adobe-Identity-UCS") := by unfold PlainName; decide +kernel
  have key := DerivesCMapText.mk ss [] [32] (strBytes "/ProcSet") [32] [32] [10] [49, 50] [32] [32] [10] [10] _ _
    [10] [32] [32] [32] [32] [10] [10] [10] [(), ()]
    .nil blank1_sp.1 (Or.inl rfl) blank1_sp blank1_sp ms1_lf ⟨by decide, by simp⟩ blank1_sp blank1_sp ms1_lf ms1_lf
    (.cons () [()] _ _ (.name [32] _ [32] [10] blank1_sp.1 hname blank1_sp ms1_lf)
      (.cons () [] _ _ (.type [32] [50] [32] [10] blank1_sp (digits1 50 (by decide)) blank1_sp ms1_lf) .nil))
    (by decide) (by decide) hne (dlist_render _ ss fun s hs => section_render (hok s hs))
    ms1_lf blank1_sp blank1_sp blank1_sp blank1_sp ms1_lf ms1_lf
  -- `↓`: reassociate from the root, one step per `++` (bottom-up takes quadratically many)
  simpa only [renderCMap, hH, hT, ↓ List.append_assoc, List.cons_append, List.nil_append] using key

end Spelling

theorem psourceCode_render (c len : Nat) (h1 : 1 ≤ len) (h4 : len ≤ 4) (hc : c < 256 ^ len) (rest : Bytes) :
    psourceCode (renderCode c len ++ rest) = .ok (c, len) rest :=
  CMapText.psourceCode_src (src_render ⟨h1, h4, hc⟩) rest

theorem psections_render (ss : List Section) (hne : ss ≠ []) (hok : ∀ s ∈ ss, SectionOk s)
    {y : UInt8} (hy : NonWs y) (hd : isDigit y = false) (t : Bytes) :
    psections (ss.flatMap renderSection ++ y :: t) = .ok ss (y :: t) :=
  CMapText.psections_d (dlist_render _ ss fun s hs => section_render (hok s hs)) hne hy hd t

/-- **The grammar model reads back the canonical writer**: for every non-empty list of sections the
writer can write (any kinds, any number of lines, 1–4-byte codes, 1–256-unit targets, arrays of any
length), parsing the written stream returns exactly these sections. -/
theorem parse_render (ss : List Section) (hne : ss ≠ []) (hok : ∀ s ∈ ss, SectionOk s) :
    parseCMap (renderCMap ss) = some ss :=
  CMapText.parseCMap_complete (derives_render ss hne hok)

end Lopdf.CMap
