import LopdfModel.Model.Basic
/-
  `Outcome` as a monad with two failures. "Is not a panic" is said in three ways (`noPanic`,
  `∀ s, · ≠ .panic s`, `isPanic = false`); a combinator yields `panic s` only if one of its arguments
  does, so a function built from them is total as soon as its parts are. Then what `bind` does, and
  folds whose step hands a failure on unchanged.
-/
namespace Lopdf

def Outcome.noPanic {α} : Outcome α → Prop
  | .panic _ => False
  | _ => True

theorem noPanic_iff {α} (o : Outcome α) : o.noPanic ↔ ∀ s, o ≠ .panic s := by
  cases o <;> simp [Outcome.noPanic]

namespace Outcome
variable {α β : Type} {s : String}

theorem noPanic.ne_panic {o : Outcome α} (h : o.noPanic) {s : String} : o ≠ .panic s :=
  (noPanic_iff o).mp h s

/-- a branch that hands on what a callee answered has no panic when the callee has none -/
theorem noPanic.of_eq {o o' : Outcome α} (h : o.noPanic) (e : o = o') : o'.noPanic := e ▸ h

theorem isPanic_eq_false_iff {x : Outcome α} : x.isPanic = false ↔ ∀ s, x ≠ .panic s := by
  cases x <;> simp [isPanic]

theorem ite_ne_panic {c : Prop} [Decidable c] {a b : Outcome α} (ha : a ≠ .panic s) (hb : b ≠ .panic s) :
    (if c then a else b) ≠ .panic s := by
  split <;> assumption

theorem bind_ne_panic {x : Outcome α} {f : α → Outcome β} (hx : x ≠ .panic s)
    (hf : ∀ a, x = .ok a → f a ≠ .panic s) : x.bind f ≠ .panic s := by
  cases x with
  | ok a => exact hf a rfl
  | err e => nofun
  | panic t => intro h; cases h; exact hx rfl

theorem map_ne_panic {x : Outcome α} {f : α → β} (hx : x ≠ .panic s) : x.map f ≠ .panic s := by
  cases x with
  | ok a => nofun
  | err e => nofun
  | panic t => intro h; cases h; exact hx rfl

theorem noPanic_bind {x : Outcome α} {f : α → Outcome β} (hx : x.noPanic)
    (hf : ∀ a, x = .ok a → (f a).noPanic) : (x.bind f).noPanic :=
  (noPanic_iff _).mpr fun _ => bind_ne_panic hx.ne_panic fun a e => (hf a e).ne_panic

/-- `x` does not panic, and the value it returns, if it returns one, satisfies `P` -/
def okAll (P : α → Prop) : Outcome α → Prop
  | .ok a => P a
  | .err _ => True
  | .panic _ => False

theorem okAll_iff {P : α → Prop} {x : Outcome α} :
    x.okAll P ↔ (∀ s, x ≠ .panic s) ∧ ∀ a, x = .ok a → P a := by
  cases x with
  | ok a => exact ⟨fun h => ⟨nofun, fun _ e => by cases e; exact h⟩, fun h => h.2 a rfl⟩
  | err e => exact ⟨fun _ => ⟨nofun, nofun⟩, fun _ => trivial⟩
  | panic t => exact ⟨False.elim, fun h => h.1 t rfl⟩

theorem bind_eq_ok {x : Outcome α} {f : α → Outcome β} {b : β} (h : x.bind f = .ok b) :
    ∃ a, x = .ok a ∧ f a = .ok b := by
  cases x with
  | ok a => exact ⟨a, rfl, h⟩
  | err e => cases h
  | panic s => cases h

theorem bind_congr {x : Outcome α} {f g : α → Outcome β} (h : ∀ a, x = .ok a → f a = g a) :
    x.bind f = x.bind g := by
  cases x with
  | ok a => exact h a rfl
  | err e => rfl
  | panic s => rfl

theorem noPanic_foldl {step : Outcome α → β → Outcome α}
    (hstep : ∀ acc e, acc.noPanic → (step acc e).noPanic) (l : List β) {acc : Outcome α}
    (h : acc.noPanic) : (l.foldl step acc).noPanic := by
  induction l generalizing acc with
  | nil => exact h
  | cons e rest ih => exact ih (hstep acc e h)

theorem foldl_ok {step : Outcome α → β → Outcome α} (hstep : ∀ a e, ∃ a', step (.ok a) e = .ok a') :
    ∀ (l : List β) (a : α), ∃ a', l.foldl step (.ok a) = .ok a'
  | [], a => ⟨a, rfl⟩
  | e :: l, a => by
    obtain ⟨a1, h1⟩ := hstep a e
    rw [List.foldl_cons, h1]
    exact foldl_ok hstep l a1

/-- a step function that hands a failure on unchanged, as the loops of the reader do -/
def Strict (step : Outcome α → β → Outcome α) : Prop :=
  ∀ acc e, (∀ a, acc ≠ .ok a) → step acc e = acc

theorem foldl_of_not_ok {step : Outcome α → β → Outcome α} (hs : Strict step) (l : List β)
    {acc : Outcome α} (h : ∀ a, acc ≠ .ok a) : l.foldl step acc = acc := by
  induction l with
  | nil => rfl
  | cons e rest ih => rw [List.foldl_cons, hs acc e h, ih]

/-- a strict fold that ends in `ok` went through `ok` states only: what holds of the elements
consumed so far and the state, and is kept by every `ok → ok` step, holds at the end -/
theorem foldl_ok_induction {step : Outcome α → β → Outcome α} (hs : Strict step)
    (I : List β → α → Prop)
    (hstep : ∀ pre a e a', I pre a → step (.ok a) e = .ok a' → I (pre ++ [e]) a')
    (l : List β) {pre : List β} {a a' : α} (ha : I pre a)
    (h : l.foldl step (.ok a) = .ok a') : I (pre ++ l) a' := by
  induction l generalizing pre a with
  | nil => cases h; simpa using ha
  | cons e rest ih =>
    rw [List.foldl_cons] at h
    cases hs1 : step (.ok a) e with
    | ok a1 =>
      rw [hs1] at h
      simpa using ih (hstep pre a e a1 ha hs1) h
    | err s => rw [hs1, foldl_of_not_ok hs rest (by simp)] at h; cases h
    | panic s => rw [hs1, foldl_of_not_ok hs rest (by simp)] at h; cases h

end Outcome
end Lopdf
