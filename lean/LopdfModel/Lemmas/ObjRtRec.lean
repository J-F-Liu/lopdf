import LopdfModel.Lemmas.ObjRtBase
import LopdfModel.Lemmas.Dict
/-
  Object-level round trip: written reals; well-formed direct objects, the normal form
  `norm`, measures; the texts that may follow an object (`Follow`) and the stop-context invariant
  `StopCtx` established by `write_array` / `write_dictionary` for the next item; first bytes of
  written objects and the separator logic; scalar objects through `scalars`.
-/
namespace Lopdf.ObjRt
open Lopdf Gen

/-- the writer's test `value >= 2^63 || value < -2^63` on the `Display` text (see `writeReal`) -/
def realOutside (t : Bytes) : Bool :=
  match t with
  | 45 :: ds => ds.all isDigit && digitsVal ds > 9223372586610589696
  | ds => ds.all isDigit && digitsVal ds ≥ 9223371761976868864

theorem writeReal_eq (t : Bytes) : writeReal t = if realOutside t then t ++ [46, 48] else t := rfl

/-- the integer a sign-and-digits text denotes -/
def intOfText : Bytes → Int
  | 45 :: ds => -(Int.ofNat (digitsVal ds))
  | ds => Int.ofNat (digitsVal ds)

/-- what a written real reads back as: the same text when it has a fraction, the text with the
writer's `.0` when its value is outside the `i64` range, otherwise the integer it denotes -/
def normReal (t : Bytes) : Obj :=
  if t.contains 46 then .real t
  else if realOutside t then .real (t ++ [46, 48])
  else .int (intOfText t)

/-- sign and digits: the `Display` text of an integral-valued real -/
def IsIntText (t : Bytes) : Prop := ∃ (neg : Bool) (ds : Bytes), t = sgn neg ++ ds ∧ ds ≠ [] ∧ AllDigits ds

/-- admissible real texts: `[-]digits.digits*` or `[-]digits`; excluded are the integral texts
in the gap `-(2^63 + 2^39) ≤ v < -2^63`, which no `f32` prints (the spacing of `f32` there is 2^40)
and which the writer would emit as an integer that `i64::from_str` rejects. -/
def RealOK (t : Bytes) : Prop :=
  IsDecimal t ∨ ∃ (neg : Bool) (ds : Bytes), t = sgn neg ++ ds ∧ ds ≠ [] ∧ AllDigits ds ∧
    ¬ (neg = true ∧ I64_MAX + 1 < digitsVal ds ∧ digitsVal ds ≤ 9223372586610589696)

theorem sgn_text (neg : Bool) (ds : Bytes) (h : ∀ r, ds ≠ 45 :: r) :
    realOutside (sgn neg ++ ds) = (ds.all isDigit &&
      if neg then decide (digitsVal ds > 9223372586610589696) else decide (digitsVal ds ≥ 9223371761976868864)) ∧
    intOfText (sgn neg ++ ds) = if neg then -(Int.ofNat (digitsVal ds)) else Int.ofNat (digitsVal ds) := by
  cases neg
  · simp only [sgn, Bool.false_eq_true, if_false, List.nil_append]
    unfold realOutside intOfText
    constructor <;> split
    · exact absurd rfl (h _)
    · rfl
    · exact absurd rfl (h _)
    · rfl
  · exact ⟨rfl, rfl⟩

theorem digits_no_minus {ds : Bytes} (hne : ds ≠ []) (hd : AllDigits ds) (x : Bytes) : ∀ r, ds ++ x ≠ 45 :: r := by
  obtain ⟨a, as, rfl⟩ := List.exists_cons_of_ne_nil hne
  intro r e
  injection e with e _
  exact (digit_facts a (hd a (by simp))).2.2.2.2.1 e

/-- the two shapes of a written real -/
theorem real_cases (t : Bytes) (h : RealOK t) :
    (IsDecimal (writeReal t) ∧ normReal t = .real (writeReal t)) ∨
    (∃ (neg : Bool) (ds : Bytes), writeReal t = sgn neg ++ ds ∧ ds ≠ [] ∧ AllDigits ds ∧
      (if neg then digitsVal ds ≤ I64_MAX + 1 else digitsVal ds ≤ I64_MAX) ∧
      normReal t = .int (if neg then -(Int.ofNat (digitsVal ds)) else Int.ofNat (digitsVal ds))) := by
  rcases h with h | ⟨neg, ds, rfl, hne, hd, hgap⟩
  · -- a text with `.` is written as it is
    left
    obtain ⟨neg, d1, d2, rfl, hne, h1, h2⟩ := decimal_shape t h
    have hout : realOutside (sgn neg ++ d1 ++ 46 :: d2) = false := by
      rw [List.append_assoc, (sgn_text neg _ (digits_no_minus hne h1 _)).1]
      simp [show isDigit 46 = false by decide]
    rw [writeReal_eq, hout]
    exact ⟨h, by simp [normReal]⟩
  · have hc : (sgn neg ++ ds).contains 46 = false := by
      have : ∀ b ∈ ds, b ≠ 46 := fun b hb => (digit_facts b (hd b hb)).2.2.2.2.2.1
      cases neg <;> simp [sgn] <;> intro hc <;> exact this 46 hc rfl
    have hall : ds.all isDigit = true := by simpa [AllDigits] using hd
    obtain ⟨hro, hint⟩ := sgn_text neg ds (by simpa using digits_no_minus hne hd [])
    rw [hall, Bool.true_and] at hro
    rw [writeReal_eq, normReal, hc, hint]
    cases hout : realOutside (sgn neg ++ ds)
    · -- inside the `i64` range (the gap is excluded): an integer
      right
      refine ⟨neg, ds, rfl, hne, hd, ?_, by simp⟩
      rw [hro] at hout
      cases neg <;> simp [I64_MAX] at hout hgap ⊢ <;> omega
    · -- outside: the writer appends `.0`
      left
      exact ⟨⟨⟨neg, ds, [48], by cases neg <;> simp [sgn], hne, hd, by intro b hb; simp at hb; subst hb; decide⟩⟩,
        by simp⟩

/-- `literal_string` reads back what `write_string` wrote, whatever follows -/
def LitOK (s : Bytes) : Prop := ∀ rest, pLiteral (writeString s .lit ++ rest) = some (s, rest)

mutual
/-- direct objects in the scope of the round trip; `L` constrains literal strings -/
def WF (L : Bytes → Prop) : Obj → Prop
  | .null => True
  | .bool _ => True
  | .int i => -(I64_MAX : Int) - 1 ≤ i ∧ i ≤ I64_MAX
  | .real t => RealOK t
  | .name _ => True
  | .str s .lit => L s
  | .str _ .hex => True
  | .arr items => WFL L items
  | .dict es => (es.map (·.1)).Nodup ∧ WFD L es
  | .stream _ _ => False
  | .ref n g => n ≤ U32_MAX ∧ g ≤ U16_MAX
def WFL (L : Bytes → Prop) : List Obj → Prop
  | [] => True
  | o :: r => WF L o ∧ WFL L r
def WFD (L : Bytes → Prop) : List (Bytes × Obj) → Prop
  | [] => True
  | (_, v) :: r => WF L v ∧ WFD L r
end

mutual
/-- the object the parser returns for a written object -/
def norm : Obj → Obj
  | .real t => normReal t
  | .arr items => .arr (normL items)
  | .dict es => .dict (normD es)
  | .null => .null
  | .bool b => .bool b
  | .int i => .int i
  | .name n => .name n
  | .str s f => .str s f
  | .stream es c => .stream es c
  | .ref n g => .ref n g
def normL : List Obj → List Obj
  | [] => []
  | o :: r => norm o :: normL r
def normD : List (Bytes × Obj) → List (Bytes × Obj)
  | [] => []
  | (k, v) :: r => (k, norm v) :: normD r
end

mutual
def height : Obj → Nat
  | .arr items => 1 + heightL items
  | .dict es => 1 + heightD es
  | _ => 0
def heightL : List Obj → Nat
  | [] => 0
  | o :: r => max (height o) (heightL r)
def heightD : List (Bytes × Obj) → Nat
  | [] => 0
  | (_, v) :: r => max (height v) (heightD r)
end

mutual
/-- number of nodes: a sufficient amount of parser fuel -/
def size : Obj → Nat
  | .arr items => 1 + sizeL items
  | .dict es => 1 + sizeD es
  | _ => 1
def sizeL : List Obj → Nat
  | [] => 0
  | o :: r => size o + sizeL r
def sizeD : List (Bytes × Obj) → Nat
  | [] => 0
  | (_, v) :: r => size v + sizeD r
end

theorem size_pos (o : Obj) : 1 ≤ size o := by
  cases o <;> simp [size] <;> omega

theorem length_le_sizeL (items : List Obj) : items.length ≤ sizeL items := by
  induction items with
  | nil => simp [sizeL]
  | cons o r ih => have := size_pos o; simp [sizeL]; omega

theorem length_le_sizeD (es : List (Bytes × Obj)) : es.length ≤ sizeD es := by
  induction es with
  | nil => simp [sizeD]
  | cons e r ih => obtain ⟨k, v⟩ := e; have := size_pos v; simp [sizeD]; omega

def isIntObj : Obj → Bool
  | .int _ => true
  | _ => false

/-- what must follow a written object for it to be read back (`wr`: the grammar in use has the
`reference` alternative). Only numbers and names constrain the following text. -/
def Follow (wr : Bool) (o : Obj) (rest : Bytes) : Prop :=
  match o with
  | .int _ => IntStop0 rest ∧ (wr = true → refTail rest = none)
  | .real t => NoDigitAhead rest ∧
      (isIntObj (normReal t) = true → (∀ r, rest ≠ 46 :: r) ∧ (wr = true → refTail rest = none))
  | .name _ => NameStop rest
  | _ => True

/-- **the stop-context invariant**: what `write_array` / `write_dictionary` put after an item.
The first byte (if any) is white space or a delimiter; the reference look-ahead `space u16 space R`
fails on it; and after skipping `space` it does not start with `R`. -/
def StopCtx (rest : Bytes) : Prop :=
  NameStop rest ∧ refTail rest = none ∧ ∀ r, space rest ≠ 82 :: r

theorem regular_facts (b : UInt8) (h : isRegular b = false) : isDigit b = false ∧ b ≠ 46 ∧ b ≠ 82 :=
  (by decide : ∀ b ∈ WHITESPACE ++ DELIMITERS, isDigit b = false ∧ b ≠ 46 ∧ b ≠ 82) b (not_regular_mem h)

theorem nameStop_noDigit {rest : Bytes} (h : NameStop rest) : NoDigitAhead rest :=
  fun b r e => (regular_facts b (h b r e)).1

theorem nameStop_noDot {rest : Bytes} (h : NameStop rest) : ∀ r, rest ≠ 46 :: r := by
  intro r e
  exact (regular_facts 46 (h 46 r e)).2.1 rfl

/-- a text that starts with a white-space or delimiter byte (or is empty), and on which the
reference look-ahead fails, may follow every object -/
theorem follow_of {wr : Bool} {rest : Bytes} (hs : NameStop rest) (href : wr = true → refTail rest = none)
    (o : Obj) : Follow wr o rest := by
  cases o <;> simp only [Follow]
  · exact ⟨⟨nameStop_noDigit hs, nameStop_noDot hs⟩, href⟩
  · exact ⟨nameStop_noDigit hs, fun _ => ⟨nameStop_noDot hs, href⟩⟩
  · exact hs

theorem StopCtx.follow {rest : Bytes} (h : StopCtx rest) (wr : Bool) (o : Obj) : Follow wr o rest :=
  follow_of h.1 (fun _ => h.2.1) o

theorem stop_delim (b : UInt8) (r : Bytes) (hreg : isRegular b = false) (hw : isWhitespace b = false)
    (hp : b ≠ 37) : StopCtx (b :: r) := by
  have hf := regular_facts b hreg
  have hs : space (b :: r) = b :: r := space_head _ ⟨b, r, rfl, hw, hp⟩
  refine ⟨nameStop_cons r hreg, refTail_nondigit hs hf.1, ?_⟩
  intro r' e; rw [hs] at e; injection e with e _; exact hf.2.2 e

/-- the first byte of a written object: a digit, `-` or the first letter of a keyword where the
writer puts a separator in front, one of the delimiters `/ ( < [` where it does not -/
theorem head_obj_P (P : UInt8 → Prop) {L : Bytes → Prop} (o : Obj) (x : Bytes) (h : WF L o)
    (hsep : needSeparator o = true → (∀ b, isDigit b = true → P b) ∧ P 45 ∧ P 110 ∧ P 102 ∧ P 116)
    (hdel : needSeparator o = false → P 47 ∧ P 40 ∧ P 60 ∧ P 91) :
    ∃ b r, writeObj o ++ x = b :: r ∧ P b := by
  have hnum : ∀ (neg : Bool) (ds y : Bytes), ds ≠ [] → AllDigits ds → needSeparator o = true →
      ∃ b r, sgn neg ++ ds ++ y = b :: r ∧ P b := by
    intro neg ds y hne hd hs
    cases neg
    · obtain ⟨a, as, rfl⟩ := List.exists_cons_of_ne_nil hne
      exact ⟨a, as ++ y, by simp [sgn], (hsep hs).1 a (hd a (by simp))⟩
    · exact ⟨45, ds ++ y, by simp [sgn], (hsep hs).2.1⟩
  cases o with
  | null => exact ⟨110, _, rfl, (hsep rfl).2.2.1⟩
  | bool b =>
    cases b
    · exact ⟨102, _, rfl, (hsep rfl).2.2.2.1⟩
    · exact ⟨116, _, rfl, (hsep rfl).2.2.2.2⟩
  | int i =>
    obtain ⟨neg, m, e, _⟩ := writeInt_shape i
    simp only [writeObj, e]
    exact hnum neg _ x (natDigits_ne_nil m) (natDigits_all_digit m) rfl
  | real t =>
    simp only [WF] at h
    simp only [writeObj]
    rcases real_cases t h with ⟨hd, _⟩ | ⟨neg, ds, e, hne, hd, _, _⟩
    · obtain ⟨neg, d1, d2, e, hne, h1, _⟩ := decimal_shape _ hd
      rw [e]
      obtain ⟨b, r, e2, hb⟩ := hnum neg d1 (46 :: d2 ++ x) hne h1 rfl
      exact ⟨b, r, by rw [← e2]; simp, hb⟩
    · rw [e]; exact hnum neg ds x hne hd rfl
  | name n => exact ⟨47, _, rfl, (hdel rfl).1⟩
  | str s f =>
    cases f
    · exact ⟨40, _, rfl, (hdel rfl).2.1⟩
    · exact ⟨60, _, rfl, (hdel rfl).2.2.1⟩
  | arr items => exact ⟨91, _, rfl, (hdel rfl).2.2.2⟩
  | dict es => exact ⟨60, _, rfl, (hdel rfl).2.2.1⟩
  | stream es c => simp [WF] at h
  | ref n g =>
    simp only [writeObj, List.append_assoc]
    obtain ⟨b, r, e, hb⟩ := hnum false (natDigits n) ([32] ++ (natDigits g ++ ([32, 82] ++ x)))
      (natDigits_ne_nil n) (natDigits_all_digit n) rfl
    exact ⟨b, r, by rw [← e]; simp [sgn], hb⟩

theorem head_obj (L : Bytes → Prop) (o : Obj) (x : Bytes) (h : WF L o) :
    ∃ b r, writeObj o ++ x = b :: r ∧ isWhitespace b = false ∧ b ≠ 37 ∧ b ≠ 82 :=
  head_obj_P _ o x h
    (fun _ => ⟨fun b hb => have hf := digit_facts b hb; ⟨hf.2.2.2.2.2.2.2.2.1, hf.2.2.2.2.2.2.2.1, hf.2.2.2.2.2.2.1⟩,
      by decide, by decide, by decide, by decide⟩)
    (fun _ => by decide)

theorem headTok_obj {L : Bytes → Prop} (o : Obj) (x : Bytes) (h : WF L o) : HeadTok (writeObj o ++ x) := by
  obtain ⟨b, r, e, h1, h2, _⟩ := head_obj L o x h
  exact ⟨b, r, e, h1, h2⟩

theorem nosep_head {L : Bytes → Prop} (o : Obj) (x : Bytes) (h : WF L o) (hs : needSeparator o = false) :
    ∃ b r, writeObj o ++ x = b :: r ∧ isRegular b = false ∧ isWhitespace b = false ∧ b ≠ 37 :=
  head_obj_P _ o x h (fun h' => by rw [hs] at h'; cases h') (fun _ => by decide)

theorem refTailS_number (neg : Bool) (ds Y : Bytes) (hne : ds ≠ []) (hd : AllDigits ds)
    (hr : NoDigitAhead Y) (hR : ∀ r, space Y ≠ 82 :: r) : refTailS (sgn neg ++ ds ++ Y) = none := by
  cases neg
  · simp only [sgn, Bool.false_eq_true, if_false, List.nil_append]
    unfold refTailS
    rw [pUnsigned_digits _ ds Y hne hd hr]
    split
    · show (match space Y with | 82 :: r3 => some (digitsVal ds, r3) | _ => none) = none
      split
      · rename_i r3 heq; exact absurd heq (hR r3)
      · rfl
    · rfl
  · simpa [sgn] using refTailS_nondigit 45 (ds ++ Y) (by decide)

theorem refTailS_decimal (t C : Bytes) (h : IsDecimal t) : refTailS (t ++ C) = none := by
  obtain ⟨neg, d1, d2, rfl, hne, h1, _⟩ := decimal_shape t h
  have e : sgn neg ++ d1 ++ 46 :: d2 ++ C = sgn neg ++ d1 ++ 46 :: (d2 ++ C) := by simp
  rw [e]
  refine refTailS_number neg d1 _ hne h1 (noDigitAhead_cons _ (by decide)) fun r e => ?_
  rw [space_head _ ⟨46, _, rfl, by decide, by decide⟩] at e
  injection e with e _
  exact absurd e (by decide)

theorem refTailS_ref (n g : Nat) (C : Bytes) :
    refTailS (natDigits n ++ [32] ++ natDigits g ++ [32, 82] ++ C) = none := by
  have e : natDigits n ++ [32] ++ natDigits g ++ [32, 82] ++ C =
      sgn false ++ natDigits n ++ (32 :: (natDigits g ++ (32 :: 82 :: C))) := by simp [sgn]
  rw [e]
  refine refTailS_number false _ _ (natDigits_ne_nil n) (natDigits_all_digit n)
    (noDigitAhead_cons _ (by decide)) fun r e => ?_
  -- after the blank comes the generation number: a digit, not `R`
  obtain ⟨a, as, ha, hda⟩ := natDigits_head g
  rw [space_sp_head _ (headTok_natDigits g _), ha] at e
  injection e with e _
  exact (digit_facts a hda).2.2.2.2.2.2.1 e

theorem refTailS_obj {L : Bytes → Prop} (o : Obj) (C : Bytes) (h : WF L o) (hC : StopCtx C) :
    refTailS (writeObj o ++ C) = none := by
  cases o with
  | null => exact refTailS_nondigit 110 _ (by decide)
  | bool b =>
    cases b
    · exact refTailS_nondigit 102 _ (by decide)
    · exact refTailS_nondigit 116 _ (by decide)
  | int i =>
    obtain ⟨neg, m, e, _⟩ := writeInt_shape i
    simp only [writeObj, e]
    exact refTailS_number neg _ C (natDigits_ne_nil m) (natDigits_all_digit m) (nameStop_noDigit hC.1) hC.2.2
  | real t =>
    simp only [WF] at h
    simp only [writeObj]
    rcases real_cases t h with ⟨hd, _⟩ | ⟨neg, ds, e, hne, hd, _, _⟩
    · exact refTailS_decimal _ C hd
    · rw [e]; exact refTailS_number neg ds C hne hd (nameStop_noDigit hC.1) hC.2.2
  | ref n g => simp only [writeObj]; exact refTailS_ref n g C
  | name n => exact refTailS_nondigit 47 _ (by decide)
  | str s f =>
    cases f
    · exact refTailS_nondigit 40 _ (by decide)
    · exact refTailS_nondigit 60 _ (by decide)
  | arr items => exact refTailS_nondigit 91 _ (by decide)
  | dict es => exact refTailS_nondigit 60 _ (by decide)
  | stream es c => simp [WF] at h

theorem space_sep_obj {L : Bytes → Prop} (o : Obj) (x : Bytes) (h : WF L o) (b : Bool) :
    space ((if b then [32] else []) ++ writeObj o ++ x) = writeObj o ++ x := by
  cases b
  · exact space_head _ (headTok_obj o x h)
  · exact space_sp_head _ (headTok_obj o x h)

/-- **the separator logic**: an object with the blank `need_separator` asks for, in front of a
stop context, is a stop context -/
theorem stop_sep_obj {L : Bytes → Prop} (o : Obj) (C : Bytes) (h : WF L o) (hC : StopCtx C) :
    StopCtx ((if needSeparator o then [32] else []) ++ writeObj o ++ C) := by
  have hsp := space_sep_obj o C h (needSeparator o)
  refine ⟨?_, ?_, ?_⟩
  · cases hs : needSeparator o
    · obtain ⟨b, r, e, h1, _, _⟩ := nosep_head o C h hs
      exact e ▸ nameStop_cons r h1
    · exact nameStop_cons _ (by decide)
  · rw [refTail, hsp]; exact refTailS_obj o C h hC
  · intro r e
    rw [hsp] at e
    obtain ⟨b, r', e', _, _, hb⟩ := head_obj L o C h
    rw [e'] at e; injection e with e _; exact hb e

theorem writeArr_cons (first : Bool) (o : Obj) (r : List Obj) :
    writeArr first (o :: r) = (if !first && needSeparator o then [32] else []) ++ writeObj o ++ writeArr false r := by
  simp [writeArr]

/-- what follows an array item — the next items and `]` — is a stop context -/
theorem stop_arr {L : Bytes → Prop} (items : List Obj) (rest : Bytes) (h : WFL L items) :
    StopCtx (writeArr false items ++ 93 :: rest) := by
  induction items with
  | nil => exact stop_delim 93 rest (by decide) (by decide) (by decide)
  | cons o r ih =>
    simp only [WFL] at h
    rw [writeArr_cons, List.append_assoc]
    exact stop_sep_obj o _ h.1 (ih h.2)

theorem space_arr {L : Bytes → Prop} (items : List Obj) (rest : Bytes) (h : WFL L items) (first : Bool) :
    space (writeArr first items ++ 93 :: rest) = writeArr true items ++ 93 :: rest := by
  cases items with
  | nil => exact space_head (93 :: rest) ⟨93, rest, rfl, by decide, by decide⟩
  | cons o r =>
    simp only [WFL] at h
    have e : ∀ b, writeArr b (o :: r) ++ 93 :: rest =
        (if !b && needSeparator o then [32] else []) ++ writeObj o ++ (writeArr false r ++ 93 :: rest) := by
      intro b; rw [writeArr_cons, List.append_assoc]
    rw [e first, e true]
    exact space_sep_obj o _ h.1 _

theorem writeDictBody_cons (k : Bytes) (v : Obj) (r : List (Bytes × Obj)) :
    writeDictBody ((k, v) :: r) =
      writeName k ++ (if needSeparator v then [32] else []) ++ writeObj v ++ writeDictBody r := by
  simp [writeDictBody]

/-- what follows a dictionary value — the next key or `>>` — is a stop context -/
theorem stop_dict (es : List (Bytes × Obj)) (rest : Bytes) :
    StopCtx (writeDictBody es ++ 62 :: 62 :: rest) ∧ HeadTok (writeDictBody es ++ 62 :: 62 :: rest) := by
  cases es with
  | nil =>
    exact ⟨by simpa [writeDictBody] using stop_delim 62 (62 :: rest) (by decide) (by decide) (by decide),
      ⟨62, 62 :: rest, by simp [writeDictBody], by decide, by decide⟩⟩
  | cons e r =>
    obtain ⟨k, v⟩ := e
    rw [writeDictBody_cons]
    simp only [writeName, List.cons_append, List.append_assoc]
    exact ⟨stop_delim 47 _ (by decide) (by decide) (by decide), ⟨47, _, rfl, by decide, by decide⟩⟩

def setAll (acc : Dict) : List (Bytes × Obj) → Dict
  | [] => acc
  | (k, v) :: r => setAll (acc.set k v) r

theorem setAll_nodup (es : List (Bytes × Obj)) : ∀ (acc : Dict), ((acc ++ es).map (·.1)).Nodup →
    setAll acc es = acc ++ es := by
  induction es with
  | nil => intro acc _; simp [setAll]
  | cons e r ih =>
    intro acc h
    obtain ⟨k, v⟩ := e
    have hk : k ∉ acc.keys := by
      intro hc
      simp only [List.map_append, List.map_cons] at h
      exact (List.nodup_append.mp h).2.2 k hc k (by simp) rfl
    simp only [setAll]
    rw [Dict.set_of_not_mem v hk, ih (acc ++ [(k, v)]) (by simpa using h)]
    simp

theorem normD_keys (es : List (Bytes × Obj)) : (normD es).map (·.1) = es.map (·.1) := by
  induction es with
  | nil => rfl
  | cons e r ih => obtain ⟨k, v⟩ := e; simp [normD, ih]

theorem normD_get (es : List (Bytes × Obj)) (k : Bytes) : Dict.get (normD es) k = (Dict.get es k).map norm := by
  induction es with
  | nil => simp [normD, Dict.get]
  | cons p rest ih =>
    obtain ⟨q, w⟩ := p
    by_cases h : q = k <;> simp [normD, Dict.get, h, ih]

theorem setAll_normD (es : List (Bytes × Obj)) (h : (es.map (·.1)).Nodup) : setAll [] (normD es) = normD es := by
  simpa using setAll_nodup (normD es) [] (by simpa [normD_keys] using h)

def isScalar : Obj → Bool
  | .arr _ | .dict _ | .stream _ _ => false
  | _ => true

/-- every scalar object through the scalar alternatives (`wr = false`: no references) -/
theorem scalar_core (L : Bytes → Prop) (hL : ∀ s, L s → LitOK s) (wr : Bool) (o : Obj) (rest : Bytes)
    (h : WF L o) (hsc : isScalar o = true) (hwr : wr = false → ∀ n g, o ≠ .ref n g)
    (hf : Follow wr o rest) : scalars wr (writeObj o ++ rest) = some (norm o, rest) := by
  cases o with
  | null => exact scalars_null wr rest
  | bool b =>
    cases b
    · exact scalars_false wr rest
    · exact scalars_true wr rest
  | int i =>
    obtain ⟨neg, m, e, hi⟩ := writeInt_shape i
    simp only [WF] at h
    simp only [Follow] at hf
    simp only [writeObj, e, norm]
    have := scalars_inttext wr neg (natDigits m) rest (natDigits_ne_nil m) (natDigits_all_digit m) hf.1 hf.2
      (by
        rw [digitsVal_natDigits]
        cases neg
        · simp at hi ⊢; omega
        · simp at hi ⊢; omega)
    rw [this, digitsVal_natDigits, hi]
  | real t =>
    simp only [WF] at h
    simp only [Follow] at hf
    simp only [writeObj, norm]
    rcases real_cases t h with ⟨hd, hn⟩ | ⟨neg, ds, e, hne, hd, hrange, hn⟩
    · rw [hn]; exact scalars_decimal wr _ rest hd hf.1
    · rw [hn] at hf ⊢
      have hf2 := hf.2 rfl
      rw [e]
      exact scalars_inttext wr neg ds rest hne hd ⟨hf.1, hf2.1⟩ hf2.2 hrange
  | name n => simp only [writeObj, norm]; exact scalars_name wr n rest hf
  | str s f =>
    cases f
    · simp only [WF] at h
      simp only [writeObj, norm]
      exact scalars_lit wr s rest (hL s h rest)
    · simp only [writeObj, norm]; exact scalars_hex wr s rest
  | arr items => simp [isScalar] at hsc
  | dict es => simp [isScalar] at hsc
  | stream es c => simp [isScalar] at hsc
  | ref n g =>
    cases wr
    · exact absurd rfl (hwr rfl n g)
    · simp only [WF] at h
      have e : writeObj (.ref n g) ++ rest = natDigits n ++ 32 :: (natDigits g ++ 32 :: 82 :: rest) := by
        simp [writeObj]
      rw [e, scalars_ref n g rest h.1 h.2]
      rfl

end Lopdf.ObjRt
