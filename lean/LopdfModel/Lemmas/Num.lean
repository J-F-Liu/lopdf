import LopdfModel.Lemmas.Lex
/-
  Numbers as the writer prints them — an optional `-` and a non-empty digit string — through
  `digit1`, `unsigned_int`, `integer` and `real`.
-/
namespace Lopdf.ObjRt
open Lopdf Gen

def AllDigits (ds : Bytes) : Prop := ∀ b ∈ ds, isDigit b = true

def sgn (neg : Bool) : Bytes := if neg then [45] else []

/-- a property of the digits: the digits lie below 58, so 58 instances settle it -/
theorem forall_digit (P : UInt8 → Prop)
    (h : ∀ i : Fin 58, isDigit (UInt8.ofNat i.val) = true → P (UInt8.ofNat i.val)) :
    ∀ b : UInt8, isDigit b = true → P b := by
  intro b hb
  have hlt : b.toNat < 58 := by
    simp only [isDigit, Bool.and_eq_true, decide_eq_true_eq] at hb
    exact Nat.lt_succ_of_le (UInt8.le_iff_toNat_le.mp hb.2)
  exact forall_uint8_lt 58 (fun b => isDigit b = true → P b) h b hlt hb

theorem digit_facts : ∀ b : UInt8, isDigit b = true →
    b ≠ 110 ∧ b ≠ 116 ∧ b ≠ 102 ∧ b ≠ 43 ∧ b ≠ 45 ∧ b ≠ 46 ∧ b ≠ 82 ∧ b ≠ 37 ∧
    isWhitespace b = false ∧ isRegular b = true := by
  apply forall_digit; decide +kernel

theorem natDigits_head (n : Nat) : ∃ a as, natDigits n = a :: as ∧ isDigit a = true := by
  obtain ⟨a, as, h⟩ := List.exists_cons_of_ne_nil (natDigits_ne_nil n)
  exact ⟨a, as, h, natDigits_all_digit n a (by rw [h]; simp)⟩

theorem writeInt_shape (i : Int) : ∃ (neg : Bool) (m : Nat), writeInt i = sgn neg ++ natDigits m ∧
    i = (if neg then -(Int.ofNat m) else Int.ofNat m) := by
  cases i with
  | ofNat n => exact ⟨false, n, by simp [writeInt, sgn], by simp⟩
  | negSucc n => exact ⟨true, n + 1, by simp [writeInt, sgn], by simp [Int.negSucc_eq]⟩

theorem i64_of_magnitude (neg : Bool) (v : Nat) (h : if neg then v ≤ I64_MAX + 1 else v ≤ I64_MAX) :
    -(I64_MAX : Int) - 1 ≤ (if neg then -(Int.ofNat v) else Int.ofNat v) ∧
    (if neg then -(Int.ofNat v) else Int.ofNat v) ≤ I64_MAX := by
  cases neg <;> simp only [I64_MAX, Int.ofNat_eq_natCast, Bool.false_eq_true, if_false, if_true] at * <;> omega

theorem digit1_digits (ds rest : Bytes) (hne : ds ≠ []) (hd : AllDigits ds) (hr : NoDigitAhead rest) :
    digit1 (ds ++ rest) = some (ds, rest) := by
  unfold digit1
  rw [spanP_append isDigit _ _ hd hr]
  cases ds with
  | nil => exact absurd rfl hne
  | cons a b => rfl

theorem digit1_nondigit (b : UInt8) (r : Bytes) (h : isDigit b = false) : digit1 (b :: r) = none := by
  simp [digit1, spanP, h]

theorem digit1_none {inp : Bytes} (h : NoDigitAhead inp) : digit1 inp = none := by
  cases inp with
  | nil => rfl
  | cons c r => exact digit1_nondigit c r (h c r rfl)

theorem pUnsigned_none (mx : Nat) (y : Bytes) (h : NoDigitAhead y) : pUnsigned mx y = none := by
  rw [pUnsigned, digit1_none h]; rfl

theorem pUnsigned_digits (mx : Nat) (ds rest : Bytes) (hne : ds ≠ []) (hd : AllDigits ds)
    (hr : NoDigitAhead rest) :
    pUnsigned mx (ds ++ rest) = if digitsVal ds ≤ mx then some (digitsVal ds, rest) else none := by
  simp [pUnsigned, digit1_digits ds rest hne hd hr]

theorem pUnsigned_natDigits (mx n : Nat) (rest : Bytes) (hn : n ≤ mx) (hr : NoDigitAhead rest) :
    pUnsigned mx (natDigits n ++ rest) = some (n, rest) := by
  rw [pUnsigned_digits mx _ rest (natDigits_ne_nil n) (natDigits_all_digit n) hr, digitsVal_natDigits,
    if_pos hn]

theorem pUnsigned_nondigit (mx : Nat) (b : UInt8) (r : Bytes) (h : isDigit b = false) :
    pUnsigned mx (b :: r) = none := by
  simp [pUnsigned, digit1_nondigit b r h]

theorem optSign_other (b : UInt8) (r : Bytes) (h1 : b ≠ 43) (h2 : b ≠ 45) : optSign (b :: r) = ([], b :: r) := by
  unfold optSign
  split
  · rename_i heq; injection heq with e _; exact absurd e h1
  · rename_i heq; injection heq with e _; exact absurd e h2
  · rfl

theorem optSign_sgn (neg : Bool) (ds x : Bytes) (hne : ds ≠ []) (hd : AllDigits ds) :
    optSign (sgn neg ++ ds ++ x) = (sgn neg, ds ++ x) := by
  cases neg
  · obtain ⟨a, as, rfl⟩ := List.exists_cons_of_ne_nil hne
    have ha := digit_facts a (hd a (by simp))
    exact optSign_other a _ ha.2.2.2.1 ha.2.2.2.2.1
  · rfl

/-- `real` on sign and digits: a `.` must follow, then come the fraction digits -/
theorem pReal_sgn_digits (neg : Bool) (ds rest : Bytes) (hne : ds ≠ []) (hd : AllDigits ds)
    (hr : NoDigitAhead rest) :
    pReal (sgn neg ++ ds ++ rest) =
      match (generalizing := false) rest with
      | 46 :: r1 => some (sgn neg ++ ds ++ [46] ++ (spanP isDigit r1).1, (spanP isDigit r1).2)
      | _ => none := by
  unfold pReal
  rw [optSign_sgn neg ds rest hne hd]
  simp only [spanP_append isDigit ds rest hd hr]
  obtain ⟨a, as, rfl⟩ := List.exists_cons_of_ne_nil hne
  split
  · rename_i heq; cases heq; rfl
  · rename_i heq; cases heq
  · rename_i hno _
    split
    · exact (hno _ _ _ rfl).elim
    · rfl

theorem pInteger_inttext (neg : Bool) (ds rest : Bytes) (hne : ds ≠ []) (hd : AllDigits ds)
    (hr : NoDigitAhead rest) :
    pInteger (sgn neg ++ ds ++ rest) =
      if neg then (if digitsVal ds ≤ I64_MAX + 1 then some (-(Int.ofNat (digitsVal ds)), rest) else none)
      else (if digitsVal ds ≤ I64_MAX then some (Int.ofNat (digitsVal ds), rest) else none) := by
  have hd1 := digit1_digits ds rest hne hd hr
  cases neg
  · obtain ⟨a, as, rfl⟩ := List.exists_cons_of_ne_nil hne
    have ha := digit_facts a (hd a (by simp))
    simp only [sgn, Bool.false_eq_true, if_false, List.nil_append]
    simp only [List.cons_append] at hd1 ⊢
    unfold pInteger
    split
    · rename_i heq; injection heq with e _; exact absurd e ha.2.2.2.1
    · rename_i heq; injection heq with e _; exact absurd e ha.2.2.2.2.1
    · simp [hd1]
  · simp only [sgn, if_true, List.cons_append, List.nil_append]
    unfold pInteger
    simp [hd1]

end Lopdf.ObjRt
