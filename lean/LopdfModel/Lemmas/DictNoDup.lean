import LopdfModel.Lemmas.Dict
/-
  `DictL.NoDup`: the keys of a dictionary are pairwise distinct (what `IndexMap` guarantees), with the two
  facts about `swap_remove` the editing theorems quote in this form; the theory is `Lemmas/Dict`.
-/
namespace Lopdf.DictL
open Lopdf

/-- keys pairwise distinct (what `IndexMap` guarantees) -/
def NoDup (d : Dict) : Prop := (d.map (·.1)).Nodup

theorem remove_perm {d : Dict} (hn : NoDup d) (k : Bytes) :
    (Dict.remove d k).Perm (d.filter (fun p => !decide (p.1 = k))) := by
  simpa using Dict.remove_perm hn k

theorem get_remove {d : Dict} (hn : NoDup d) (k q : Bytes) :
    Dict.get (Dict.remove d k) q = if k = q then none else Dict.get d q :=
  Dict.get_remove hn k q

end Lopdf.DictL
