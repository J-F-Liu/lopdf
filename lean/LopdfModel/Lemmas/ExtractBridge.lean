import LopdfModel.Model.ExtractText
import LopdfModel.Lemmas.Text
/-
  Bridge between the two presentations of `extract_text`'s loop: C16's `extractLoop` over `Enc`
  (Model/Text.lean) and C13's `Q13.extractLoopF` over `FontEnc` (Model/ExtractText.lean, which adds
  parsed ToUnicode CMaps).  On fonts without a ToUnicode CMap — every `FontEnc` is `.std e` — the
  two loops are the same function, and `Q13.fontEnc` returns `.std (.oneByte t)` exactly where
  C16's `getFontEncoding` returns `.oneByte t`.
-/
namespace Lopdf
open Gen Q13

/-- C16's state seen as a state of the `FontEnc` loop -/
def XState.embed (st : XState) : XStateF := { cur := st.cur.map FontEnc.std, done := st.done, text := st.text }

def stdEncs (encs : List (Bytes × Enc)) : List (Bytes × FontEnc) := encs.map fun p => (p.1, FontEnc.std p.2)

mutual
theorem collectObjF_std (e : Enc) : ∀ (o : Obj) (text : UStr), collectObjF (.std e) text o = collectObj e text o
  | .str bs f, text => by
    simp only [collectObjF, collectObj, FontEnc.decode]
    cases decodeText e bs <;> rfl
  | .arr items, text => by
    simp only [collectObjF, collectObj, collectListF_std e items text]
    cases collectList e text items <;> rfl
  | .int i, text => by simp [collectObjF, collectObj]
  | .null, text => by simp [collectObjF, collectObj]
  | .bool _, text => by simp [collectObjF, collectObj]
  | .real _, text => by simp [collectObjF, collectObj]
  | .name _, text => by simp [collectObjF, collectObj]
  | .dict _, text => by simp [collectObjF, collectObj]
  | .stream _ _, text => by simp [collectObjF, collectObj]
  | .ref _ _, text => by simp [collectObjF, collectObj]
theorem collectListF_std (e : Enc) : ∀ (os : List Obj) (text : UStr), collectListF (.std e) text os = collectList e text os
  | [], text => by simp [collectListF, collectList]
  | o :: os, text => by
    simp only [collectListF, collectList, collectObjF_std e o text]
    cases collectObj e text o with
    | ok t => exact collectListF_std e os t
    | err x => rfl
    | panic x => rfl
end

theorem lookupFontEnc_std (n : Bytes) : ∀ (encs : List (Bytes × Enc)),
    lookupFontEnc n (stdEncs encs) = (lookupEnc n encs).map FontEnc.std
  | [] => rfl
  | (k, e) :: rest => by
    simp only [stdEncs, List.map_cons, lookupFontEnc, lookupEnc]
    by_cases h : k = n
    · simp [h]
    · simp only [h, if_false]; exact lookupFontEnc_std n rest

/-- **the two loops agree** when every font encoding is a `.std` one -/
theorem extractLoopF_std (encs : List (Bytes × Enc)) : ∀ (ops : List (Bytes × List Obj)) (st : XState),
    extractLoopF (stdEncs encs) ops st.embed = extractLoop encs ops st := by
  intro ops st
  fun_induction extractLoop encs ops st with
  | case1 st => rfl
  | case2 rest st => simp [extractLoopF]
  | case3 rest st o os hn => simp [extractLoopF, hn]
  | case4 rest st o os n hn ih => simpa [extractLoopF, hn, XState.embed, lookupFontEnc_std] using ih
  | case5 op operands rest st h1 h2 hc ih => simpa [extractLoopF, h1, h2, XState.embed, hc] using ih
  | case6 op operands rest st h1 h2 e hc s hs ih =>
    simpa [extractLoopF, h1, h2, XState.embed, hc, collectListF_std, hs] using ih
  | case7 op operands rest st h1 h2 e hc x hx => simp [extractLoopF, h1, h2, XState.embed, hc, collectListF_std, hx]
  | case8 op operands rest st h1 h2 e hc x hx => simp [extractLoopF, h1, h2, XState.embed, hc, collectListF_std, hx]
  | case9 operands rest st h1 h2 ih => rw [extractLoopF.eq_def]; simp only [if_neg h1, if_neg h2, if_pos]; exact ih
  | case10 op operands rest st h1 h2 h3 ih => simpa [extractLoopF, h1, h2, h3] using ih

/-- where C16's `get_font_encoding` model answers a one-byte table, so does C13's, whatever the document -/
theorem fontEnc_of_oneByte (ext : Ext) (os : Objects) (font : Dict) (t : Table)
    (h : getFontEncoding font = some (.oneByte t)) : fontEnc ext os font = .ok (.std (.oneByte t)) := by
  have hkeys : K_Font = FONT ∧ K_Encoding = ENCODING ∧ K_ToUnicode = TOUNICODE := ⟨rfl, rfl, rfl⟩
  obtain ⟨hty, ⟨n, hn, hl⟩ | ⟨hn, htu, rfl⟩⟩ := getFontEncoding_oneByte h
  · simp [fontEnc, Dict.hasType, hkeys, hty, hn, hl]
  · simp [fontEnc, Dict.hasType, hkeys, hty, hn, toUnicodeStream, getDeref, htu]

theorem fontEncs_std (ext : Ext) (os : Objects) : ∀ (F : List (Bytes × Dict × Table)),
    (∀ x ∈ F, getFontEncoding x.2.1 = some (.oneByte x.2.2)) →
    fontEncs ext os (F.map fun x => (x.1, x.2.1)) = .ok (stdEncs (F.map fun x => (x.1, Enc.oneByte x.2.2)))
  | [], _ => rfl
  | (k, d, t) :: rest, h => by
    have h1 := fontEnc_of_oneByte ext os d t (h (k, d, t) (by simp))
    have ih := fontEncs_std ext os rest (fun x hx => h x (by simp [hx]))
    simp only [List.map_cons, fontEncs, h1, ih, stdEncs]

end Lopdf
