import LopdfModel.Lemmas.Utf16
/-
  Lemmas for C16 about the definitions of Model/Text.lean: the UTF-8 round trip of the std model
  (the rows of Unicode Table 3-7, on the base-64 digits of a character), first-position lookup
  in a table, how `get_font_encoding` comes to a one-byte table, big-endian units, and
  `decode_text_string` by the mark the string starts with.
-/
namespace Lopdf
open Spec

theorem dec8_nil : dec8 [] = some [] := by rw [dec8.eq_def]

theorem dec8_cons (b0 : Nat) (r0 : List Nat) : dec8 (b0 :: r0) =
    if b0 < 0x80 then (dec8 r0).map (b0 :: ·)
    else if b0 < 0xC2 then none
    else if b0 < 0xE0 then
      match r0 with
      | b1 :: r1 =>
        if isCont b1 then (dec8 r1).map (((b0 - 0xC0) * 64 + (b1 - 0x80)) :: ·) else none
      | _ => none
    else if b0 < 0xF0 then
      match r0 with
      | b1 :: b2 :: r2 =>
        if (if b0 = 0xE0 then 0xA0 else 0x80) ≤ b1 && b1 ≤ (if b0 = 0xED then 0x9F else 0xBF) && isCont b2 then
          (dec8 r2).map (((b0 - 0xE0) * 4096 + (b1 - 0x80) * 64 + (b2 - 0x80)) :: ·)
        else none
      | _ => none
    else if b0 < 0xF5 then
      match r0 with
      | b1 :: b2 :: b3 :: r3 =>
        if (if b0 = 0xF0 then 0x90 else 0x80) ≤ b1 && b1 ≤ (if b0 = 0xF4 then 0x8F else 0xBF)
            && isCont b2 && isCont b3 then
          (dec8 r3).map (((b0 - 0xF0) * 262144 + (b1 - 0x80) * 4096 + (b2 - 0x80) * 64 + (b3 - 0x80)) :: ·)
        else none
      | _ => none
    else none := by
  rw [dec8.eq_def]; rfl

theorem isCont_add (d : Nat) (hd : d < 64) : isCont (0x80 + d) = true := by
  simp [isCont]; omega

theorem shift_lt {x y z k : Nat} (h : x = y * 64 + z) (hx : x < k * 64) : y < k := by omega
theorem shift_le {x y z k : Nat} (h : x = y * 64 + z) (hz : z < 64) (hx : k * 64 ≤ x) : k ≤ y := by omega

/-! The rows of Unicode Table 3-7 (well-formed byte sequences). Each byte is its marker plus the
base-64 digit it carries; `q`, `p` are the character without its last one / two digits, and the row's
range of characters is stated on them. -/

theorem dec8_one (c : Nat) (hc : c < 0x80) (r : List Nat) : dec8 (c :: r) = (dec8 r).map (c :: ·) := by
  rw [dec8_cons, if_pos hc]

/-- U+0080 – U+07FF -/
theorem dec8_two (q d : Nat) (hq : 2 ≤ q) (hq' : q < 32) (hd : d < 64) (r : List Nat) :
    dec8 ((0xC0 + q) :: (0x80 + d) :: r) = (dec8 r).map ((q * 64 + d) :: ·) := by
  have c2 : ¬ 0xC0 + q < 0xC2 := Nat.not_lt.mpr (Nat.add_le_add_left hq 0xC0)
  have c3 : 0xC0 + q < 0xE0 := Nat.add_lt_add_left hq' 0xC0
  rw [dec8_cons]
  simp only [not_add_lt q (by decide : 0x80 ≤ 0xC0), c2, c3, isCont_add d hd, if_true, if_false,
    Nat.add_sub_cancel_left]

/-- U+0800 – U+FFFF without the surrogates: lead `E0` wants a second byte from `A0` (no overlong
form), lead `ED` one up to `9F` (no surrogate) -/
theorem dec8_three (q p b d : Nat) (hp : q = p * 64 + b) (hb : b < 64) (hd : d < 64) (hq : 32 ≤ q)
    (hq' : q < 1024) (hsur : q < 0x360 ∨ 0x380 ≤ q) (r : List Nat) :
    dec8 ((0xE0 + p) :: (0x80 + b) :: (0x80 + d) :: r) = (dec8 r).map ((q * 64 + d) :: ·) := by
  have c4 : 0xE0 + p < 0xF0 := Nat.add_lt_add_left (shift_lt (k := 16) hp hq') 0xE0
  have lo : (if 0xE0 + p = 0xE0 then 0xA0 else 0x80) ≤ 0x80 + b := by split <;> omega
  have hi : 0x80 + b ≤ (if 0xE0 + p = 0xED then 0x9F else 0xBF) := by split <;> omega
  rw [dec8_cons]
  simp only [not_add_lt p (by decide : 0x80 ≤ 0xE0), not_add_lt p (by decide : 0xC2 ≤ 0xE0),
    not_add_lt p (Nat.le_refl 0xE0), c4, lo, hi, isCont_add d hd, if_true, if_false, Nat.add_sub_cancel_left,
    decide_true, Bool.and_self, hp, Nat.add_mul, Nat.mul_assoc, Nat.reduceMul]

/-- U+10000 – U+10FFFF: lead `F0` wants a second byte from `90` (no overlong form), lead `F4` one
up to `8F` (nothing above U+10FFFF) -/
theorem dec8_four (p e a b d : Nat) (he : p = e * 64 + a) (ha : a < 64) (hb : b < 64) (hd : d < 64)
    (hp : 16 ≤ p) (hp' : p < 0x110) (r : List Nat) :
    dec8 ((0xF0 + e) :: (0x80 + a) :: (0x80 + b) :: (0x80 + d) :: r)
      = (dec8 r).map (((p * 64 + b) * 64 + d) :: ·) := by
  have c5 : 0xF0 + e < 0xF5 := Nat.add_lt_add_left (shift_lt (k := 5) he (Nat.lt_trans hp' (by decide))) 0xF0
  have lo : (if 0xF0 + e = 0xF0 then 0x90 else 0x80) ≤ 0x80 + a := by split <;> omega
  have hi : 0x80 + a ≤ (if 0xF0 + e = 0xF4 then 0x8F else 0xBF) := by split <;> omega
  rw [dec8_cons]
  simp only [not_add_lt e (by decide : 0x80 ≤ 0xF0), not_add_lt e (by decide : 0xC2 ≤ 0xF0),
    not_add_lt e (by decide : 0xE0 ≤ 0xF0), not_add_lt e (Nat.le_refl 0xF0), c5, lo, hi, isCont_add b hb,
    isCont_add d hd, if_true, if_false, Nat.add_sub_cancel_left, decide_true, Bool.and_self, he, Nat.add_mul,
    Nat.mul_assoc, Nat.reduceMul]

/-- `char::encode_utf8` on the base-64 digits of the character, as variables (`q = c / 64`,
`p = c / 64²`, `e = c / 64³`) -/
theorem enc8_digits (c : Nat) : ∃ q p e a b d, a < 64 ∧ b < 64 ∧ d < 64 ∧
    c = q * 64 + d ∧ q = p * 64 + b ∧ p = e * 64 + a ∧
    enc8 c =
      if c < 0x80 then [c]
      else if c < 0x800 then [0xC0 + q, 0x80 + d]
      else if c < 0x10000 then [0xE0 + p, 0x80 + b, 0x80 + d]
      else [0xF0 + e, 0x80 + a, 0x80 + b, 0x80 + d] := by
  have h (x : Nat) : x = x / 64 * 64 + x % 64 := (Nat.div_add_mod' x 64).symm
  have e1 : c / 64 / 64 = c / 4096 := Nat.div_div_eq_div_mul c 64 64
  have e2 : c / 4096 / 64 = c / 262144 := Nat.div_div_eq_div_mul c 4096 64
  exact ⟨c / 64, c / 4096, c / 262144, c / 4096 % 64, c / 64 % 64, c % 64, Nat.mod_lt _ (by decide),
    Nat.mod_lt _ (by decide), Nat.mod_lt _ (by decide), h c, e1 ▸ h (c / 64), e2 ▸ h (c / 4096), rfl⟩

theorem dec8_enc8 (c : Nat) (hc : Scalar c) (r : List Nat) :
    dec8 (enc8 c ++ r) = (dec8 r).map (c :: ·) := by
  obtain ⟨q, p, e, a, b, d, ha, hb, hd, hq, hp, he, henc⟩ := enc8_digits c
  rw [henc]
  split
  · exact dec8_one _ ‹_› r
  rename_i h1
  split
  · rename_i h2
    rw [hq]
    exact dec8_two q d (shift_le (k := 2) hq hd (Nat.le_of_not_lt h1)) (shift_lt (k := 32) hq h2) hd r
  rename_i h2
  split
  · rename_i h3
    rw [hq]
    exact dec8_three q p b d hp hb hd (shift_le (k := 32) hq hd (Nat.le_of_not_lt h2)) (shift_lt (k := 1024) hq h3)
      (hc.imp (shift_lt (k := 0x360) hq) fun h => shift_le (k := 0x380) hq hd h.1) r
  · rename_i h3
    rw [hq, hp]
    exact dec8_four p e a b d he ha hb hd
      (shift_le (k := 16) hp hb (shift_le (k := 1024) hq hd (Nat.le_of_not_lt h3)))
      (shift_lt (k := 0x110) hp (shift_lt (k := 0x4400) hq (scalar_lt hc))) r

theorem dec8_ascii : ∀ (l : List Nat), (∀ x ∈ l, x < 128) → dec8 l = some l
  | [], _ => dec8_nil
  | x :: xs, h => by
    rw [dec8_one x (h x List.mem_cons_self), dec8_ascii xs fun y hy => h y (List.mem_cons_of_mem _ hy)]
    rfl

/-- **UTF-8 round trip of the std model**, for every list of Unicode scalar values -/
theorem utf8_encode_decode : ∀ (s : UStr), (∀ c ∈ s, Scalar c) → dec8 (enc8s s) = some s
  | [], _ => dec8_nil
  | c :: cs, h => by
    have ih := utf8_encode_decode cs (fun x hx => h x (by simp [hx]))
    simp only [enc8s]
    rw [dec8_enc8 c (h c (by simp)), ih]; rfl

theorem enc8_lt (c : Nat) (hc : Scalar c) : ∀ x ∈ enc8 c, x < 256 := by
  obtain ⟨q, p, e, a, b, d, ha, hb, hd, hq, hp, he, henc⟩ := enc8_digits c
  have lt {m k n : Nat} (hk : k < n) (hmn : m + n ≤ 256) : m + k < 256 :=
    Nat.lt_of_lt_of_le (Nat.add_lt_add_left hk m) hmn
  have e5 : e < 5 :=
    shift_lt he (Nat.lt_trans (shift_lt (k := 0x110) hp (shift_lt (k := 0x4400) hq (scalar_lt hc))) (by decide))
  rw [henc]
  split
  · exact List.forall_mem_singleton.mpr (Nat.lt_trans ‹c < 0x80› (by decide))
  split
  · simp only [List.forall_mem_cons, List.not_mem_nil, false_imp_iff, implies_true, and_true]
    exact ⟨lt (shift_lt (k := 32) hq ‹_›) (by decide), lt hd (by decide)⟩
  split
  · simp only [List.forall_mem_cons, List.not_mem_nil, false_imp_iff, implies_true, and_true]
    exact ⟨lt (shift_lt (k := 16) hp (shift_lt (k := 1024) hq ‹_›)) (by decide), lt hb (by decide),
      lt hd (by decide)⟩
  · simp only [List.forall_mem_cons, List.not_mem_nil, false_imp_iff, implies_true, and_true]
    exact ⟨lt e5 (by decide), lt ha (by decide), lt hb (by decide), lt hd (by decide)⟩

theorem enc8s_lt : ∀ (s : UStr), (∀ c ∈ s, Scalar c) → ∀ x ∈ enc8s s, x < 256
  | [], _ => by simp [enc8s]
  | c :: cs, h => by
    intro x hx
    simp only [enc8s, List.mem_append] at hx
    rcases hx with hx | hx
    · exact enc8_lt c (h c (by simp)) x hx
    · exact enc8s_lt cs (fun y hy => h y (by simp [hy])) x hx

theorem toUInt8_toNat_of_lt {c : Nat} (h : c < 256) : c.toUInt8.toNat = c := UInt8.toNat_ofNat_of_lt' h

/-- `String::from_utf8(s.as_bytes())`, on bytes -/
theorem stdFromUtf8_stdUtf8 (s : UStr) (hs : ∀ c ∈ s, Scalar c) : stdFromUtf8 (stdUtf8 s) = some s := by
  have : ((enc8s s).map Nat.toUInt8).map UInt8.toNat = enc8s s := by
    rw [List.map_map]
    exact (List.map_congr_left fun x hx => toUInt8_toNat_of_lt (enc8s_lt s hs x hx)).trans (List.map_id _)
  rw [stdFromUtf8, stdUtf8, this, utf8_encode_decode s hs]

theorem position_of_mem : ∀ (t : Table) (u : Nat), some u ∈ t →
    ∃ i, position t u = some i ∧ t[i]? = some (some u)
  | c :: rest, u, h => by
    by_cases hc : c = some u
    · exact ⟨0, by simp [position, hc], by simp [hc]⟩
    · obtain ⟨j, hj, hg⟩ := position_of_mem rest u ((List.mem_cons.mp h).resolve_left (Ne.symm hc))
      exact ⟨j + 1, by simp [position, hc, hj], by simpa using hg⟩

theorem cell_of_get (t : Table) (i : Nat) (u : Nat) (hl : t.length ≤ 256) (h : t[i]? = some (some u)) :
    t.cell i.toUInt8 = some u := by
  have hi : i < t.length := (List.getElem?_eq_some_iff.mp h).1
  simp [Table.cell, toUInt8_toNat_of_lt (Nat.lt_of_lt_of_le hi hl), h]

theorem cell_mem (t : Table) (b : UInt8) (u : Nat) (h : t.cell b = some u) : some u ∈ t := by
  unfold Table.cell at h
  cases hg : t[b.toNat]? with
  | none => simp [hg] at h
  | some c =>
    simp [hg] at h
    subst h
    exact List.mem_of_getElem? hg

theorem mem_bytesToUnits (t : Table) (bs : Bytes) : ∀ u ∈ bytesToUnits t bs, some u ∈ t := by
  intro u hu
  simp only [bytesToUnits, List.mem_filterMap] at hu
  obtain ⟨b, _, hb⟩ := hu
  exact cell_mem t b u hb

theorem units_roundtrip (t : Table) (hl : t.length ≤ 256) :
    ∀ (us : List Nat), (∀ u ∈ us, some u ∈ t) → bytesToUnits t (unitsToBytes t us) = us
  | [], _ => rfl
  | u :: rest, h => by
    have ih := units_roundtrip t hl rest (fun x hx => h x (by simp [hx]))
    obtain ⟨i, hi, hg⟩ := position_of_mem t u (h u (by simp))
    have hc := cell_of_get t i u hl hg
    simp only [unitsToBytes, bytesToUnits] at ih ⊢
    simp [hi, hc, ih]

theorem lookupName_mem : ∀ (L : List (Bytes × Table)) (n : Bytes) (t : Table),
    lookupName n L = some t → (n, t) ∈ L := by
  intro L n t h
  fun_induction lookupName n L with
  | case1 => cases h
  | case2 t' rest => cases h; exact List.mem_cons_self
  | case3 k t' rest hk ih => exact List.mem_cons_of_mem _ (ih h)

theorem lookupName_of_mem : ∀ (L : List (Bytes × Table)), (L.map (·.1)).Nodup →
    ∀ (n : Bytes) (t : Table), (n, t) ∈ L → lookupName n L = some t
  | [], _, _, _, h => by cases h
  | (k, t') :: rest, hn, n, t, h => by
    obtain ⟨hk, hn⟩ := List.nodup_cons.mp hn
    rcases List.mem_cons.mp h with e | h
    · cases e; simp [lookupName]
    · have : k ≠ n := fun e => hk (e ▸ List.mem_map_of_mem (f := (·.1)) h)
      simpa [lookupName, this] using lookupName_of_mem rest hn n t h

/-- how `get_font_encoding` comes to answer a one-byte table: the `/Encoding` name is one of the
predefined ones, or there is no name and no `/ToUnicode` and the fallback table is used -/
theorem getFontEncoding_oneByte {font : Dict} {t : Table} (h : getFontEncoding font = some (.oneByte t)) :
    (font.get TYPE).bind Obj.asName = some FONT ∧
    ((∃ n, (font.get ENCODING).bind Obj.asName = some n ∧ lookupName n Gen.FONT_ENCODINGS = some t) ∨
     ((font.get ENCODING).bind Obj.asName = none ∧ font.get TOUNICODE = none ∧
      t = Gen.FONT_FALLBACK_ENCODING)) := by
  revert h
  fun_cases getFontEncoding font
  case case2 hty n hn t' hl => intro h; cases h; exact ⟨by simpa using hty, Or.inl ⟨n, hn, hl⟩⟩
  case case7 hty hn htu =>
    intro h; cases h; exact ⟨by simpa using hty, Or.inr ⟨hn, by simpa [Dict.has] using htu, rfl⟩⟩
  all_goals intro h; cases h

theorem chunkUnits_unitsBe_append (tail : Bytes) : ∀ (us : List Nat), (∀ u ∈ us, u < 0x10000) →
    chunkUnits (unitsBe us ++ tail) = us ++ chunkUnits tail
  | [], _ => rfl
  | u :: rest, h => by
    have hu : u / 256 < 256 := Nat.div_lt_of_lt_mul (h u (by simp))
    have ih := chunkUnits_unitsBe_append tail rest (fun x hx => h x (by simp [hx]))
    simp only [unitsBe, beBytes, List.cons_append, List.nil_append, chunkUnits, ih,
      toUInt8_toNat_of_lt hu, toUInt8_toNat_of_lt (Nat.mod_lt u (by decide : 0 < 256)), Nat.div_add_mod']

theorem chunkUnits_unitsBe (us : List Nat) (h : ∀ u ∈ us, u < 0x10000) : chunkUnits (unitsBe us) = us := by
  simpa [chunkUnits] using chunkUnits_unitsBe_append [] us h

theorem decodeTextString_utf16 (bs : Bytes) (f : StrFmt) :
    decodeTextString (.str (Gen.TEXT_BOM_UTF16 ++ bs) f) =
      (stdFromUtf16 (chunkUnits bs)).elim (.err "TextStringDecode") .ok := by
  simp only [decodeTextString, Gen.TEXT_BOM_UTF16, List.isPrefixOf, Gen.TEXT_UTF16_SKIP, List.cons_append,
    List.nil_append, beq_self_eq_true, Bool.true_and, if_true, List.drop_succ_cons, List.drop_zero]
  cases stdFromUtf16 (chunkUnits bs) <;> rfl

theorem decodeTextString_utf8 (bs : Bytes) (f : StrFmt) :
    decodeTextString (.str (Gen.TEXT_BOM_UTF8 ++ bs) f) =
      (stdFromUtf8 bs).elim (.err "TextStringDecode") .ok := by
  simp only [decodeTextString, Gen.TEXT_BOM_UTF8, Gen.TEXT_BOM_UTF16, List.isPrefixOf, Gen.TEXT_UTF8_SKIP,
    List.cons_append, List.nil_append, beq_self_eq_true, Bool.true_and, if_true, List.drop_succ_cons,
    List.drop_zero, show ((254 : UInt8) == 239) = false by decide, Bool.false_and, Bool.false_eq_true, if_false]
  cases stdFromUtf8 bs <;> rfl

/-- no mark: the first byte, if any, is below 0x80 -/
theorem decodeTextString_pdfdoc (bs : Bytes) (f : StrFmt) (h : ∀ b ∈ bs.head?, b.toNat < 0x80) :
    decodeTextString (.str bs f) = bytesToString Gen.PDF_DOC_ENCODING bs := by
  have ne (k : UInt8) (hk : 0x80 ≤ k.toNat) (l : Bytes) : (k :: l).isPrefixOf bs = false := by
    cases bs with
    | nil => rfl
    | cons b r =>
      have : (k == b) = false :=
        beq_false_of_ne fun e => Nat.lt_irrefl _ (Nat.lt_of_lt_of_le (e ▸ h b rfl) hk)
      simp only [List.isPrefixOf, this, Bool.false_and]
  simp only [decodeTextString, Gen.TEXT_BOM_UTF16, Gen.TEXT_BOM_UTF8, ne 254 (by decide), ne 239 (by decide),
    Bool.false_eq_true, if_false, Gen.TEXT_DEFAULT_ENCODING]

end Lopdf
