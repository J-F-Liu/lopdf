import LopdfModel.Model.CMap
/-
  C15 — lemmas about the model of `rangemap::RangeInclusiveMap`:
  representation invariant, lookup after insert, characterisation of the stored run.
-/
namespace Lopdf.CMap

variable {V : Type} [DecidableEq V]
set_option linter.unusedSectionVars false
set_option linter.unusedSimpArgs false

/-- first run containing the key (specification-side lookup) -/
def rmFind : RangeMap V → Nat → Option (Run V)
  | [], _ => none
  | (a, b, w) :: rest, c => if a ≤ c ∧ c ≤ b then some (a, b, w) else rmFind rest c

def rmVal (m : RangeMap V) (c : Nat) : Option V := (rmFind m c).map (·.2.2)

/-- Representation invariant, relative to a lower bound `k` and the value `p` of a run that
ends at `k - 1` (if any): runs are non-empty, strictly increasing, disjoint, and two
*adjacent* runs never carry the same value (runs are maximal). -/
def Inv : Nat → Option V → RangeMap V → Prop
  | _, _, [] => True
  | k, p, (a, b, w) :: rest => k ≤ a ∧ a ≤ b ∧ (a = k → p ≠ some w) ∧ Inv (b + 1) (some w) rest

theorem rmVal_nil (c : Nat) : rmVal ([] : RangeMap V) c = none := rfl

theorem rmVal_cons (a b : Nat) (w : V) (rest : RangeMap V) (c : Nat) :
    rmVal ((a, b, w) :: rest) c = if a ≤ c ∧ c ≤ b then some w else rmVal rest c := by
  by_cases h : a ≤ c ∧ c ≤ b <;> simp [rmVal, rmFind, h]

theorem rmFind_below {k : Nat} {p : Option V} {m : RangeMap V} (h : Inv k p m) {c : Nat} (hc : c < k) :
    rmFind m c = none := by
  induction m generalizing k p with
  | nil => rfl
  | cons r rest ih =>
    obtain ⟨a, b, w⟩ := r
    obtain ⟨h1, h2, _, h4⟩ := h
    rw [rmFind, if_neg (by omega)]
    exact ih h4 (by omega)

theorem rmVal_below {k : Nat} {p : Option V} {m : RangeMap V} (h : Inv k p m) {c : Nat} (hc : c < k) :
    rmVal m c = none := by
  rw [rmVal, rmFind_below h hc]; rfl

theorem rmLastLE_below {k : Nat} {p : Option V} {m : RangeMap V} (h : Inv k p m) {c : Nat} (hc : c < k) :
    rmLastLE m c = none := by
  induction m generalizing k p with
  | nil => rfl
  | cons r rest ih =>
    obtain ⟨a, b, w⟩ := r
    obtain ⟨h1, h2, _, h4⟩ := h
    rw [rmLastLE, if_neg (by omega)]
    exact ih h4 (by omega)

/-- On a map satisfying the invariant, `get_key_value` (last run starting at or before the
key, if it contains the key) finds exactly the run containing the key. -/
theorem rmGetKV_eq_find {k : Nat} {p : Option V} {m : RangeMap V} (h : Inv k p m) (c : Nat) :
    rmGetKV m c = rmFind m c := by
  induction m generalizing k p with
  | nil => rfl
  | cons r rest ih =>
    obtain ⟨a, b, w⟩ := r
    obtain ⟨h1, h2, h3, h4⟩ := h
    rw [rmFind, rmGetKV, rmLastLE]
    by_cases hcb : c ≤ b
    · -- every later run starts beyond `c`
      rw [rmLastLE_below h4 (Nat.lt_succ_of_le hcb), rmFind_below h4 (Nat.lt_succ_of_le hcb)]
      by_cases hac : a ≤ c
      · simp only [hac, hcb, and_self, if_true]
      · simp only [hac, false_and, if_false]
    · -- the run ends before `c`: the answer is that of the later runs
      have hac : a ≤ c := by omega
      rw [if_neg (fun h : a ≤ c ∧ c ≤ b => hcb h.2), if_pos hac, ← ih h4, rmGetKV]
      cases rmLastLE rest c with
      | none => simp only [hcb, if_false]
      | some r' => rfl

/-- The invariant is preserved by `insert`. `m` is valid after the bound `j` and value `q`, the result
after `k` and `p`: the two coincide as long as a run of `m` can still come first (`j ≤ lo`); once the
recursion has passed `lo` (a run was absorbed or truncated) only the new run can. -/
theorem inv_insert_gen (m : RangeMap V) (lo hi : Nat) (v : V) (hlh : lo ≤ hi) :
    ∀ (j : Nat) (q : Option V) (k : Nat) (p : Option V),
      Inv j q m → k ≤ lo → (lo = k → p ≠ some v) → (j ≤ lo → j = k ∧ q = p) →
      Inv k p (rmInsert m lo hi v) := by
  fun_induction rmInsert m lo hi v
  case case1 => intro j q k p _ hk hp _; exact ⟨hk, hlh, hp, trivial⟩
  all_goals intro j q k p ⟨h1, h2, h3, h4⟩ hk hp hjk
  case case2 a b w rest lo hi v c1 ih =>
    -- a run strictly before the new range stays first
    obtain ⟨rfl, rfl⟩ := hjk (by omega)
    exact ⟨h1, h2, h3, ih hlh _ _ _ _ h4 (by omega) (by omega) fun _ => ⟨rfl, rfl⟩⟩
  case case3 a b w rest lo hi v c1 c2 =>
    exact ⟨hk, hlh, hp, Nat.le_of_lt c2, h2, fun e => absurd e (Nat.ne_of_gt c2), h4⟩
  case case4 a b rest lo hi v c1 c2 ih =>
    -- equal value: the run is absorbed; if it began left of `lo` it was the first run of `m`
    have hhi : hi ≤ max b hi := Nat.le_max_right ..
    rcases Nat.lt_or_ge a lo with hal | hal
    · obtain ⟨rfl, rfl⟩ := hjk (by omega)
      rw [Nat.min_eq_left (Nat.le_of_lt hal)] at ih ⊢
      exact ih (by omega) _ _ _ _ h4 h1 h3 fun _ => by omega
    · rw [Nat.min_eq_right hal] at ih ⊢
      exact ih (by omega) _ _ _ _ h4 hk hp fun _ => by omega
  case case5 a b w rest lo hi v c1 c2 c3 c4 c5 =>
    -- another value, reaching out on both sides: three runs with alternating values
    obtain ⟨rfl, rfl⟩ := hjk (by omega)
    refine ⟨h1, Nat.le_sub_one_of_lt c4, h3, ?_⟩
    rw [Nat.sub_add_cancel (Nat.zero_lt_of_lt c4)]
    exact ⟨Nat.le_refl _, hlh, fun _ hh => c3 (Option.some.inj hh), Nat.le_refl _, by omega,
      fun _ hh => c3 (Option.some.inj hh).symm, h4⟩
  case case6 a b w rest lo hi v c1 c2 c3 c4 c5 ih =>
    obtain ⟨rfl, rfl⟩ := hjk (by omega)
    refine ⟨h1, Nat.le_sub_one_of_lt c4, h3, ?_⟩
    rw [Nat.sub_add_cancel (Nat.zero_lt_of_lt c4)]
    exact ih hlh _ _ _ _ h4 (Nat.le_refl _) (fun _ hh => c3 (Option.some.inj hh))
      fun _ => ⟨by omega, rfl⟩
  case case7 a b w rest lo hi v c1 c2 c3 c4 c5 =>
    exact ⟨hk, hlh, hp, Nat.le_refl _, by omega, fun _ hh => c3 (Option.some.inj hh).symm, h4⟩
  case case8 a b w rest lo hi v c1 c2 c3 c4 c5 ih =>
    exact ih hlh _ _ _ _ h4 hk hp fun _ => by omega

theorem rm_inv_insert {m : RangeMap V} (h : Inv 0 none m) {lo hi : Nat} (hlh : lo ≤ hi) (v : V) :
    Inv 0 none (rmInsert m lo hi v) :=
  inv_insert_gen m lo hi v hlh 0 none 0 none h (Nat.zero_le _) (fun _ => nofun) fun _ => ⟨rfl, rfl⟩

/-- **Lookup after insert**, for every list of runs (valid or not) and every range: the new value inside
the inserted range, the old value outside. In each branch of `insert` both sides are chains of interval
tests on `c`; which fact about the run `[a, b]` and the range `[lo, hi]` makes them agree is said at the
branch, the case distinction on the position of `c` is left to `grind`. -/
theorem rmVal_insert (m : RangeMap V) (lo hi : Nat) (v : V) (c : Nat) :
    rmVal (rmInsert m lo hi v) c = if lo ≤ c ∧ c ≤ hi then some v else rmVal m c := by
  fun_induction rmInsert m lo hi v
  case case1 => rw [rmVal_cons]
  -- `b + 1 < lo`: no key lies in both, the two tests may be made in either order
  case case2 ih => simp only [rmVal_cons, ih]; grind
  case case3 => rw [rmVal_cons]
  -- touching, equal value: `[min a lo, max b hi]` is the union of the two
  case case4 ih => simp only [rmVal_cons, ih]; grind
  -- touching, other value: outside `[lo, hi]` the run `[a, b]` is `[a, lo - 1]` (if `a < lo`) together
  -- with `[hi + 1, b]` (if `hi < b`); with neither piece it lies inside `[lo, hi]`
  case case5 => simp only [rmVal_cons]; grind
  case case6 ih => simp only [rmVal_cons, ih]; grind
  case case7 => simp only [rmVal_cons]; grind
  case case8 ih => simp only [rmVal_cons, ih]; grind

/-- **rm_get_insert**: `get` after `insert` on a valid map, through the real lookup
(`get_key_value`): new value inside the range, old value outside. -/
theorem rm_get_insert {m : RangeMap V} (h : Inv 0 none m) {lo hi : Nat} (hlh : lo ≤ hi) (v : V) (c : Nat) :
    (rmGetKV (rmInsert m lo hi v) c).map (·.2.2) =
      if lo ≤ c ∧ c ≤ hi then some v else (rmGetKV m c).map (·.2.2) := by
  rw [rmGetKV_eq_find (rm_inv_insert h hlh v), rmGetKV_eq_find h]
  exact rmVal_insert m lo hi v c

theorem rmVal_cons_gt {a b : Nat} {w : V} {rest : RangeMap V} {x : Nat} (h : b < x) :
    rmVal ((a, b, w) :: rest) x = rmVal rest x := by
  rw [rmVal_cons, if_neg (by omega)]

/-- Shape of the run found for a key in a valid map: it contains the key, every key of
the run has the run's value, and the key just below the run does NOT have that value
(or lies below the bound `k`, where the predecessor value `p` differs). -/
theorem rmFind_run {k : Nat} {p : Option V} {m : RangeMap V} (h : Inv k p m) {c s e : Nat} {v : V}
    (hf : rmFind m c = some (s, e, v)) :
    s ≤ c ∧ c ≤ e ∧ k ≤ s ∧ (∀ x, s ≤ x → x ≤ e → rmVal m x = some v) ∧
    (s = k → p ≠ some v) ∧ (k < s → rmVal m (s - 1) ≠ some v) := by
  induction m generalizing k p with
  | nil => cases hf
  | cons r rest ih =>
    obtain ⟨a, b, w⟩ := r
    obtain ⟨h1, h2, h3, h4⟩ := h
    rw [rmFind] at hf
    split at hf
    · next hc =>
      cases hf
      refine ⟨hc.1, hc.2, h1, fun x hx1 hx2 => ?_, h3, fun _ => ?_⟩
      · rw [rmVal_cons, if_pos ⟨hx1, hx2⟩]
      · rw [rmVal_cons, if_neg (by omega), rmVal_below h4 (by omega)]; exact nofun
    · -- the run lies in `rest`, beyond `b`; only the key `b` itself can be its left neighbour
      obtain ⟨i1, i2, i3, i4, i5, i6⟩ := ih h4 hf
      have hs : b < s := i3
      refine ⟨i1, i2, by omega, fun x hx1 hx2 => ?_, fun _ => by omega, fun _ => ?_⟩
      · rw [rmVal_cons_gt (Nat.lt_of_lt_of_le hs hx1)]; exact i4 x hx1 hx2
      · by_cases hs : s = b + 1
        · rw [hs, rmVal_cons, if_pos (by omega)]; exact i5 hs
        · rw [rmVal_cons_gt (by omega)]; exact i6 (by omega)

/-- walk down from `c` while the key below still has value `v` -/
def reachDown (f : Nat → Option V) (v : V) : Nat → Nat
  | 0 => 0
  | c + 1 => if f c = some v then reachDown f v c else c + 1

theorem reachDown_eq (f : Nat → Option V) (v : V) {s c : Nat} (hsc : s ≤ c)
    (hall : ∀ x, s ≤ x → x ≤ c → f x = some v) (hbelow : 0 < s → f (s - 1) ≠ some v) :
    reachDown f v c = s := by
  induction c with
  | zero => rw [Nat.le_zero.mp hsc]; rfl
  | succ c ih =>
    rw [reachDown]
    rcases Nat.lt_or_ge c s with h | h
    · obtain rfl : s = c + 1 := Nat.le_antisymm hsc h
      exact if_neg (hbelow (Nat.succ_pos _))
    · rw [if_pos (hall c h (Nat.le_succ _))]
      exact ih h fun x h1 h2 => hall x h1 (Nat.le_succ_of_le h2)

/-- **rm_run_start**: in a valid map the run returned for a key starts at the least key
reachable from it downwards through keys carrying the same value — i.e. the start of the
maximal equal-valued neighbourhood, *not* the start of the range that was inserted. -/
theorem rm_run_start {m : RangeMap V} (h : Inv 0 none m) {c s e : Nat} {v : V}
    (hf : rmGetKV m c = some (s, e, v)) :
    s = reachDown (rmVal m) v c ∧ rmVal m c = some v := by
  rw [rmGetKV_eq_find h] at hf
  have ⟨i1, i2, _, i4, _, i6⟩ := rmFind_run h hf
  exact ⟨(reachDown_eq _ v i1 (fun x h1 h2 => i4 x h1 (Nat.le_trans h2 i2)) i6).symm, i4 c i1 i2⟩

end Lopdf.CMap
