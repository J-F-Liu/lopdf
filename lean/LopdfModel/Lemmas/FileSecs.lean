import LopdfModel.Lemmas.File
import LopdfModel.Lemmas.Lex
import LopdfModel.Model.Read
/-
  The subsection structure of the two cross-reference writers (`Writer::write_xref`,
  `Writer::create_xref_steam`): both loops cut the object numbers `a, a+1, …` into maximal runs
  of numbers that have an entry.  `loopSecs` is that cutting, generic in the entry
  representation; `loopSecs_spec` says which (number, entry) assignments the runs carry.
-/
namespace Lopdf.FileRT
open Lopdf Gen

/-- the sections (start, entries) both writer loops produce; `f` = how an entry is stored -/
def loopSecs {α : Type} (x : XrefMap) (f : Nat × Nat → α) : List Nat → Nat → List α → List (Nat × List α)
  | [], start, entries => if entries.isEmpty then [] else [(start, entries)]
  | id :: rest, start, entries =>
    let start' := if entries.isEmpty then id else start
    match x.get id with
    | some e => loopSecs x f rest start' (entries ++ [f e])
    | none =>
      if entries.isEmpty then loopSecs x f rest start' entries
      else (start', entries) :: loopSecs x f rest id []

def secsBytes (secs : List (Nat × List (Option (Nat × Nat)))) : Bytes :=
  (secs.map fun s => xrefSectionBytes s.1 s.2).flatten

theorem xrefTableLoop_eq (x : XrefMap) : ∀ (ids : List Nat) (start : Nat) (entries : List (Option (Nat × Nat)))
    (out : Bytes), xrefTableLoop x ids start entries out = out ++ secsBytes (loopSecs x some ids start entries) := by
  intro ids
  induction ids with
  | nil =>
    intro start entries out
    simp only [xrefTableLoop, loopSecs]
    split <;> simp [secsBytes]
  | cons id rest ih =>
    intro start entries out
    simp only [xrefTableLoop, loopSecs]
    cases hx : x.get id with
    | some e => simp only [ih]
    | none =>
      simp only
      split
      · simp only [ih]
      · simp only [ih, secsBytes, List.map_cons, List.flatten_cons, List.append_assoc]

theorem xrefStreamLoop_eq (x : XrefMap) : ∀ (ids : List Nat) (start : Nat) (entries : List (Nat × Nat))
    (acc : List (Nat × List (Nat × Nat))),
    xrefStreamLoop x ids start entries acc = acc ++ loopSecs x id ids start entries := by
  intro ids
  induction ids with
  | nil =>
    intro start entries acc
    simp only [xrefStreamLoop, loopSecs]
    split <;> simp
  | cons i rest ih =>
    intro start entries acc
    simp only [xrefStreamLoop, loopSecs]
    cases hx : x.get i with
    | some e => simp only [ih, id]
    | none =>
      simp only
      split
      · simp only [ih]
      · simp only [ih, List.append_assoc, List.singleton_append]

theorem range_drop_one (size : Nat) : (List.range size).drop 1 = List.range' 1 (size - 1) := by
  rw [List.range_eq_range', List.drop_range']

/-- the sections `write_xref` emits for a map `x` and `Size = size` -/
def tableSecs (x : XrefMap) (size : Nat) : List (Nat × List (Option (Nat × Nat))) :=
  loopSecs x some (List.range' 1 (size - 1)) 0 [none]

theorem writeXrefTable_eq (x : XrefMap) (size : Nat) :
    writeXrefTable x size = XREF_KW ++ secsBytes (tableSecs x size) := by
  simp only [writeXrefTable, range_drop_one, xrefTableLoop_eq, List.nil_append, tableSecs]

/-- the sections `create_xref_steam` emits for a map `x` whose highest number is `last` -/
def streamSecs (x : XrefMap) (last : Nat) : List (Nat × List (Nat × Nat)) :=
  loopSecs x id (List.range' 1 last) 0 []

theorem xrefStreamLoop_secs (x : XrefMap) (n : Nat) :
    xrefStreamLoop x ((List.range (n + 1)).drop 1) 0 [] [] = streamSecs x n := by
  rw [range_drop_one, xrefStreamLoop_eq]
  simp [streamSecs]

/-- the (object number, entry) pairs of one section starting at `s` -/
def assignsFrom {α : Type} : Nat → List α → List (Nat × α)
  | _, [] => []
  | s, e :: es => (s, e) :: assignsFrom (s + 1) es

def assigns {α : Type} (secs : List (Nat × List α)) : List (Nat × α) :=
  (secs.map fun s => assignsFrom s.1 s.2).flatten

theorem assigns_cons {α : Type} (s : Nat) (es : List α) (more : List (Nat × List α)) :
    assigns ((s, es) :: more) = assignsFrom s es ++ assigns more := rfl

theorem assignsFrom_append {α : Type} (es : List α) : ∀ (s : Nat) (e : α),
    assignsFrom s (es ++ [e]) = assignsFrom s es ++ [(s + es.length, e)] := by
  induction es with
  | nil => intro s e; simp [assignsFrom]
  | cons a as ih =>
    intro s e
    simp only [List.cons_append, assignsFrom, ih, List.length_cons]
    have : s + 1 + as.length = s + (as.length + 1) := by omega
    rw [this]

theorem assignsFrom_length {α : Type} (es : List α) : ∀ s : Nat, (assignsFrom s es).length = es.length := by
  induction es with
  | nil => intro s; rfl
  | cons e es ih => intro s; simp [assignsFrom, ih]

theorem assigns_length {α : Type} (secs : List (Nat × List α)) :
    (assigns secs).length = (secs.map fun s => s.2.length).sum := by
  induction secs with
  | nil => rfl
  | cons s rest ih =>
    rw [assigns_cons, List.length_append, assignsFrom_length, ih, List.map_cons, List.sum_cons]

/-- what an id contributes: its entry, if it has one -/
def idAssign {α : Type} (x : XrefMap) (f : Nat × Nat → α) (i : Nat) : Option (Nat × α) :=
  (x.get i).map fun e => (i, f e)

/-- **Sections = maximal runs.** On consecutive object numbers `a, …, a+k-1` (with the pending
section ending just before `a`) the sections carry exactly the pending entries followed by the
entry of every number that has one, each under its own number. -/
theorem loopSecs_spec {α : Type} (x : XrefMap) (f : Nat × Nat → α) : ∀ (k a start : Nat) (entries : List α),
    (entries ≠ [] → start + entries.length = a) →
    assigns (loopSecs x f (List.range' a k) start entries)
      = assignsFrom start entries ++ (List.range' a k).filterMap (idAssign x f) := by
  intro k
  induction k with
  | zero =>
    intro a start entries _
    simp only [List.range'_zero, loopSecs, List.filterMap_nil, List.append_nil]
    cases entries with
    | nil => simp [assigns, assignsFrom]
    | cons e es => simp [assigns]
  | succ k ih =>
    intro a start entries hinv
    simp only [List.range'_succ, loopSecs, List.filterMap_cons, idAssign]
    cases hx : x.get a with
    | some e =>
      simp only [Option.map_some]
      rw [ih]
      · cases entries with
        | nil => simp [assignsFrom]
        | cons e0 es =>
          have := hinv (by simp)
          simp only [List.isEmpty_cons, Bool.false_eq_true, if_false]
          rw [assignsFrom_append, this]
          simp
      · intro _
        cases entries with
        | nil => simp
        | cons e0 es =>
          have := hinv (by simp)
          simp only [List.isEmpty_cons, Bool.false_eq_true, if_false, List.length_append, List.length_cons,
            List.length_nil] at this ⊢
          omega
    | none =>
      simp only [Option.map_none]
      cases entries with
      | nil =>
        simp only [List.isEmpty_nil, if_true]
        rw [ih _ _ _ (by intro h; exact absurd rfl h)]
        simp [assignsFrom]
      | cons e0 es =>
        simp only [List.isEmpty_cons, Bool.false_eq_true, if_false]
        simp only [assigns, List.map_cons, List.flatten_cons]
        have := ih (a + 1) a [] (by intro h; exact absurd rfl h)
        simp only [assigns, assignsFrom, List.nil_append] at this
        rw [this]

theorem loopSecs_bounds {α : Type} (x : XrefMap) (f : Nat × Nat → α) : ∀ (k a start : Nat) (entries : List α),
    (entries ≠ [] → start + entries.length = a) →
    ∀ sec ∈ loopSecs x f (List.range' a k) start entries,
      sec.1 + sec.2.length ≤ a + k ∧
      ∀ v ∈ sec.2, v ∈ entries ∨ ∃ i e, x.get i = some e ∧ v = f e := by
  intro k
  induction k with
  | zero =>
    intro a start entries hinv sec hsec
    simp only [List.range'_zero, loopSecs] at hsec
    cases entries with
    | nil => simp at hsec
    | cons e es =>
      simp at hsec
      subst hsec
      have := hinv (by simp)
      exact ⟨by simp at this ⊢; omega, fun v hv => Or.inl hv⟩
  | succ k ih =>
    intro a start entries hinv sec hsec
    simp only [List.range'_succ, loopSecs] at hsec
    cases hx : x.get a with
    | some e =>
      simp only [hx] at hsec
      have hinv' : (entries ++ [f e] ≠ [] → (if entries.isEmpty then a else start) + (entries ++ [f e]).length = a + 1) := by
        intro _
        cases entries with
        | nil => simp
        | cons e0 es =>
          have := hinv (by simp)
          simp only [List.isEmpty_cons, Bool.false_eq_true, if_false, List.length_append, List.length_cons,
            List.length_nil] at this ⊢
          omega
      obtain ⟨h1, h2⟩ := ih (a + 1) _ _ hinv' sec hsec
      refine ⟨by omega, ?_⟩
      intro v hv
      rcases h2 v hv with h | h
      · rw [List.mem_append] at h
        rcases h with h | h
        · exact Or.inl h
        · simp at h; exact Or.inr ⟨a, e, hx, h⟩
      · exact Or.inr h
    | none =>
      simp only [hx] at hsec
      cases entries with
      | nil =>
        simp only [List.isEmpty_nil, if_true] at hsec
        obtain ⟨h1, h2⟩ := ih (a + 1) a [] (by intro h; exact absurd rfl h) sec hsec
        exact ⟨by omega, h2⟩
      | cons e0 es =>
        simp only [List.isEmpty_cons, Bool.false_eq_true, if_false, List.mem_cons] at hsec
        rcases hsec with hsec | hsec
        · subst hsec
          have := hinv (by simp)
          exact ⟨by simp at this ⊢; omega, fun v hv => Or.inl hv⟩
        · obtain ⟨h1, h2⟩ := ih (a + 1) a [] (by intro h; exact absurd rfl h) sec hsec
          refine ⟨by omega, ?_⟩
          intro v hv
          rcases h2 v hv with h | h
          · simp at h
          · exact Or.inr h

end Lopdf.FileRT
