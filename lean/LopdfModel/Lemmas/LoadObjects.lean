import LopdfModel.Thm.C07
import LopdfModel.Lemmas.XTable
import LopdfModel.Lemmas.Objects
/-
  The association lists of `Reader::read` (`XTable`, `LObjects`, `Objects`): look-ups after
  `insert` / `merge` / sorting, membership, distinct keys; and objects in `BTreeMap` order:
  `insertSortedO` builds a strictly sorted list, two strictly sorted lists with the same
  look-up function are equal.
-/
namespace Lopdf.FileRT
open Lopdf Gen

theorem XTable_get_none_iff (t : XTable) (k : Nat) : t.get k = none ↔ k ∉ t.map (·.1) := by
  induction t with
  | nil => simp [XTable.get]
  | cons p rest ih =>
    obtain ⟨q, w⟩ := p
    by_cases h : q = k
    · simp [XTable.get, h]
    · simp [XTable.get, h, Ne.symm h, ih]

theorem XTable_maxId_le (t : XTable) (B : Nat) (hb : ∀ p ∈ t, p.1 ≤ B) : t.maxId ≤ B := by
  unfold XTable.maxId
  suffices ∀ m0, m0 ≤ B → t.foldl (fun m (p : Nat × XEntry) => max m p.1) m0 ≤ B from this 0 (Nat.zero_le _)
  induction t with
  | nil => intro m0 h; exact h
  | cons p rest ih =>
    intro m0 h
    have := hb p List.mem_cons_self
    exact ih (fun q hq => hb q (List.mem_cons_of_mem _ hq)) _ (Nat.max_le.mpr ⟨h, this⟩)

theorem XTable_merge_nodup (y x : XTable) (h : (x.map (·.1)).Nodup) : ((x.merge y).map (·.1)).Nodup := by
  rw [merge_eq_foldl]
  induction y generalizing x with
  | nil => exact h
  | cons p rest ih =>
    refine ih _ ?_
    unfold mergeStep
    cases hx : x.get p.1 with
    | some _ => exact h
    | none =>
      simp only [List.map_append, List.map_cons, List.map_nil]
      exact List.nodup_append.mpr ⟨h, by simp, fun a ha b hb => by
        rw [List.mem_singleton.mp hb]; rintro rfl; exact (XTable_get_none_iff x _).mp hx ha⟩

theorem LObjects_keys_insert (os : LObjects) (id : ObjId) (v : LObj) :
    (os.insert id v).map (·.1) = if id ∈ os.map (·.1) then os.map (·.1) else os.map (·.1) ++ [id] := by
  induction os with
  | nil => simp [LObjects.insert]
  | cons p rest ih =>
    obtain ⟨q, w⟩ := p
    by_cases h : q = id
    · simp [LObjects.insert, h]
    · simp only [LObjects.insert, h, if_false, List.map_cons, ih, List.mem_cons, Ne.symm h, false_or]
      split <;> simp

theorem LObjects_insert_nodup (os : LObjects) (id : ObjId) (v : LObj) (h : (os.map (·.1)).Nodup) :
    ((os.insert id v).map (·.1)).Nodup := by
  rw [LObjects_keys_insert]
  split
  · exact h
  · rename_i hk
    exact List.nodup_append.mpr ⟨h, by simp, fun a ha b hb => by
      rw [List.mem_singleton.mp hb]; rintro rfl; exact hk ha⟩

theorem Objects_get_append (a b : Objects) (id : ObjId) :
    Objects.get (a ++ b) id = (Objects.get a id).orElse (fun _ => Objects.get b id) := by
  induction a with
  | nil => simp [Objects.get]
  | cons p rest ih =>
    obtain ⟨i, o⟩ := p
    by_cases h : i = id <;> simp [Objects.get, h, ih]

theorem Objects_get_of_mem (objs : Objects) (hn : (objs.map (·.1.1)).Nodup) (p : ObjId × Obj) (h : p ∈ objs) :
    objs.get p.1 = some p.2 := by
  -- ids with distinct numbers are distinct
  refine Objects.get_of_mem (List.Pairwise.of_map (S := (· ≠ ·)) (·.1) (fun _ _ hne e => hne (congrArg _ e)) ?_) h
  rwa [List.map_map]

theorem Objects_get_map (os : LObjects) (g : ObjId × LObj → ObjId × Obj) (hg : ∀ p, (g p).1 = p.1) (id : ObjId) :
    Objects.get (os.map g) id = (os.get id).map fun lo => (g (id, lo)).2 := by
  induction os with
  | nil => rfl
  | cons p rest ih =>
    obtain ⟨i, lo⟩ := p
    have e : g (i, lo) = (i, (g (i, lo)).2) := Prod.ext (hg (i, lo)) rfl
    rw [List.map_cons, e]
    by_cases h : i = id
    · subst h; simp [Objects.get, LObjects.get]
    · simp [Objects.get, LObjects.get, h, ih]

theorem Objects_get_foldr_sorted (l : List (ObjId × Obj)) (id : ObjId) :
    Objects.get (l.foldr (fun (p : ObjId × Obj) acc => insertSortedO p.1 p.2 acc) []) id = Objects.get l id := by
  induction l with
  | nil => rfl
  | cons p rest ih =>
    obtain ⟨k, v⟩ := p
    simp only [List.foldr_cons, Objects.get_insertSortedO, ih, Objects.get]

/-- strict order of object ids (number, then generation) -/
def idLt (a b : ObjId) : Prop := a.1 < b.1 ∨ (a.1 = b.1 ∧ a.2 < b.2)

/-- strictly ascending ids: the iteration order of `BTreeMap<ObjectId, Object>` -/
def SortedO (l : Objects) : Prop := l.Pairwise (fun p q => idLt p.1 q.1)

theorem idLt_trans {a b c : ObjId} (h1 : idLt a b) (h2 : idLt b c) : idLt a c := by
  unfold idLt at *; omega

theorem idLt_irrefl (a : ObjId) : ¬ idLt a a := by unfold idLt; omega

theorem idLt_of_idLe_ne {a b : ObjId} (h : idLe a b = true) (hne : a ≠ b) : idLt a b := by
  obtain ⟨a1, a2⟩ := a
  obtain ⟨b1, b2⟩ := b
  simp only [idLe, Bool.or_eq_true, decide_eq_true_eq, Bool.and_eq_true] at h
  have : ¬ (a1 = b1 ∧ a2 = b2) := fun e => hne (Prod.ext e.1 e.2)
  unfold idLt
  simp only
  omega

theorem idLt_of_not_idLe {a b : ObjId} (h : ¬ idLe a b = true) : idLt b a := by
  simp only [idLe, Bool.or_eq_true, decide_eq_true_eq, Bool.and_eq_true, not_or, not_and] at h
  unfold idLt
  omega

theorem idLt_trichotomy (a b : ObjId) : idLt a b ∨ a = b ∨ idLt b a := by
  obtain ⟨a1, a2⟩ := a
  obtain ⟨b1, b2⟩ := b
  unfold idLt
  simp only [Prod.mk.injEq]
  omega

theorem insertSortedO_sorted (k : ObjId) (v : Obj) (l : Objects) (hl : SortedO l) (hk : ∀ p ∈ l, p.1 ≠ k) :
    SortedO (insertSortedO k v l) := by
  induction l with
  | nil => simp [insertSortedO, SortedO]
  | cons q rest ih =>
    obtain ⟨hhead, htail⟩ := List.pairwise_cons.mp hl
    have hne : k ≠ q.1 := fun e => hk q (by simp) e.symm
    simp only [insertSortedO]
    split
    · rename_i hle
      have hlt := idLt_of_idLe_ne hle hne
      refine List.pairwise_cons.mpr ⟨fun p hp => ?_, hl⟩
      rcases List.mem_cons.mp hp with rfl | hp
      · exact hlt
      · exact idLt_trans hlt (hhead p hp)
    · rename_i hle
      refine List.pairwise_cons.mpr ⟨fun p hp => ?_, ih htail (fun p hp => hk p (by simp [hp]))⟩
      rcases (mem_insertSortedO k v rest p).mp hp with rfl | hp
      · exact idLt_of_not_idLe hle
      · exact hhead p hp

theorem foldr_insertSortedO_sorted (l : List (ObjId × Obj)) (hn : (l.map (·.1)).Nodup) :
    SortedO (l.foldr (fun (p : ObjId × Obj) acc => insertSortedO p.1 p.2 acc) []) ∧
    ∀ p, p ∈ l.foldr (fun (p : ObjId × Obj) acc => insertSortedO p.1 p.2 acc) [] ↔ p ∈ l := by
  induction l with
  | nil => simp [SortedO]
  | cons q rest ih =>
    obtain ⟨hk, hn⟩ := List.nodup_cons.mp hn
    obtain ⟨ih1, ih2⟩ := ih hn
    simp only [List.foldr_cons]
    refine ⟨insertSortedO_sorted _ _ _ ih1 fun p hp e => ?_, fun p => ?_⟩
    · exact hk (List.mem_map.mpr ⟨p, (ih2 p).mp hp, e⟩)
    · rw [mem_insertSortedO, ih2 p, List.mem_cons]

theorem get_none_of_lt (l : Objects) (id : ObjId) (h : ∀ q ∈ l, idLt id q.1) : Objects.get l id = none := by
  induction l with
  | nil => rfl
  | cons q rest ih =>
    obtain ⟨k, v⟩ := q
    have hne : k ≠ id := by rintro rfl; exact idLt_irrefl k (h (k, v) (by simp))
    simp only [Objects.get, hne, if_false]
    exact ih (fun q hq => h q (by simp [hq]))

theorem get_none_of_lt_head (k : ObjId) (p : ObjId × Obj) (r : Objects) (h : SortedO (p :: r)) (hk : idLt k p.1) :
    Objects.get (p :: r) k = none :=
  get_none_of_lt _ k fun q hq => by
    rcases List.mem_cons.mp hq with rfl | hq
    · exact hk
    · exact idLt_trans hk ((List.pairwise_cons.mp h).1 q hq)

theorem sorted_ext : ∀ (l1 l2 : Objects), SortedO l1 → SortedO l2 →
    (∀ id, Objects.get l1 id = Objects.get l2 id) → l1 = l2 := by
  intro l1
  induction l1 with
  | nil =>
    intro l2 _ _ hget
    cases l2 with
    | nil => rfl
    | cons q rest => have := hget q.1; simp [Objects.get] at this
  | cons a r1 ih =>
    intro l2 h1 h2 hget
    cases l2 with
    | nil => have := hget a.1; simp [Objects.get] at this
    | cons b r2 =>
      obtain ⟨ka, va⟩ := a
      obtain ⟨kb, vb⟩ := b
      -- the smaller head would be found in one list and not in the other
      have hk : ka = kb := by
        rcases idLt_trichotomy ka kb with h | h | h
        · have := hget ka
          rw [get_none_of_lt_head ka _ r2 h2 h] at this
          simp [Objects.get] at this
        · exact h
        · have := hget kb
          rw [get_none_of_lt_head kb _ r1 h1 h] at this
          simp [Objects.get] at this
      subst hk
      have hv : va = vb := by simpa [Objects.get] using hget ka
      subst hv
      obtain ⟨ha, hr1⟩ := List.pairwise_cons.mp h1
      obtain ⟨hb, hr2⟩ := List.pairwise_cons.mp h2
      congr 1
      refine ih r2 hr1 hr2 fun id => ?_
      by_cases hid : ka = id
      · subst hid
        rw [get_none_of_lt r1 ka ha, get_none_of_lt r2 ka hb]
      · simpa [Objects.get, hid] using hget id

theorem SortedO_mapval (l : Objects) (f : Obj → Obj) (h : SortedO l) :
    SortedO (l.map fun p => (p.1, f p.2)) := by
  unfold SortedO at *
  rw [List.pairwise_map]
  exact h

theorem permuteBlocks_nil (p : List Nat) : permuteBlocks [] p = [] :=
  List.perm_nil.mp (permuteBlocks_perm [] p)

end Lopdf.FileRT
