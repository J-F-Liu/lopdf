import LopdfModel.Lemmas.RangeMap
import LopdfModel.Spec.CMapSpec
/-
  C15 — from sections to the stored maps: `from_sections` is a left fold of `put` over the
  flattened definition list, and after the fold every per-length range map is valid and
  stores, for every code, the `BfRangeTarget` chosen for the LAST covering definition.
-/
namespace Lopdf.CMap
open Lopdf Lopdf.Gen Lopdf.CMapSpec

set_option linter.unusedSimpArgs false

/-- the `BfRangeTarget` `from_sections` / `put_char` choose for a definition -/
def storedOf : Def → Target
  | .char code _ [u] => .cp (wrappingSub u code)
  | .char code _ dst => .hex code dst
  | .range lo _ _ [[u]] => .cp (wrappingSub u lo)
  | .range lo _ _ [t] => .hex lo t
  | .range lo _ _ dsts => .arr lo dsts

def defsOfChars (ms : List ((Nat × Nat) × List Nat)) : List Def :=
  ms.map fun ((c, l), d) => .char c l d
def defsOfRanges (ms : List ((Nat × Nat × Nat) × List (List Nat))) : List Def :=
  ms.map fun ((lo, hi, l), ds) => .range lo hi l ds

/-- the definitions of a parsed CMap, in file order -/
def defsOf : List Section → List Def
  | [] => []
  | .csRange _ :: ss => defsOf ss
  | .bfChar ms :: ss => defsOfChars ms ++ defsOf ss
  | .bfRange ms :: ss => defsOfRanges ms ++ defsOf ss

def putDef (m : UMap) (d : Def) : UMap := put m d.lo d.hi d.len (storedOf d)

def buildFrom (m : UMap) : List Def → UMap
  | [] => m
  | d :: ds => buildFrom (putDef m d) ds

/-- what `from_sections` checks itself: `end >= start`, at least one target -/
def rangeOk : Def → Prop
  | .range lo hi _ dsts => lo ≤ hi ∧ dsts ≠ []
  | .char _ _ _ => True

theorem buildFrom_append (m : UMap) (a b : List Def) :
    buildFrom m (a ++ b) = buildFrom (buildFrom m a) b := by
  induction a generalizing m with
  | nil => rfl
  | cons d a ih => exact ih (putDef m d)

theorem putChar_eq (m : UMap) (code len : Nat) (dst : List Nat) :
    putChar m code len dst = putDef m (.char code len dst) := by
  cases dst with
  | nil => rfl
  | cons u t => cases t <;> rfl

theorem putRangeLine_eq (m : UMap) (lo hi len : Nat) (dsts : List (List Nat))
    (h : rangeOk (.range lo hi len dsts)) :
    putRangeLine m ((lo, hi, len), dsts) = some (putDef m (.range lo hi len dsts)) := by
  obtain ⟨hlh, hne⟩ := h
  simp only [putRangeLine, if_neg (Nat.not_lt.mpr hlh)]
  rcases dsts with _ | ⟨_ | ⟨u, _ | _⟩, _ | _⟩
  · exact absurd rfl hne
  all_goals rfl

theorem putCharLines_eq (m : UMap) (ms : List ((Nat × Nat) × List Nat)) :
    putCharLines m ms = buildFrom m (defsOfChars ms) := by
  induction ms generalizing m with
  | nil => rfl
  | cons x ms ih =>
    obtain ⟨⟨c, l⟩, d⟩ := x
    rw [putCharLines, ih, putChar_eq]; rfl

theorem putRangeLines_eq (m : UMap) (ms : List ((Nat × Nat × Nat) × List (List Nat)))
    (h : ∀ d ∈ defsOfRanges ms, rangeOk d) :
    putRangeLines m ms = some (buildFrom m (defsOfRanges ms)) := by
  induction ms generalizing m with
  | nil => rfl
  | cons x ms ih =>
    obtain ⟨⟨lo, hi, l⟩, ds⟩ := x
    obtain ⟨h0, h1⟩ := List.forall_mem_cons.mp h
    rw [putRangeLines, putRangeLine_eq m lo hi l ds h0]
    exact ih _ h1

/-- **`from_sections` is the fold of `put` over the definitions** (and never fails on
definitions that pass its own two checks). -/
theorem fromSectionsFrom_eq (ss : List Section) (m : UMap) (h : ∀ d ∈ defsOf ss, rangeOk d) :
    fromSectionsFrom m ss = some (buildFrom m (defsOf ss)) := by
  induction ss generalizing m with
  | nil => rfl
  | cons s ss ih =>
    cases s with
    | csRange rs => exact ih m h
    | bfChar ms =>
      rw [fromSectionsFrom, ih _ fun d hd => h d (List.mem_append_right _ hd), putCharLines_eq,
        defsOf, buildFrom_append]
    | bfRange ms =>
      rw [fromSectionsFrom, putRangeLines_eq m ms fun d hd => h d (List.mem_append_left _ hd),
        defsOf, buildFrom_append]
      exact ih _ fun d hd => h d (List.mem_append_right _ hd)

theorem badLen_false {l : Nat} (h1 : 1 ≤ l) (h4 : l ≤ 4) : badLen l = false := by
  have a : ¬ l > 4 := by omega
  have b : ¬ l = 0 := by omega
  simp [badLen, CMAP_MAX_CODE_LEN, CMAP_BAD_CODE_LEN, a, b]

theorem badLen_true {l : Nat} (h : ¬ (1 ≤ l ∧ l ≤ 4)) : badLen l = true := by
  by_cases a : l > 4
  · simp [badLen, CMAP_MAX_CODE_LEN, CMAP_BAD_CODE_LEN, a]
  · have b : l = 0 := by omega
    simp [badLen, CMAP_MAX_CODE_LEN, CMAP_BAD_CODE_LEN, b]

theorem covers_iff {d : Def} {c l : Nat} : d.covers c l = true ↔ d.len = l ∧ d.lo ≤ c ∧ c ≤ d.hi := by
  simp [Def.covers, and_assoc]

theorem lastCoveringFrom_some {acc : Option Def} {ds : List Def} {c l : Nat} {D : Def}
    (h : lastCoveringFrom acc ds c l = some D) : (D ∈ ds ∧ D.covers c l = true) ∨ acc = some D := by
  induction ds generalizing acc with
  | nil => exact Or.inr h
  | cons d ds ih =>
    rcases ih h with h' | h'
    · exact Or.inl ⟨List.mem_cons_of_mem _ h'.1, h'.2⟩
    · split at h'
      · next hc => cases h'; exact Or.inl ⟨List.mem_cons_self, hc⟩
      · exact Or.inr h'

theorem lastCovering_some {ds : List Def} {c l : Nat} {D : Def} (h : lastCovering ds c l = some D) :
    D ∈ ds ∧ D.len = l ∧ D.lo ≤ c ∧ c ≤ D.hi :=
  (lastCoveringFrom_some h).elim (fun h' => ⟨h'.1, covers_iff.mp h'.2⟩) nofun

theorem lastCoveringFrom_none_cover {acc : Option Def} {ds : List Def} {c l : Nat}
    (h : ∀ d ∈ ds, d.covers c l = false) : lastCoveringFrom acc ds c l = acc := by
  induction ds generalizing acc with
  | nil => rfl
  | cons d ds ih =>
    obtain ⟨h0, h1⟩ := List.forall_mem_cons.mp h
    rw [lastCoveringFrom, h0]
    exact ih h1

/-- shape hypotheses `put` needs to behave: a usable code length and `lo ≤ hi` -/
def putOk (d : Def) : Prop := d.lo ≤ d.hi ∧ 1 ≤ d.len ∧ d.len ≤ 4

/-- **The stored maps after the fold**: every per-length map is valid, and the value stored
for a code is the target chosen for the last definition covering it. -/
theorem build_val (ds : List Def) :
    ∀ (m : UMap) (g : Nat → Nat → Option Def),
      (∀ l, Inv 0 none (m l)) →
      (∀ c l, rmVal (m l) c = (g c l).map storedOf) →
      (∀ d ∈ ds, putOk d) →
      (∀ l, Inv 0 none (buildFrom m ds l)) ∧
      ∀ c l, rmVal (buildFrom m ds l) c = (lastCoveringFrom (g c l) ds c l).map storedOf := by
  induction ds with
  | nil => intro m g hi hv _; exact ⟨hi, hv⟩
  | cons d ds ih =>
    intro m g hi hv hok
    obtain ⟨⟨hlh, hl1, hl4⟩, hok'⟩ := List.forall_mem_cons.mp hok
    have hput : ∀ l, putDef m d l =
        if l = d.len then rmInsert (m d.len) d.lo d.hi (storedOf d) else m l := fun l => by
      simp only [putDef, put, badLen_false hl1 hl4, Bool.false_eq_true, if_false]
    refine ih (putDef m d) (fun c l => if d.covers c l then some d else g c l) (fun l => ?_)
      (fun c l => ?_) hok'
    · rw [hput]
      split
      · exact rm_inv_insert (hi _) hlh _
      · exact hi l
    · -- `d` covers exactly the codes of its own length inside the inserted range
      rw [hput]
      by_cases hl : l = d.len
      · subst hl
        rw [if_pos rfl, rmVal_insert, hv]
        by_cases hc : d.lo ≤ c ∧ c ≤ d.hi
        · rw [if_pos hc, if_pos (covers_iff.mpr ⟨rfl, hc⟩)]; rfl
        · rw [if_neg hc, if_neg fun h => hc (covers_iff.mp h).2]
      · rw [if_neg hl, if_neg fun h => hl (covers_iff.mp h).1.symm, hv]

theorem inv_empty (l : Nat) : Inv 0 (none : Option Target) (UMap.empty l) := trivial

/-- `from_sections` succeeds on definitions that pass its two checks, with the fold as its result -/
theorem fromSections_ok (ss : List Section) (hok : ∀ d ∈ defsOf ss, rangeOk d) :
    fromSections ss = some (buildFrom UMap.empty (defsOf ss)) :=
  fromSectionsFrom_eq ss _ hok

instance : DecidablePred Def.wf
  | .char .. => inferInstanceAs (Decidable (_ ∧ _ ∧ _ ∧ _ ∧ _))
  | .range lo hi _ dsts =>
    have : Decidable (match dsts with
        | [t] => ∀ last, t.getLast? = some last → last + (hi - lo) < 65536
        | _ => dsts.length = hi - lo + 1) := by
      split
      · exact Option.decidableForallMem _
      · infer_instance
    inferInstanceAs (Decidable (_ ∧ _ ∧ _ ∧ _ ∧ _ ∧ _ ∧ _))

end Lopdf.CMap
