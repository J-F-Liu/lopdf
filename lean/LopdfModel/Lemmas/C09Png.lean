import LopdfModel.Model.Filters
import LopdfModel.Spec.Png
namespace Lopdf
open Gen Spec.Png

/-! `paeth_predict`: three bytes keep every `i16` intermediate in range -/

theorem i16_some (x : Int) (h1 : -32768 ≤ x) (h2 : x ≤ 32767) : i16 x = some x := by
  simp [i16, h1, h2]

theorem i16abs_some (x : Int) (h1 : -32768 < x) : i16abs x = some (x.natAbs : Int) := by
  have : x ≠ -32768 := by omega
  simp only [i16abs, this, if_false]
  congr 1
  split <;> omega

theorem paethPredictO_eq (a b c : UInt8) : paethPredictO a b c = some (paeth a b c) := by
  have ha := UInt8.toNat_lt a
  have hb := UInt8.toNat_lt b
  have hc := UInt8.toNat_lt c
  unfold paethPredictO
  simp (disch := omega) only [bind, Option.bind, pure, i16_some, i16abs_some, paeth, Int.ofNat_le]

theorem paethPredict_eq (a b c : UInt8) : paethPredict a b c = paeth a b c := by
  simp [paethPredict, paethPredictO_eq]

/-- the predictor's selection rule does not depend on the order of its first two candidates, as long as a tie
between them that beats the third only occurs when they are equal -/
theorem paethSel_comm {α : Type} (pa pb pc : Nat) (a b c : α) (h : pa = pb → pa ≤ pc → a = b) :
    (if pa ≤ pb ∧ pa ≤ pc then a else if pb ≤ pc then b else c)
      = (if pb ≤ pa ∧ pb ≤ pc then b else if pa ≤ pc then a else c) := by
  by_cases h1 : pa ≤ pb ∧ pa ≤ pc <;> by_cases h2 : pb ≤ pa ∧ pb ≤ pc
  · rw [if_pos h1, if_pos h2]; exact h (by omega) h1.2
  · rw [if_pos h1, if_neg h2, if_pos h1.2]
  · rw [if_neg h1, if_pos h2, if_pos h2.2]
  · rw [if_neg h1, if_neg h2, if_neg (by omega), if_neg (by omega)]

/-- PaethPredictor is symmetric in (left, above): with `p = a + b - c` the distances of `a` and `b` from `p` are
`|b - c|` and `|a - c|`; if they are equal and at most `|a + b - 2c|`, then `a = b` -/
theorem paeth_comm (a b c : UInt8) : paeth a b c = paeth b a c := by
  simp only [paeth]
  rw [show ((b.toNat : Int) + a.toNat - c.toNat) = (a.toNat : Int) + b.toNat - c.toNat by omega]
  exact paethSel_comm _ _ _ a b c fun h1 h2 => UInt8.toNat_inj.mp (by omega)

def M : Spec.Png.FilterType → PngFilter
  | .none => .none | .sub => .sub | .up => .up | .avg => .avg | .paeth => .paeth

theorem half_eq (p : UInt8) : p / 2 = (p.toNat / 2).toUInt8 := by
  apply UInt8.toNat_inj.mp
  have := UInt8.toNat_lt p
  rw [UInt8.toNat_div, Nat.toUInt8, UInt8.toNat_ofNat']
  show p.toNat / 2 = p.toNat / 2 % 256
  omega

/-- `decode_row`'s predictor is the specification's, applied to the byte `bpp` to the left in the decoded row, the
byte above, and the byte `bpp` to the left of that -/
theorem rowPred_eq (t : FilterType) (bpp : Nat) (hb : bpp ≠ 0) (prev done : Bytes) (i : Nat) (x : UInt8) :
    rowPred (M t) bpp prev done i x = pred t (leftOf done bpp i) (prev.getD i 0) (leftOf prev bpp i) := by
  by_cases hlt : i < bpp <;> cases t <;>
    simp [rowPred, M, pred, leftOf, hlt, hb, paethPredict_eq, half_eq]

/-- `decode_row` clamps `bpp` to the row length; inside the row that changes nothing -/
theorem leftOf_min (row : Bytes) (bpp len i : Nat) (hi : i < len) : leftOf row (min bpp len) i = leftOf row bpp i := by
  by_cases h : i < bpp
  · rw [leftOf, leftOf, if_pos h, if_pos (by omega)]
  · rw [Nat.min_eq_left (by omega)]

theorem leftOf_take (row : Bytes) (bpp i : Nat) (hb : 1 ≤ bpp) : leftOf (row.take i) bpp i = leftOf row bpp i := by
  unfold leftOf
  split
  · rfl
  · simp [List.getD, show i - bpp < i by omega]

theorem tabulateFrom_length (g : Nat → UInt8) : ∀ n i, (tabulateFrom g i n).length = n := by
  intro n; induction n with
  | zero => intro i; rfl
  | succ n ih => intro i; simp [tabulateFrom, ih]

theorem encodeRow_length (t : FilterType) (bpp : Nat) (prev cur : Bytes) :
    (encodeRow t bpp prev cur).length = cur.length := by
  simp [encodeRow, tabulateFrom_length]

theorem rowLoop_tab (t : FilterType) (bpp : Nat) (hb : 1 ≤ bpp) (prev cur : Bytes) :
    ∀ k i, i + k = cur.length →
      rowLoop (M t) (min bpp cur.length) prev i (cur.take i) (tabulateFrom (filtAt t bpp prev cur) i k) = cur := by
  intro k
  induction k with
  | zero => intro i h; simp [tabulateFrom, rowLoop, show i = cur.length by omega]
  | succ k ih =>
    intro i h
    have hi : i < cur.length := by omega
    rw [tabulateFrom, rowLoop, rowPred_eq t _ (by omega), leftOf_min _ _ _ _ hi, leftOf_min _ _ _ _ hi,
      leftOf_take _ _ _ hb]
    have : cur.take i ++ [filtAt t bpp prev cur i + pred t (leftOf cur bpp i) (prev.getD i 0) (leftOf prev bpp i)]
        = cur.take (i + 1) := by
      rw [List.take_add_one]
      simp [filtAt, List.getD, List.getElem?_eq_getElem hi, UInt8.sub_add_cancel]
    rw [this]
    exact ih (i + 1) (by omega)

theorem ofByte_typeByte (t : FilterType) : PngFilter.ofByte (typeByte t) = some (M t) := by
  cases t <;> decide

theorem frameLoop_cons (bpp n : Nat) (t : UInt8) (rest prev : Bytes) (ft : PngFilter)
    (h : PngFilter.ofByte t = some ft) (hl : ¬ rest.length < n) :
    frameLoop bpp n (t :: rest) prev
      = (frameLoop bpp n (rest.drop n) (decodeRow ft bpp prev (rest.take n))).map (decodeRow ft bpp prev (rest.take n) ++ ·) := by
  rw [frameLoop.eq_def]
  simp only [h, hl, if_false]

def joinRows : List (FilterType × Bytes) → Bytes
  | [] => []
  | (_, r) :: rest => r ++ joinRows rest

/-- the frame encoder of the PNG specification: the row above the first row is all zero -/
def encodeImage (bpp rowLen : Nat) (rows : List (FilterType × Bytes)) : Bytes :=
  encodeFrame bpp (List.replicate rowLen 0) rows

end Lopdf
