import LopdfModel.Model.Content
import LopdfModel.Thm.C01
import LopdfModel.Lemmas.Space
/-
  Object-level round trip (C01 `obj_rt`, C14 `content_rt`): `_direct_objects`
  and `operand` as the scalar alternatives `scalars` followed by the array / dictionary
  alternatives `compound`; and every token kind taken through `scalars` (earlier alternatives
  fail on the first byte or on the look-ahead).  Everything lives in `Lopdf.ObjRt`.
-/
namespace Lopdf.ObjRt
open Lopdf Gen

theorem space_nil : space [] = [] := rfl

theorem headTok_natDigits (n : Nat) (x : Bytes) : HeadTok (natDigits n ++ x) := by
  obtain ⟨a, as, ha, hda⟩ := natDigits_head n
  have hf := digit_facts a hda
  exact ⟨a, as ++ x, by rw [ha]; rfl, hf.2.2.2.2.2.2.2.2.1, hf.2.2.2.2.2.2.2.1⟩

/-- the scalar alternatives of `_direct_objects` (`withRef = true`) and of `operand`
(`withRef = false`, no `reference`) in source order -/
def scalars (withRef : Bool) (inp : Bytes) : Option (Obj × Bytes) :=
  match tag NULL_KW inp with
  | some r => some (.null, r)
  | none =>
  match tag TRUE_KW inp with
  | some r => some (.bool true, r)
  | none =>
  match tag FALSE_KW inp with
  | some r => some (.bool false, r)
  | none =>
  match (if withRef then pReference inp else none) with
  | some (o, r) => some (o, r)
  | none =>
  match pReal inp with
  | some (t, r) => some (.real t, r)
  | none =>
  match pInteger inp with
  | some (i, r) => some (.int i, r)
  | none =>
  match pName inp with
  | some (n, r) => some (.name n, r)
  | none =>
  match pLiteral inp with
  | some (s, r) => some (.str s .lit, r)
  | none =>
  match pHexString inp with
  | some (s, r) => some (.str s .hex, r)
  | none => none

/-- the array / dictionary alternatives of `_direct_objects` -/
def compound (fuel depth : Nat) (inp : Bytes) : PRes Obj :=
  match inp with
  | 91 :: r =>
    if depth ≥ MAX_NESTING then .failure else
    (match manyObjects fuel (depth + 1) fuel (space r) with
     | none => .failure
     | some (items, r1) =>
       (match r1 with
        | 93 :: r2 => .ok (.arr items) r2
        | _ => .error))
  | 60 :: 60 :: r =>
    if depth ≥ MAX_NESTING then .failure else
    (match dictEntries fuel (depth + 1) fuel (space r) [] with
     | none => .failure
     | some (es, r1) =>
       (match r1 with
        | 62 :: 62 :: r2 => .ok (.dict es) r2
        | _ => .error))
  | _ => .error

theorem delim_alts_fail (b : UInt8) (r : Bytes) :
    (b ≠ 47 → pName (b :: r) = none) ∧ (b ≠ 40 → pLiteral (b :: r) = none) ∧
    (b ≠ 60 → pHexString (b :: r) = none) ∧ (b ≠ 91 → b ≠ 60 → ∀ f d, compound f d (b :: r) = .error) := by
  refine ⟨fun h => ?_, fun h => ?_, fun h => ?_, fun h h' f d => ?_⟩
  · unfold pName; split
    · rename_i heq; injection heq with e _; exact absurd e h
    · rfl
  · unfold pLiteral; split
    · rename_i heq; injection heq with e _; exact absurd e h
    · rfl
  · unfold pHexString; split
    · rename_i heq; injection heq with e _; exact absurd e h
    · rfl
  · unfold compound; split
    · rename_i heq; injection heq with e _; exact absurd e h
    · rename_i heq; injection heq with e _; exact absurd e h'
    · rfl

/-- `_direct_objects` is `scalars` with references, then `compound`: both sides are the same
chain of alternatives, taken one at a time -/
theorem directObjects_succ (fuel depth : Nat) (inp : Bytes) :
    directObjects (fuel + 1) depth inp =
      match scalars true inp with
      | some (o, r) => .ok o r
      | none => compound fuel depth inp := by
  rw [directObjects.eq_def]
  simp only [scalars, if_true]
  cases tag NULL_KW inp; case some => rfl
  cases tag TRUE_KW inp; case some => rfl
  cases tag FALSE_KW inp; case some => rfl
  cases pReference inp; case some => rfl
  cases pReal inp; case some => rfl
  cases pInteger inp; case some => rfl
  cases pName inp; case some => rfl
  cases pLiteral inp; case some => rfl
  cases pHexString inp; case some => rfl
  rfl

theorem directObjects_scalar (fuel depth : Nat) (inp : Bytes) (o : Obj) (r : Bytes)
    (h : scalars true inp = some (o, r)) : directObjects (fuel + 1) depth inp = .ok o r := by
  rw [directObjects_succ, h]

theorem directObjects_compound (fuel depth : Nat) (inp : Bytes) (h : scalars true inp = none) :
    directObjects (fuel + 1) depth inp = compound fuel depth inp := by
  rw [directObjects_succ, h]

/-- `operand` is `scalars` without references, then `compound` at depth 0 with fuel from the
input length -/
theorem operandObj_eq (inp : Bytes) :
    operandObj inp =
      match scalars false inp with
      | some (o, r) => .ok o r
      | none => compound (inp.length + 1) 0 inp := by
  rw [operandObj.eq_def]
  simp only [scalars]
  cases tag NULL_KW inp; case some => rfl
  cases tag TRUE_KW inp; case some => rfl
  cases tag FALSE_KW inp; case some => rfl
  cases pReal inp; case some => rfl
  cases pInteger inp; case some => rfl
  cases pName inp; case some => rfl
  cases pLiteral inp; case some => rfl
  cases pHexString inp; case some => rfl
  rfl

/-- what follows the first number of a would-be reference: `space u16 space R` -/
def refTailS (s : Bytes) : Option (Nat × Bytes) :=
  (pUnsigned U16_MAX s).bind fun (g, r2) =>
    match space r2 with
    | 82 :: r3 => some (g, r3)
    | _ => none

def refTail (r1 : Bytes) : Option (Nat × Bytes) := refTailS (space r1)

theorem pReference_eq (inp : Bytes) : pReference inp =
    (pUnsigned U32_MAX inp).bind fun (n, r1) => (refTail r1).map fun (g, r3) => (Obj.ref n g, r3) := by
  unfold pReference refTail refTailS
  cases pUnsigned U32_MAX inp with
  | none => rfl
  | some p =>
    obtain ⟨n, r1⟩ := p
    simp only [Option.bind_some]
    cases pUnsigned U16_MAX (space r1) with
    | none => rfl
    | some q =>
      obtain ⟨g, r2⟩ := q
      simp only [Option.bind_some]
      split <;> simp_all

theorem refTailS_nondigit (b : UInt8) (r : Bytes) (h : isDigit b = false) : refTailS (b :: r) = none := by
  simp [refTailS, pUnsigned_nondigit _ b r h]

theorem refTail_nondigit {rest : Bytes} {b : UInt8} {r : Bytes} (hs : space rest = b :: r)
    (hb : isDigit b = false) : refTail rest = none := by
  rw [refTail, hs, refTailS_nondigit b r hb]

theorem pReference_nondigit (b : UInt8) (r : Bytes) (h : isDigit b = false) : pReference (b :: r) = none := by
  simp [pReference_eq, pUnsigned_nondigit _ b r h]

theorem pReference_digits (ds rest : Bytes) (hne : ds ≠ []) (hd : AllDigits ds) (hr : NoDigitAhead rest)
    (ht : refTail rest = none) : pReference (ds ++ rest) = none := by
  rw [pReference_eq, pUnsigned_digits _ ds rest hne hd hr]
  split <;> simp [ht]

theorem tags_fail (b : UInt8) (r : Bytes) (h1 : b ≠ 110) (h2 : b ≠ 116) (h3 : b ≠ 102) :
    tag NULL_KW (b :: r) = none ∧ tag TRUE_KW (b :: r) = none ∧ tag FALSE_KW (b :: r) = none := by
  refine ⟨?_, ?_, ?_⟩
  · simp [NULL_KW, tag, Ne.symm h1]
  · simp [TRUE_KW, tag, Ne.symm h2]
  · simp [FALSE_KW, tag, Ne.symm h3]

/-- stop context of an integer token (without the reference look-ahead) -/
def IntStop0 (rest : Bytes) : Prop := NoDigitAhead rest ∧ ∀ r, rest ≠ 46 :: r

theorem tags_number (neg : Bool) (ds rest : Bytes) (hne : ds ≠ []) (hd : AllDigits ds) :
    tag NULL_KW (sgn neg ++ ds ++ rest) = none ∧ tag TRUE_KW (sgn neg ++ ds ++ rest) = none ∧
    tag FALSE_KW (sgn neg ++ ds ++ rest) = none := by
  cases neg
  · obtain ⟨a, as, rfl⟩ := List.exists_cons_of_ne_nil hne
    have ha := digit_facts a (hd a (by simp))
    exact tags_fail a (as ++ rest) ha.1 ha.2.1 ha.2.2.1
  · exact tags_fail 45 (ds ++ rest) (by decide) (by decide) (by decide)

theorem number_prefix (wr : Bool) (neg : Bool) (ds rest : Bytes) (hne : ds ≠ []) (hd : AllDigits ds)
    (hr : NoDigitAhead rest) (href : wr = true → refTail rest = none) :
    tag NULL_KW (sgn neg ++ ds ++ rest) = none ∧ tag TRUE_KW (sgn neg ++ ds ++ rest) = none ∧
    tag FALSE_KW (sgn neg ++ ds ++ rest) = none ∧
    (if wr = true then pReference (sgn neg ++ ds ++ rest) else none) = none := by
  obtain ⟨t1, t2, t3⟩ := tags_number neg ds rest hne hd
  refine ⟨t1, t2, t3, ?_⟩
  cases wr
  · rfl
  · cases neg
    · simpa [sgn] using pReference_digits ds rest hne hd hr (href rfl)
    · simpa [sgn] using pReference_nondigit 45 (ds ++ rest) (by decide)

theorem scalars_ref (n g : Nat) (rest : Bytes) (hn : n ≤ U32_MAX) (hg : g ≤ U16_MAX) :
    scalars true (natDigits n ++ 32 :: (natDigits g ++ 32 :: 82 :: rest)) = some (.ref n g, rest) := by
  have hrt : refTail (32 :: (natDigits g ++ 32 :: 82 :: rest)) = some (g, rest) := by
    unfold refTail
    rw [space_sp_head _ (headTok_natDigits g _)]
    unfold refTailS
    rw [pUnsigned_natDigits _ g _ hg (noDigitAhead_cons _ (by decide))]
    simp only [Option.bind_some]
    rw [space_sp_head _ ⟨82, rest, rfl, by decide, by decide⟩]
    rfl
  have href : pReference (natDigits n ++ 32 :: (natDigits g ++ 32 :: 82 :: rest)) = some (.ref n g, rest) := by
    rw [pReference_eq, pUnsigned_natDigits _ n _ hn (noDigitAhead_cons _ (by decide))]
    simp only [Option.bind_some, hrt, Option.map_some]
  have ht : tag NULL_KW (natDigits n ++ 32 :: (natDigits g ++ 32 :: 82 :: rest)) = none ∧
      tag TRUE_KW (natDigits n ++ 32 :: (natDigits g ++ 32 :: 82 :: rest)) = none ∧
      tag FALSE_KW (natDigits n ++ 32 :: (natDigits g ++ 32 :: 82 :: rest)) = none :=
    tags_number false (natDigits n) _ (natDigits_ne_nil n) (natDigits_all_digit n)
  unfold scalars
  rw [ht.1, ht.2.1, ht.2.2, if_pos rfl, href]

/-- **integer-shaped token** (written integers, integral real texts): sign, digits -/
theorem scalars_inttext (wr : Bool) (neg : Bool) (ds rest : Bytes) (hne : ds ≠ []) (hd : AllDigits ds)
    (hs : IntStop0 rest) (href : wr = true → refTail rest = none)
    (hrange : if neg then digitsVal ds ≤ I64_MAX + 1 else digitsVal ds ≤ I64_MAX) :
    scalars wr (sgn neg ++ ds ++ rest) =
      some (.int (if neg then -(Int.ofNat (digitsVal ds)) else Int.ofNat (digitsVal ds)), rest) := by
  obtain ⟨t1, t2, t3, hrf⟩ := number_prefix wr neg ds rest hne hd hs.1 href
  have hreal : pReal (sgn neg ++ ds ++ rest) = none := by
    rw [pReal_sgn_digits neg ds rest hne hd hs.1]
    split
    · exact absurd rfl (hs.2 _)
    · rfl
  unfold scalars
  rw [t1, t2, t3, hrf, hreal, pInteger_inttext neg ds rest hne hd hs.1]
  cases neg <;> simp_all

theorem scalars_decimal (wr : Bool) (t rest : Bytes) (h : IsDecimal t) (hr : NoDigitAhead rest) :
    scalars wr (t ++ rest) = some (.real t, rest) := by
  have hreal := real_rt t rest h hr
  obtain ⟨neg, d1, d2, rfl, hne, h1, h2⟩ := decimal_shape t h
  have e : sgn neg ++ d1 ++ 46 :: d2 ++ rest = sgn neg ++ d1 ++ 46 :: (d2 ++ rest) := by simp
  rw [e] at hreal ⊢
  obtain ⟨t1, t2, t3, hrf⟩ := number_prefix wr neg d1 (46 :: (d2 ++ rest)) hne h1
    (noDigitAhead_cons _ (by decide))
    (fun _ => refTail_nondigit (space_head _ ⟨46, _, rfl, by decide, by decide⟩) (by decide))
  unfold scalars
  rw [t1, t2, t3, hrf, hreal]

theorem num_fail (wr : Bool) (b : UInt8) (r : Bytes)
    (hd : isDigit b = false) (hp : b ≠ 43) (hm : b ≠ 45) (hdot : b ≠ 46) :
    (if wr = true then pReference (b :: r) else none) = none ∧ pReal (b :: r) = none ∧
    pInteger (b :: r) = none := by
  refine ⟨?_, ?_, ?_⟩
  · cases wr <;> simp [pReference_nondigit b r hd]
  · unfold pReal
    rw [optSign_other b r hp hm]
    simp only [spanP, hd, Bool.false_eq_true, if_false]
    split
    · rename_i heq; simp at heq
    · rename_i heq; simp at heq; exact absurd heq.1 hdot
    · rfl
  · unfold pInteger
    split
    · rename_i heq; injection heq with e _; exact absurd e hp
    · rename_i heq; injection heq with e _; exact absurd e hm
    · simp [digit1_nondigit b r hd]

theorem scalars_delim (wr : Bool) (b : UInt8) (r : Bytes) (hb : b ∈ [47, 40, 60, 91, 93, 62]) :
    scalars wr (b :: r) =
      match pName (b :: r) with
      | some (n, r) => some (.name n, r)
      | none =>
      match pLiteral (b :: r) with
      | some (s, r) => some (.str s .lit, r)
      | none =>
      match pHexString (b :: r) with
      | some (s, r) => some (.str s .hex, r)
      | none => none := by
  have hf : b ≠ 110 ∧ b ≠ 116 ∧ b ≠ 102 ∧ isDigit b = false ∧ b ≠ 43 ∧ b ≠ 45 ∧ b ≠ 46 :=
    (by decide : ∀ b ∈ [47, 40, 60, 91, 93, 62],
      b ≠ 110 ∧ b ≠ 116 ∧ b ≠ 102 ∧ isDigit b = false ∧ b ≠ 43 ∧ b ≠ 45 ∧ b ≠ 46) b hb
  obtain ⟨t1, t2, t3⟩ := tags_fail b r hf.1 hf.2.1 hf.2.2.1
  obtain ⟨n1, n2, n3⟩ := num_fail wr b r hf.2.2.2.1 hf.2.2.2.2.1 hf.2.2.2.2.2.1 hf.2.2.2.2.2.2
  unfold scalars
  rw [t1, t2, t3, n1, n2, n3]

theorem scalars_name (wr : Bool) (n rest : Bytes) (h : NameStop rest) :
    scalars wr (writeName n ++ rest) = some (.name n, rest) := by
  have hn := name_rt n rest h
  simp only [writeName, List.cons_append] at hn ⊢
  rw [scalars_delim wr 47 _ (by decide), hn]

theorem scalars_lit (wr : Bool) (s rest : Bytes)
    (h : pLiteral (writeString s .lit ++ rest) = some (s, rest)) :
    scalars wr (writeString s .lit ++ rest) = some (.str s .lit, rest) := by
  simp only [writeString, List.cons_append, List.nil_append, List.append_assoc] at h ⊢
  rw [scalars_delim wr 40 _ (by decide), h]
  rfl

theorem scalars_hex (wr : Bool) (s rest : Bytes) :
    scalars wr (writeString s .hex ++ rest) = some (.str s .hex, rest) := by
  have h := hexstr_rt s rest
  simp only [writeString, List.cons_append, List.nil_append, List.append_assoc] at h ⊢
  rw [scalars_delim wr 60 _ (by decide), h]
  rfl

theorem scalars_null (wr : Bool) (rest : Bytes) : scalars wr (NULL_KW ++ rest) = some (.null, rest) := by
  simp [scalars, NULL_KW, tag]

theorem scalars_true (wr : Bool) (rest : Bytes) : scalars wr (TRUE_KW ++ rest) = some (.bool true, rest) := by
  simp [scalars, NULL_KW, TRUE_KW, tag]

theorem scalars_false (wr : Bool) (rest : Bytes) : scalars wr (FALSE_KW ++ rest) = some (.bool false, rest) := by
  simp [scalars, NULL_KW, TRUE_KW, FALSE_KW, tag]

theorem scalars_arr_none (wr : Bool) (r : Bytes) : scalars wr (91 :: r) = none := by
  rw [scalars_delim wr 91 r (by decide)]
  rfl

theorem scalars_dict_none (wr : Bool) (r : Bytes) : scalars wr (60 :: 60 :: r) = none := by
  have hh : pHexString (60 :: 60 :: r) = none := by
    unfold pHexString
    simp only [List.length_cons]
    unfold hexBody
    rw [whiteSpace_nonws 60 r (by decide)]
    simp [show isHexDigit 60 = false by decide, whiteSpace_nonws 60 r (by decide)]
  rw [scalars_delim wr 60 _ (by decide), hh]
  rfl

theorem scalars_close_none (wr : Bool) (b : UInt8) (r : Bytes) (h : b = 93 ∨ b = 62) :
    scalars wr (b :: r) = none := by
  rcases h with rfl | rfl <;> rw [scalars_delim wr _ r (by decide)] <;> rfl

end Lopdf.ObjRt
