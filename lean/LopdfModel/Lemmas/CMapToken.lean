import LopdfModel.Spec.CMapText
import LopdfModel.Lemmas.Bytes
/-
  C15 — the tokens of the CMap grammar model: what each elementary parser (`tag`, `space0/1`,
  `multispace0/1`, `digit1`, `hex_char`) does on `token ++ rest`, given the class of the first byte
  of `rest`. The productions above them are proved by rewriting with these, one token at a time.
-/
namespace Lopdf.CMap
open Lopdf Lopdf.Gen

theorem PR.ok_bind {α β} (a : α) (r : Bytes) (f : α → Bytes → PR β) : (PR.ok a r).bind f = f a r := rfl

theorem pthen_ok {α} {a : Bytes → PR Unit} {i r : Bytes} (h : a i = .ok () r) (b : Bytes → PR α) :
    (a >>> b) i = b r := by
  rw [pthen, h, PR.ok_bind]

theorem pthen_error {α} {a : Bytes → PR Unit} {i : Bytes} (h : a i = .error) (b : Bytes → PR α) :
    (a >>> b) i = .error := by
  rw [pthen, h]; rfl

theorem palt_ok {α} {a : Bytes → PR α} {i r : Bytes} {x : α} (h : a i = .ok x r) (b : Bytes → PR α) :
    palt a b i = .ok x r := by
  rw [palt, h]

theorem palt_error {α} {a : Bytes → PR α} {i : Bytes} (h : a i = .error) (b : Bytes → PR α) :
    palt a b i = b i := by
  rw [palt, h]

/-- not a byte `multispace0` / `space0` would consume (blank, tab, LF, CR, `%`) -/
def NonWs (b : UInt8) : Prop := b ≠ 32 ∧ b ≠ 9 ∧ b ≠ 10 ∧ b ≠ 13 ∧ b ≠ 37

def Head (P : UInt8 → Prop) (l : Bytes) : Prop := ∃ y t, l = y :: t ∧ P y

theorem Head.append {P : UInt8 → Prop} {l : Bytes} (h : Head P l) (r : Bytes) : Head P (l ++ r) := by
  obtain ⟨y, t, rfl, hy⟩ := h; exact ⟨y, t ++ r, rfl, hy⟩

theorem Head.imp {P Q : UInt8 → Prop} {l : Bytes} (h : Head P l) (hpq : ∀ y, P y → Q y) : Head Q l := by
  obtain ⟨y, t, e, hy⟩ := h; exact ⟨y, t, e, hpq y hy⟩

theorem head_cons {P : UInt8 → Prop} {x : UInt8} (h : P x) (r : Bytes) : Head P (x :: r) := ⟨x, r, rfl, h⟩

theorem Head.length_pos {P : UInt8 → Prop} {l : Bytes} (h : Head P l) : 0 < l.length := by
  obtain ⟨y, t, rfl, _⟩ := h; simp

instance {P : UInt8 → Prop} [DecidablePred P] : (l : Bytes) → Decidable (Head P l)
  | [] => isFalse (by rintro ⟨_, _, e, _⟩; cases e)
  | y :: t => if h : P y then isTrue ⟨y, t, rfl, h⟩ else isFalse (by rintro ⟨_, _, e, h'⟩; cases e; exact h h')

/-- the text starts with a byte that is not white space: definitionally `Head NonWs l`, written out because
the statements of Thm/C15Text are phrased with it; the `Head` lemmas apply to it as they stand -/
def HeadNonWs (l : Bytes) : Prop := ∃ y t, l = y :: t ∧ NonWs y

theorem HeadNonWs.append {l : Bytes} (h : HeadNonWs l) (r : Bytes) : HeadNonWs (l ++ r) := Head.append h r

theorem headNonWs_cons {x : UInt8} (h : NonWs x) (r : Bytes) : HeadNonWs (x :: r) := ⟨x, r, rfl, h⟩

theorem head_kw (k : String) (y : UInt8) (t : Bytes) (e : strBytes k = y :: t) (hy : NonWs y) : HeadNonWs (strBytes k) :=
  ⟨y, t, e, hy⟩

instance (b : UInt8) : Decidable (NonWs b) := by unfold NonWs; infer_instance

instance (l : Bytes) : Decidable (HeadNonWs l) := inferInstanceAs (Decidable (Head NonWs l))

theorem digit_nonws {b : UInt8} (h : isDigit b = true) : NonWs b := by
  refine ⟨?_, ?_, ?_, ?_, ?_⟩ <;> (rintro rfl; revert h; decide)

theorem hexDigit_nonws {a : UInt8} (h : isHexDigit a = true) : NonWs a ∧ a ≠ 60 ∧ a ≠ 62 := by
  refine ⟨⟨?_, ?_, ?_, ?_, ?_⟩, ?_, ?_⟩ <;> (rintro rfl; revert h; decide)

theorem ptag_append (t rest : Bytes) : ptag t (t ++ rest) = .ok () rest := by
  have h : t.isPrefixOf (t ++ rest) = true := List.isPrefixOf_iff_prefix.mpr (List.prefix_append t rest)
  simp [ptag, h]

theorem ptagS_append (s : String) (rest : Bytes) : ptagS s (strBytes s ++ rest) = .ok () rest :=
  ptag_append _ _

theorem ptagS_bytes {s : String} {bs : Bytes} (e : strBytes s = bs) (rest : Bytes) :
    ptagS s (bs ++ rest) = .ok () rest := e ▸ ptagS_append s rest

theorem ptagS_head_ne {k : String} {c : UInt8} (hk : Head (fun y => y = c) (strBytes k)) {l : Bytes}
    (hl : Head (fun y => y ≠ c) l) : ptagS k l = .error := by
  obtain ⟨_, t, e, rfl⟩ := hk
  obtain ⟨y, r, rfl, hy⟩ := hl
  simp [ptagS, e, ptag, List.isPrefixOf, Ne.symm hy]

theorem ptagS_clash (k k' : String)
    (h : (strBytes k).isPrefixOf (strBytes k') = false ∧ (strBytes k').isPrefixOf (strBytes k) = false) (r : Bytes) :
    ptagS k (strBytes k' ++ r) = .error := by
  have : (strBytes k).isPrefixOf (strBytes k' ++ r) = false := by
    refine Bool.eq_false_iff.mpr fun hp => ?_
    rcases List.prefix_or_prefix_of_prefix (List.isPrefixOf_iff_prefix.mp hp) (List.prefix_append _ r) with p | p
    · exact Bool.eq_false_iff.mp h.1 (List.isPrefixOf_iff_prefix.mpr p)
    · exact Bool.eq_false_iff.mp h.2 (List.isPrefixOf_iff_prefix.mpr p)
  simp [ptagS, ptag, this]

theorem t_lt (r : Bytes) : ptagS "<" (60 :: r) = .ok () r := ptagS_bytes (bs := [60]) (by decide +kernel) r
theorem t_gt (r : Bytes) : ptagS ">" (62 :: r) = .ok () r := ptagS_bytes (bs := [62]) (by decide +kernel) r
theorem t_lb (r : Bytes) : ptagS "[" (91 :: r) = .ok () r := ptagS_bytes (bs := [91]) (by decide +kernel) r
theorem t_rb (r : Bytes) : ptagS "]" (93 :: r) = .ok () r := ptagS_bytes (bs := [93]) (by decide +kernel) r
theorem t_slash (r : Bytes) : ptagS "/" (47 :: r) = .ok () r := ptagS_bytes (bs := [47]) (by decide +kernel) r

theorem t_lt_ne {x : UInt8} (h : x ≠ 60) (r : Bytes) : ptagS "<" (x :: r) = .error :=
  ptagS_head_ne (k := "<") (by decide +kernel) (head_cons (P := fun y => y ≠ 60) h r)

theorem phexChar_pair (a b : UInt8) (r : Bytes) (ha : isHexDigit a = true) (hb : isHexDigit b = true) :
    phexChar (a :: b :: r) = .ok ((hexVal a).toNat * 16 + (hexVal b).toNat) r := by
  simp [phexChar, ha, hb]

theorem phexChar_stop (x : UInt8) (r : Bytes) (hx : isHexDigit x = false) : phexChar (x :: r) = .error := by
  cases r with
  | nil => rfl
  | cons y t => simp [phexChar, hx]

theorem takeDigits_digits (n : Bytes) (x : UInt8) (r : Bytes) (hn : ∀ b ∈ n, isDigit b = true) (hx : isDigit x = false) :
    takeDigits (n ++ x :: r) = x :: r := by
  induction n with
  | nil => simp [takeDigits, hx]
  | cons b bs ih =>
    simp only [List.cons_append, takeDigits, hn b (by simp), if_true]
    exact ih (fun c hc => hn c (by simp [hc]))

/-! ### the words of the frame start with a letter or `/` -/

theorem hn_s_CIDInit : HeadNonWs (strBytes "/CIDInit") := by decide +kernel
theorem hn_s_ProcSet : HeadNonWs (strBytes "/ProcSet") := by decide +kernel
theorem hn_s_Procset : HeadNonWs (strBytes "/Procset") := by decide +kernel
theorem hn_findresource : HeadNonWs (strBytes "findresource") := by decide +kernel
theorem hn_begin : HeadNonWs (strBytes "begin") := by decide +kernel
theorem hn_dict : HeadNonWs (strBytes "dict") := by decide +kernel
theorem hn_begincmap : HeadNonWs (strBytes "begincmap") := by decide +kernel
theorem hn_def : HeadNonWs (strBytes "def") := by decide +kernel
theorem hn_s_CIDSystemInfo : HeadNonWs (strBytes "/CIDSystemInfo") := by decide +kernel
theorem hn_Adobe_Identity_UCS : HeadNonWs (strBytes "Adobe-Identity-UCS") := by decide +kernel
theorem hn_begincodespacerange : HeadNonWs (strBytes "begincodespacerange") := by decide +kernel
theorem hn_beginbfchar : HeadNonWs (strBytes "beginbfchar") := by decide +kernel
theorem hn_beginbfrange : HeadNonWs (strBytes "beginbfrange") := by decide +kernel
theorem hn_endcmap : HeadNonWs (strBytes "endcmap") := by decide +kernel
theorem hn_CMapName : HeadNonWs (strBytes "CMapName") := by decide +kernel
theorem hn_currentdict : HeadNonWs (strBytes "currentdict") := by decide +kernel
theorem hn_s_CMap : HeadNonWs (strBytes "/CMap") := by decide +kernel
theorem hn_defineresource : HeadNonWs (strBytes "defineresource") := by decide +kernel
theorem hn_pop : HeadNonWs (strBytes "pop") := by decide +kernel
theorem hn_end : HeadNonWs (strBytes "end") := by decide +kernel

end Lopdf.CMap

namespace Lopdf.CMapText
open Lopdf Lopdf.CMap Lopdf.Gen

theorem space0_head {l : Bytes} (h : HeadNonWs l) : space0 l = l := by
  obtain ⟨y, t, rfl, hy⟩ := h; simp [space0, hy.1, hy.2.1]

theorem space0_tok {w l : Bytes} (hw : Blank0 w) (hl : HeadNonWs l) : space0 (w ++ l) = l := by
  induction w with
  | nil => exact space0_head hl
  | cons b bs ih =>
    simp only [List.cons_append, space0, hw b (by simp), if_true]
    exact ih (fun c hc => hw c (by simp [hc]))

theorem pspace0_tok {w l : Bytes} (hw : Blank0 w) (hl : HeadNonWs l) : pspace0 (w ++ l) = .ok () l :=
  congrArg (PR.ok ()) (space0_tok hw hl)

theorem pspace1_tok {w l : Bytes} (hw : Blank1 w) (hl : HeadNonWs l) : pspace1 (w ++ l) = .ok () l := by
  obtain ⟨h0, hne⟩ := hw
  cases w with
  | nil => exact absurd rfl hne
  | cons b bs =>
    simp only [List.cons_append, pspace1, h0 b (by simp), if_true]
    rw [space0_tok (fun c hc => h0 c (by simp [hc])) hl]

theorem pspace1_head {l : Bytes} (h : HeadNonWs l) : pspace1 l = .error := by
  obtain ⟨y, t, rfl, hy⟩ := h; simp [pspace1, hy.1, hy.2.1]

theorem skipToEol_body (body : Bytes) (e : UInt8) (t : Bytes) (hb : ∀ b ∈ body, b ≠ 10 ∧ b ≠ 13) (he : e = 10 ∨ e = 13) :
    skipToEol (body ++ e :: t) = some (e :: t) := by
  induction body with
  | nil => simp [skipToEol, he]
  | cons b bs ih =>
    have := hb b (by simp)
    simp only [List.cons_append, skipToEol, this.1, this.2, or_self, if_false]
    exact ih (fun c hc => hb c (by simp [hc]))

theorem msGo_ms {w : Bytes} (h : MS w) : ∀ (fuel : Nat) (x : UInt8) (r : Bytes), NonWs x → w.length < fuel →
    msGo fuel (w ++ x :: r) = x :: r := by
  induction h with
  | nil =>
    rintro (_ | f) x r ⟨h1, h2, h3, h4, h5⟩ hf
    · cases hf
    · rw [List.nil_append, msGo, if_neg (by simp [h1, h2, h3, h4]), if_neg h5]
  | ws b bs hb _ ih =>
    rintro (_ | f) x r hx hf
    · cases hf
    · rw [List.cons_append, msGo, if_pos hb]
      exact ih f x r hx (Nat.lt_of_succ_lt_succ hf)
  | comment body e bs hbody he _ ih =>
    -- one unit of fuel for `%` up to the end of the line, one for the end-of-line byte
    rintro (_ | _ | f) x r hx hf
    · cases hf
    · simp at hf
    · have hee : e = 32 ∨ e = 9 ∨ e = 10 ∨ e = 13 := by rcases he with h | h <;> simp [h]
      rw [List.append_assoc, List.cons_append, List.cons_append, msGo, if_neg (by decide), if_pos rfl]
      simp only [skipToEol_body body e _ hbody he]
      rw [msGo, if_pos hee]
      refine ih f x r hx ?_
      simp only [List.length_append, List.length_cons] at hf; omega

theorem ms0_tok {m l : Bytes} (hm : MS m) (hl : HeadNonWs l) : multispace0 (m ++ l) = l := by
  obtain ⟨x, r, rfl, hx⟩ := hl
  exact msGo_ms hm _ x r hx (by simp only [List.length_append, List.length_cons]; omega)

theorem pms0_tok {m l : Bytes} (hm : MS m) (hl : HeadNonWs l) : pms0 (m ++ l) = .ok () l :=
  congrArg (PR.ok ()) (ms0_tok hm hl)

theorem pms0_ms (w : Bytes) (x : UInt8) (r : Bytes) (h : MS w) (hx : NonWs x) : pms0 (w ++ x :: r) = .ok () (x :: r) :=
  pms0_tok h (headNonWs_cons hx r)

theorem pms1_tok {m l : Bytes} (hm : MS1 m) (hl : HeadNonWs l) : pms1 (m ++ l) = .ok () l := by
  have hlt : l.length < (m ++ l).length := by
    have := List.length_pos_iff.mpr hm.2
    simp only [List.length_append]; omega
  simp only [pms1, ms0_tok hm.1 hl, hlt, if_true]

/-! The separators of the canonical spelling: one blank, one line feed. -/

theorem blank0_nil : Blank0 [] := fun _ h => nomatch h
theorem blank1_sp : Blank1 [32] := ⟨by simp [Blank0], by simp⟩
theorem ms_lf : MS [10] := .ws 10 _ (by simp) .nil
theorem ms1_lf : MS1 [10] := ⟨ms_lf, by simp⟩
theorem digits1 (c : UInt8) (h : isDigit c = true) : AllDigitsC [c] := ⟨by simpa using h, by simp⟩

theorem digits_headNonWs {n : Bytes} (hn : AllDigitsC n) (t : Bytes) : HeadNonWs (n ++ t) := by
  obtain ⟨hd, hne⟩ := hn
  cases n with
  | nil => exact absurd rfl hne
  | cons b bs => exact ⟨b, bs ++ t, rfl, digit_nonws (hd b (by simp))⟩

theorem pdigit1_tok {n w : Bytes} (hn : AllDigitsC n) (hw : Blank1 w) (t : Bytes) :
    pdigit1 (n ++ (w ++ t)) = .ok () (w ++ t) := by
  obtain ⟨hd, hne⟩ := hn
  obtain ⟨h0, hwne⟩ := hw
  cases w with
  | nil => exact absurd rfl hwne
  | cons c cs =>
    have hc : isDigit c = false := by rcases h0 c (by simp) with rfl | rfl <;> decide
    cases n with
    | nil => exact absurd rfl hne
    | cons b bs =>
      have := takeDigits_digits (b :: bs) c (cs ++ t) hd hc
      simp only [List.cons_append] at this ⊢
      simp only [pdigit1, hd b (by simp), if_true, this]

end Lopdf.CMapText
