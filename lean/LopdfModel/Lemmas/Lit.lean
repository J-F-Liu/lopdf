import LopdfModel.Lemmas.Lex
/-
  Literal strings: `write_string`'s two passes (`litScan` marks the bytes to escape with a stack
  of open parentheses, `litEmit` writes them) against `inner_literal_string`.

  The string is described by a recursive specification `Seg op j t mask`: `t` scanned from stack
  height `j` never goes below `j`; `mask` says which bytes are escaped. `op = false`: the scan
  returns to height `j` (every `(` pushed in `t` is popped in `t`); `op = true`: `(` that are never
  popped may remain (they are escaped). Three facts:
    * every string scanned from height 0 has such a description (`seg_exists`),
    * `litScan` computes exactly the positions marked in `mask` (`scan_seg`),
    * `innerLit` reads back the bytes emitted for `mask` (`parse_seg`).
-/
namespace Lopdf.LitRt
open Lopdf Gen

inductive Seg : Bool → Nat → Bytes → List Bool → Prop
  | nil (op : Bool) (j : Nat) : Seg op j [] []
  | plain (op : Bool) (j : Nat) (b : UInt8) (t : Bytes) (m : List Bool) :
      b ≠ 40 → b ≠ 41 → b ≠ 92 → b ≠ 13 → Seg op j t m → Seg op j (b :: t) (false :: m)
  | esc (op : Bool) (j : Nat) (b : UInt8) (t : Bytes) (m : List Bool) :
      (b = 92 ∨ b = 13) → Seg op j t m → Seg op j (b :: t) (true :: m)
  | deep (op : Bool) (j : Nat) (t : Bytes) (m : List Bool) :
      MAX_BRACKET ≤ j → Seg op j t m → Seg op j (40 :: t) (true :: m)
  | close0 (op : Bool) (t : Bytes) (m : List Bool) :
      Seg op 0 t m → Seg op 0 (41 :: t) (true :: m)
  | unmatched (j : Nat) (t : Bytes) (m : List Bool) :
      j < MAX_BRACKET → Seg true (j + 1) t m → Seg true j (40 :: t) (true :: m)
  | group (op : Bool) (j : Nat) (t1 : Bytes) (m1 : List Bool) (t2 : Bytes) (m2 : List Bool) :
      j < MAX_BRACKET → Seg false (j + 1) t1 m1 → Seg op j t2 m2 →
      Seg op j (40 :: (t1 ++ 41 :: t2)) (false :: (m1 ++ false :: m2))

theorem Seg.length_eq {op : Bool} {j : Nat} {t : Bytes} {m : List Bool} (h : Seg op j t m) :
    m.length = t.length := by
  induction h <;> simp_all <;> omega

theorem seg_exists : ∀ (n : Nat) (t : Bytes), t.length ≤ n → ∀ j : Nat,
    (∃ m, Seg true j t m) ∨
    (0 < j ∧ ∃ t1 t2 m1, t = t1 ++ 41 :: t2 ∧ Seg false j t1 m1) := by
  intro n
  induction n with
  | zero =>
    intro t ht j
    have : t = [] := by cases t <;> simp_all
    subst this
    exact Or.inl ⟨[], Seg.nil true j⟩
  | succ n ih =>
    intro t ht j
    cases t with
    | nil => exact Or.inl ⟨[], Seg.nil true j⟩
    | cons b r =>
      have hr : r.length ≤ n := by simp at ht; omega
      -- a byte that neither pushes nor pops: prefix it to the description of the rest
      have step : ∀ (mk : Bool), (∀ op t m, Seg op j t m → Seg op j (b :: t) (mk :: m)) →
          (∃ m, Seg true j (b :: r) m) ∨
          (0 < j ∧ ∃ t1 t2 m1, b :: r = t1 ++ 41 :: t2 ∧ Seg false j t1 m1) := by
        intro mk hc
        rcases ih r hr j with ⟨m, hm⟩ | ⟨hpos, t1, t2, m1, e, h1⟩
        · exact Or.inl ⟨mk :: m, hc _ _ _ hm⟩
        · exact Or.inr ⟨hpos, b :: t1, t2, mk :: m1, by simp [e], hc _ _ _ h1⟩
      by_cases h40 : b = 40
      · subst h40
        by_cases hj : MAX_BRACKET ≤ j
        · exact step true fun op t m => Seg.deep op j t m hj
        · have hj' : j < MAX_BRACKET := by omega
          rcases ih r hr (j + 1) with ⟨m, hm⟩ | ⟨_, t1, t2, m1, e, h1⟩
          · exact Or.inl ⟨true :: m, Seg.unmatched j r m hj' hm⟩
          · have ht2 : t2.length ≤ n := by
              have := congrArg List.length e
              simp at this; omega
            rcases ih t2 ht2 j with ⟨m2, hm2⟩ | ⟨hpos, t1', t2', m1', e', h1'⟩
            · exact Or.inl ⟨false :: (m1 ++ false :: m2), by rw [e]; exact Seg.group true j t1 m1 t2 m2 hj' h1 hm2⟩
            · refine Or.inr ⟨hpos, 40 :: (t1 ++ 41 :: t1'), t2', false :: (m1 ++ false :: m1'), ?_,
                Seg.group false j t1 m1 t1' m1' hj' h1 h1'⟩
              rw [e, e']; simp
      · by_cases h41 : b = 41
        · subst h41
          cases j with
          | zero => exact step true fun op t m => Seg.close0 op t m
          | succ j => exact Or.inr ⟨by omega, [], r, [], rfl, Seg.nil false (j + 1)⟩
        · by_cases hesc : b = 92 ∨ b = 13
          · exact step true fun op t m => Seg.esc op j b t m hesc
          · exact step false fun op t m =>
              Seg.plain op j b t m h40 h41 (fun h => hesc (Or.inl h)) (fun h => hesc (Or.inr h))

/-- positions (counted from `i`) marked in a mask -/
def EscSet : Nat → List Bool → Nat → Prop
  | _, [], _ => False
  | i, m :: ms, x => (x = i ∧ m = true) ∨ EscSet (i + 1) ms x

theorem EscSet_ge : ∀ (m : List Bool) (i x : Nat), EscSet i m x → i ≤ x := by
  intro m
  induction m with
  | nil => intro i x h; simp [EscSet] at h
  | cons a ms ih =>
    intro i x h
    rcases h with ⟨rfl, _⟩ | h
    · exact Nat.le_refl _
    · have := ih (i + 1) x h; omega

theorem EscSet_append : ∀ (m1 m2 : List Bool) (i x : Nat),
    EscSet i (m1 ++ m2) x ↔ EscSet i m1 x ∨ EscSet (i + m1.length) m2 x := by
  intro m1
  induction m1 with
  | nil => intro m2 i x; simp [EscSet]
  | cons a ms ih =>
    intro m2 i x
    simp only [List.cons_append, EscSet, ih m2 (i + 1) x, List.length_cons, or_assoc,
      show i + 1 + ms.length = i + (ms.length + 1) by omega]

theorem scan_cons {b : UInt8} {t u : Bytes} {i : Nat} {st st' stR acc acc' accR : List Nat}
    (hstep : litScan i st acc (b :: (t ++ u)) = litScan (i + 1) st' acc' (t ++ u))
    (e : litScan (i + 1) st' acc' (t ++ u) = litScan (i + 1 + t.length) stR accR u) :
    litScan i st acc (b :: t ++ u) = litScan (i + (b :: t).length) stR accR u := by
  rw [List.cons_append, hstep, e, List.length_cons, show i + 1 + t.length = i + (t.length + 1) by omega]

theorem scan_seg {op : Bool} {j : Nat} {t : Bytes} {mask : List Bool} (h : Seg op j t mask) :
    ∀ (i : Nat) (st acc : List Nat) (u : Bytes), st.length = j →
    ∃ (st2 acc2 : List Nat), litScan i st acc (t ++ u) = litScan (i + t.length) (st2 ++ st) acc2 u ∧
      (∀ x, (x ∈ acc2 ∨ x ∈ st2) ↔ (x ∈ acc ∨ EscSet i mask x)) ∧ (op = false → st2 = []) := by
  -- a byte whose position goes to `acc` and that leaves the stack alone
  have marked : ∀ {op : Bool} {b : UInt8} {t : Bytes} {m : List Bool} (i : Nat) (st acc : List Nat) (u : Bytes),
      litScan i st acc (b :: (t ++ u)) = litScan (i + 1) st (i :: acc) (t ++ u) →
      (∃ (st2 acc2 : List Nat), litScan (i + 1) st (i :: acc) (t ++ u) = litScan (i + 1 + t.length) (st2 ++ st) acc2 u ∧
        (∀ x, (x ∈ acc2 ∨ x ∈ st2) ↔ (x ∈ i :: acc ∨ EscSet (i + 1) m x)) ∧ (op = false → st2 = [])) →
      ∃ (st2 acc2 : List Nat), litScan i st acc (b :: t ++ u) = litScan (i + (b :: t).length) (st2 ++ st) acc2 u ∧
        (∀ x, (x ∈ acc2 ∨ x ∈ st2) ↔ (x ∈ acc ∨ EscSet i (true :: m) x)) ∧ (op = false → st2 = []) := by
    rintro op b t m i st acc u hstep ⟨st2, acc2, e, hx, hop⟩
    refine ⟨st2, acc2, scan_cons hstep e, fun x => ?_, hop⟩
    rw [hx x, EscSet, List.mem_cons, and_iff_left rfl, or_assoc, or_left_comm]
  induction h with
  | nil op j =>
    intro i st acc u _
    exact ⟨[], acc, by simp, by simp [EscSet], fun _ => rfl⟩
  | plain op j b t m h40 h41 h92 h13 _ ih =>
    intro i st acc u hst
    obtain ⟨st2, acc2, e, hx, hop⟩ := ih (i + 1) st acc u hst
    refine ⟨st2, acc2, scan_cons (by simp [litScan, h40, h41, h92, h13]) e, fun x => ?_, hop⟩
    rw [hx x]; simp [EscSet]
  | esc op j b t m hb _ ih =>
    intro i st acc u hst
    exact marked i st acc u (by rcases hb with rfl | rfl <;> simp [litScan]) (ih (i + 1) st (i :: acc) u hst)
  | deep op j t m hj _ ih =>
    intro i st acc u hst
    exact marked i st acc u (by simp [litScan, hst, hj]) (ih (i + 1) st (i :: acc) u hst)
  | close0 op t m _ ih =>
    intro i st acc u hst
    obtain rfl : st = [] := List.length_eq_zero_iff.mp hst
    exact marked i [] acc u (by simp [litScan]) (ih (i + 1) [] (i :: acc) u rfl)
  | unmatched j t m hj _ ih =>
    intro i st acc u hst
    have hpush : litScan i st acc (40 :: (t ++ u)) = litScan (i + 1) (i :: st) acc (t ++ u) := by
      simp [litScan, hst, Nat.not_le.mpr hj]
    obtain ⟨st2, acc2, e, hx, _⟩ := ih (i + 1) (i :: st) acc u (by simp [hst])
    refine ⟨st2 ++ [i], acc2, ?_, fun x => ?_, fun h => by cases h⟩
    · rw [List.append_assoc]; exact scan_cons hpush e
    · rw [List.mem_append, List.mem_singleton, ← or_assoc, hx x, EscSet, and_iff_left rfl, or_assoc,
        or_comm (a := EscSet (i + 1) m x)]
  | group op j t1 m1 t2 m2 hj h1 _ ih1 ih2 =>
    intro i st acc u hst
    have hpush : litScan i st acc (40 :: (t1 ++ 41 :: (t2 ++ u))) =
        litScan (i + 1) (i :: st) acc (t1 ++ 41 :: (t2 ++ u)) := by
      simp [litScan, hst, Nat.not_le.mpr hj]
    obtain ⟨st1, acc1, e1, hx1, hop1⟩ := ih1 (i + 1) (i :: st) acc (41 :: (t2 ++ u)) (by simp [hst])
    obtain rfl : st1 = [] := hop1 rfl
    obtain ⟨st2, acc2, e2, hx2, hop2⟩ := ih2 (i + 1 + t1.length + 1) st acc1 u hst
    refine ⟨st2, acc2, ?_, fun x => ?_, hop2⟩
    · have ea : 40 :: (t1 ++ 41 :: t2) ++ u = 40 :: (t1 ++ 41 :: (t2 ++ u)) := by simp
      rw [ea, hpush, e1, List.nil_append, litScan, if_neg (by decide), if_pos rfl, e2]
      simp only [List.length_cons, List.length_append]
      rw [show i + 1 + t1.length + 1 + t2.length = i + (t1.length + (t2.length + 1) + 1) by omega]
    · have h1x := hx1 x
      simp only [List.not_mem_nil, or_false] at h1x
      rw [hx2 x, h1x, EscSet, EscSet_append, EscSet, h1.length_eq]
      simp [or_assoc]

/-- bytes emitted for a mask -/
def emitMask : Bytes → List Bool → Bytes
  | b :: t, m :: ms => (if m then [92, if b = 13 then 114 else b] else [b]) ++ emitMask t ms
  | _, _ => []

theorem emitMask_false (b : UInt8) (t : Bytes) (m : List Bool) :
    emitMask (b :: t) (false :: m) = b :: emitMask t m := rfl

theorem litEmit_mask (esc : List Nat) : ∀ (t : Bytes) (mask : List Bool) (i : Nat), mask.length = t.length →
    (∀ x, i ≤ x → (x ∈ esc ↔ EscSet i mask x)) → litEmit esc i t = emitMask t mask := by
  intro t
  induction t with
  | nil => intro mask i _ _; cases mask <;> simp [litEmit, emitMask]
  | cons b r ih =>
    intro mask i hl hx
    cases mask with
    | nil => simp at hl
    | cons m ms =>
      have hr : litEmit esc (i + 1) r = emitMask r ms := by
        apply ih ms (i + 1) (by simpa using hl)
        intro x hxi
        rw [hx x (by omega)]
        simp only [EscSet]
        constructor
        · rintro (⟨h, _⟩ | h)
          · omega
          · exact h
        · exact Or.inr
      have hi := hx i (Nat.le_refl _)
      simp only [EscSet, true_and] at hi
      have hno : ¬ EscSet (i + 1) ms i := fun h => by have := EscSet_ge _ _ _ h; omega
      simp only [litEmit, emitMask, hr]
      cases m
      · have : i ∉ esc := fun h => by rcases hi.mp h with h | h; exact absurd h (by simp); exact hno h
        simp [this]
      · have : i ∈ esc := hi.mpr (Or.inl rfl)
        simp [this]

theorem emitMask_append (t1 : Bytes) (m1 : List Bool) (t2 : Bytes) (m2 : List Bool) (hl : m1.length = t1.length) :
    emitMask (t1 ++ t2) (m1 ++ m2) = emitMask t1 m1 ++ emitMask t2 m2 := by
  induction t1 generalizing m1 with
  | nil =>
    obtain rfl : m1 = [] := List.length_eq_zero_iff.mp hl
    rfl
  | cons b r ih =>
    cases m1 with
    | nil => simp at hl
    | cons a as =>
      simp only [List.cons_append, emitMask, List.append_assoc]
      rw [ih as (by simpa using hl)]

theorem writeString_lit_mask {s : Bytes} {mask : List Bool} (h : Seg true 0 s mask) :
    writeString s .lit = 40 :: (emitMask s mask ++ [41]) := by
  obtain ⟨st2, acc2, e, hx, _⟩ := scan_seg h 0 [] [] [] rfl
  simp only [List.append_nil, Nat.zero_add] at e
  have hemit : litEmit (litScan 0 [] [] s) 0 s = emitMask s mask := by
    apply litEmit_mask _ s mask 0 h.length_eq
    intro x _
    rw [e, litScan, List.mem_append, hx x]
    simp
  simp only [writeString, hemit, List.cons_append, List.nil_append]

/-- the escape sequences `write_string` emits: `\\`, `\r`, `\(`, `\)` -/
theorem escapeSeq_marked (b : UInt8) (r : Bytes) (h : b = 92 ∨ b = 13 ∨ b = 40 ∨ b = 41) :
    escapeSeq ((if b = 13 then 114 else b) :: r) = some (some b, r) := by
  rcases h with rfl | rfl | rfl | rfl <;> rfl

theorem innerLit_close (fuel d : Nat) (X : Bytes) : innerLit (fuel + 1) d (41 :: X) = ([], 41 :: X) := rfl

theorem innerLit_escaped (fuel d : Nat) (b c : UInt8) (r : Bytes) (h : escapeSeq (b :: r) = some (some c, r))
    (p : Bytes × Bytes) (hp : innerLit fuel d r = p) :
    innerLit (fuel + 1) d (92 :: b :: r) = (c :: p.1, p.2) := by
  unfold innerLit
  simp [h, hp]

theorem innerLit_plain (fuel d : Nat) (b : UInt8) (r : Bytes)
    (h40 : b ≠ 40) (h41 : b ≠ 41) (h92 : b ≠ 92) (h13 : b ≠ 13)
    (p : Bytes × Bytes) (hp : innerLit fuel d r = p) :
    innerLit (fuel + 1) d (b :: r) = (b :: p.1, p.2) := by
  unfold innerLit
  split
  · rename_i heq; cases heq
  · rename_i r' heq; injection heq with e1 _; exact absurd e1 h92
  · rename_i r' heq; injection heq with e1 _; exact absurd e1 h13
  · rename_i r' heq; injection heq with e1 _; exact absurd e1 h13
  · rename_i r' heq; injection heq with e1 e2; subst e1; subst e2; simp [hp]
  · rename_i r' heq; injection heq with e1 _; exact absurd e1 h40
  · rename_i heq; injection heq with e1 _; exact absurd e1 h41
  · rename_i heq; injection heq with e1 e2; subst e1; subst e2; simp [hp]

theorem innerLit_group (fuel d : Nat) (r inner r2 out r3 : Bytes)
    (h1 : innerLit fuel d r = (inner, 41 :: r2)) (h2 : innerLit fuel (d + 1) r2 = (out, r3)) :
    innerLit (fuel + 1) (d + 1) (40 :: r) = ([40] ++ inner ++ [41] ++ out, r3) := by
  unfold innerLit
  simp [h1, h2]

theorem parse_seg {op : Bool} {j : Nat} {t : Bytes} {mask : List Bool} (h : Seg op j t mask) :
    ∀ (fuel d : Nat) (X : Bytes), MAX_BRACKET ≤ d + j → (emitMask t mask).length + 1 ≤ fuel →
      innerLit fuel d (emitMask t mask ++ 41 :: X) = (t, 41 :: X) := by
  -- an escaped byte: `\`, its escape character, then the rest
  have marked : ∀ (b : UInt8) (t : Bytes) (m : List Bool) (fuel d : Nat) (X : Bytes),
      (b = 92 ∨ b = 13 ∨ b = 40 ∨ b = 41) → (emitMask (b :: t) (true :: m)).length + 1 ≤ fuel →
      (∀ f, (emitMask t m).length + 1 ≤ f → innerLit f d (emitMask t m ++ 41 :: X) = (t, 41 :: X)) →
      innerLit fuel d (emitMask (b :: t) (true :: m) ++ 41 :: X) = (b :: t, 41 :: X) := by
    intro b t m fuel d X hb hf ih
    obtain ⟨f, rfl, hf'⟩ := fuel_succ hf
    exact innerLit_escaped f d _ b _ (escapeSeq_marked b _ hb) _ (ih f (Nat.le_of_succ_le hf'))
  induction h with
  | nil op j =>
    intro fuel d X _ hf
    obtain ⟨f, rfl, _⟩ := fuel_succ hf
    exact innerLit_close f d X
  | plain op j b t m h40 h41 h92 h13 _ ih =>
    intro fuel d X hd hf
    obtain ⟨f, rfl, hf'⟩ := fuel_succ hf
    exact innerLit_plain f d b _ h40 h41 h92 h13 _ (ih f d X hd hf')
  | esc op j b t m hb _ ih =>
    intro fuel d X hd hf
    exact marked b t m fuel d X (by rcases hb with h | h <;> simp [h]) hf fun f => ih f d X hd
  | deep op j t m _ _ ih =>
    intro fuel d X hd hf
    exact marked 40 t m fuel d X (by simp) hf fun f => ih f d X hd
  | close0 op t m _ ih =>
    intro fuel d X hd hf
    exact marked 41 t m fuel d X (by simp) hf fun f => ih f d X hd
  | unmatched j t m _ _ ih =>
    intro fuel d X hd hf
    exact marked 40 t m fuel d X (by simp) hf fun f => ih f d X (by omega)
  | group op j t1 m1 t2 m2 hj h1 h2 ih1 ih2 =>
    intro fuel d X hd hf
    have hemit : emitMask (40 :: (t1 ++ 41 :: t2)) (false :: (m1 ++ false :: m2)) =
        40 :: (emitMask t1 m1 ++ 41 :: emitMask t2 m2) := by
      rw [emitMask_false, emitMask_append t1 m1 (41 :: t2) (false :: m2) h1.length_eq, emitMask_false]
    rw [hemit] at hf ⊢
    obtain ⟨f, rfl, hf'⟩ := fuel_succ hf
    simp only [List.length_cons, List.length_append] at hf'
    obtain ⟨d, rfl⟩ : ∃ d', d = d' + 1 := Nat.exists_eq_add_one_of_ne_zero (by omega)
    have e : 40 :: (emitMask t1 m1 ++ 41 :: emitMask t2 m2) ++ 41 :: X =
        40 :: (emitMask t1 m1 ++ 41 :: (emitMask t2 m2 ++ 41 :: X)) := by simp
    rw [e, innerLit_group f d _ _ _ _ _ (ih1 f d (emitMask t2 m2 ++ 41 :: X) (by omega) (by omega))
      (ih2 f (d + 1) X hd (by omega))]
    simp

/-- **Literal strings, every byte string.** What `write_string` writes for a literal string —
balanced parentheses raw up to `MAX_BRACKET` levels, unbalanced and deeper ones, backslash and CR
escaped — is read back by `literal_string` as exactly that string, whatever follows. -/
theorem lit_rt_full (s rest : Bytes) : pLiteral (writeString s .lit ++ rest) = some (s, rest) := by
  rcases seg_exists s.length s (Nat.le_refl _) 0 with ⟨mask, hseg⟩ | ⟨hpos, _⟩
  · rw [writeString_lit_mask hseg]
    simp only [List.cons_append, List.nil_append, List.append_assoc, pLiteral]
    rw [parse_seg hseg _ MAX_BRACKET rest (by omega) (by simp)]
    rfl
  · omega

end Lopdf.LitRt

namespace Lopdf
open Gen LitRt

/-! ### strings without parentheses: only `\` and CR are escaped -/

def NoParens (s : Bytes) : Prop := ∀ b ∈ s, b ≠ 40 ∧ b ≠ 41

def needsEsc (b : UInt8) : Bool := b = 92 || b = 13

/-- what `write_string` emits for a string without parentheses -/
def escBytes : Bytes → Bytes
  | [] => []
  | b :: rest => (if needsEsc b then [92, if b = 13 then 114 else b] else [b]) ++ escBytes rest

theorem seg_noparens (s : Bytes) (hs : NoParens s) :
    Seg true 0 s (s.map needsEsc) ∧ emitMask s (s.map needsEsc) = escBytes s := by
  induction s with
  | nil => exact ⟨Seg.nil true 0, rfl⟩
  | cons b r ih =>
    obtain ⟨hseg, hemit⟩ := ih fun x hx => hs x (List.mem_cons_of_mem _ hx)
    obtain ⟨h40, h41⟩ := hs b List.mem_cons_self
    refine ⟨?_, by simp only [List.map_cons, emitMask, escBytes, hemit]⟩
    cases hb : needsEsc b with
    | true => exact List.map_cons ▸ hb ▸ Seg.esc true 0 b r _ (by simpa [needsEsc] using hb) hseg
    | false =>
      have hb' : b ≠ 92 ∧ b ≠ 13 := by simpa [needsEsc] using hb
      exact List.map_cons ▸ hb ▸ Seg.plain true 0 b r _ h40 h41 hb'.1 hb'.2 hseg

theorem writeString_lit_noparens (s : Bytes) (hs : NoParens s) :
    writeString s .lit = [40] ++ escBytes s ++ [41] := by
  rw [writeString_lit_mask (seg_noparens s hs).1, (seg_noparens s hs).2]
  rfl

end Lopdf
