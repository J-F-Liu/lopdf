import LopdfModel.Spec.LzwCodec
/-
  The LZW reference decoder inverts the reference encoder. Bit layer first; then the decoder's step on a code the
  encoder wrote, and the invariant of the encoder loop: the decoder's table is the encoder's minus its newest entry.
-/
namespace Lopdf.Spec.LzwC
open Lopdf

theorem lead_bit (P c : Nat) (hP : 0 < P) (h : c < 2 * P) :
    (if c / P % 2 = 1 then P else 0) + c % P = c ∧ c % P < P := by
  have hq : c / P < 2 := Nat.div_lt_of_lt_mul (by omega)
  have hdm := Nat.div_add_mod c P
  refine ⟨?_, Nat.mod_lt _ hP⟩
  generalize c / P = q at hq hdm
  obtain rfl | rfl : q = 0 ∨ q = 1 := by omega
  · simpa using hdm
  · simpa using hdm

theorem readBits_codeBits : ∀ (w c : Nat) (rest : List Bool), c < 2 ^ w →
    readBits w (codeBits w c ++ rest) = some (c, rest) := by
  intro w
  induction w with
  | zero => intro c rest h; simp at h; subst h; rfl
  | succ w ih =>
    intro c rest h
    obtain ⟨hv, hm⟩ := lead_bit (2 ^ w) c (Nat.two_pow_pos w) (by rw [Nat.pow_succ] at h; omega)
    rw [codeBits, List.cons_append, readBits, ih _ rest hm]
    simp only [decide_eq_true_eq, hv]

theorem codeBits_length : ∀ (w c : Nat), (codeBits w c).length = w := by
  intro w; induction w with
  | zero => intro c; rfl
  | succ w ih => intro c; simp [codeBits, ih]

theorem codeBits_readBits : ∀ (w : Nat) (bs : List Bool), bs.length = w →
    ∃ v, readBits w bs = some (v, []) ∧ v < 2 ^ w ∧ codeBits w v = bs := by
  intro w
  induction w with
  | zero => intro bs h; have : bs = [] := List.length_eq_zero_iff.mp h; subst this; exact ⟨0, rfl, by decide, rfl⟩
  | succ w ih =>
    intro bs h
    cases bs with
    | nil => simp at h
    | cons b bs =>
      obtain ⟨v, hr, hv, hc⟩ := ih bs (by simpa using h)
      have hp : 0 < 2 ^ w := Nat.two_pow_pos w
      refine ⟨(if b then 2 ^ w else 0) + v, by simp [readBits, hr], by rw [Nat.pow_succ]; split <;> omega, ?_⟩
      cases b
      · simp [codeBits, Nat.div_eq_of_lt hv, Nat.mod_eq_of_lt hv, hc]
      · simp [codeBits, Nat.add_div_left _ hp, Nat.div_eq_of_lt hv, Nat.mod_eq_of_lt hv, hc]
theorem byteBits_byteOfBits (a : List Bool) (h : a.length ≤ 8) :
    codeBits 8 (byteOfBits a).toNat = a ++ List.replicate (8 - a.length) false := by
  obtain ⟨v, hr, hv, hc⟩ := codeBits_readBits 8 (a ++ List.replicate (8 - a.length) false) (by simp; omega)
  have hn : v.toUInt8.toNat = v := by simp; omega
  rw [byteOfBits, hr]
  simp only [hn, hc]

theorem toBits_ofBits (bs : List Bool) : ∃ tail, toBits (ofBits bs) = bs ++ tail := by
  induction bs using ofBits.induct with
  | case1 => exact ⟨[], by rw [ofBits]; rfl⟩
  | case2 bs hne ih =>
    obtain ⟨tail, ht⟩ := ih
    rw [ofBits, dif_neg hne, toBits, byteBits_byteOfBits _ (by simp; omega), ht]
    by_cases hl : 8 ≤ bs.length
    · refine ⟨tail, ?_⟩
      rw [List.length_take, Nat.min_eq_left hl, Nat.sub_self, List.replicate_zero, List.append_nil,
        ← List.append_assoc, List.take_append_drop]
    · refine ⟨List.replicate (8 - bs.length) false ++ tail, ?_⟩
      rw [List.take_of_length_le (by omega), List.drop_of_length_le (by omega), List.nil_append, List.append_assoc]
theorem ofBits_toBits (bs : Bytes) : ofBits (toBits bs) = bs := by
  induction bs with
  | nil => rw [toBits, ofBits]; simp
  | cons b rest ih =>
    have hl : (codeBits 8 b.toNat).length = 8 := codeBits_length 8 _
    rw [toBits, ofBits]
    have hne : codeBits 8 b.toNat ++ toBits rest ≠ [] := by
      intro h; have := congrArg List.length h; simp [hl] at this
    simp only [hne, dite_false]
    rw [List.take_left' hl, List.drop_left' hl, ih]
    have hb := UInt8.toNat_lt b
    have : byteOfBits (codeBits 8 b.toNat) = b := by
      have hr := readBits_codeBits 8 b.toNat [] (by omega)
      simp only [List.append_nil] at hr
      simp [byteOfBits, hl, hr]
    rw [this]

theorem decLoop_step (ec : Bool) (wd c : Nat) (more : List Bool) (t : Table) (prev : Option Bytes)
    (hw : wd ≠ 0) (hc : c < 2 ^ wd) :
    decLoop ec (codeBits wd c ++ more) t wd prev =
      if c = CLEAR then decLoop ec more [] 9 none
      else if c = EOD then ([], .eod)
      else
        match prev with
        | none =>
          if c < 256 then
            let r := decLoop ec more t wd (some [c.toUInt8])
            (c.toUInt8 :: r.1, r.2)
          else ([], .invalid)
        | some p =>
          let next := FIRST + t.length
          let entry? : Option Bytes :=
            if c < 256 then some [c.toUInt8]
            else if c < next then t[c - FIRST]?
            else if c = next then some (p ++ [p.headD 0])
            else none
          match entry? with
          | none => ([], .invalid)
          | some e =>
            let t' := if next < 4096 then t ++ [p ++ [e.headD 0]] else t
            let r := decLoop ec more t' (bump ec wd (FIRST + t'.length)) (some e)
            (e ++ r.1, r.2) := by
  rw [decLoop]
  simp only [hw, dite_false]
  split
  · rename_i hr; rw [readBits_codeBits wd c more hc] at hr; cases hr
  · rename_i code rest hr
    rw [readBits_codeBits wd c more hc] at hr
    cases hr
    rfl

theorem pow_ge (wd : Nat) (h : 9 ≤ wd) : 512 ≤ 2 ^ wd := Nat.pow_le_pow_right Nat.zero_lt_two h

theorem dec_clear (ec : Bool) (wd : Nat) (more : List Bool) (t : Table) (prev : Option Bytes) (h : 9 ≤ wd) :
    decLoop ec (codeBits wd CLEAR ++ more) t wd prev = decLoop ec more [] 9 none := by
  have := pow_ge wd h
  rw [decLoop_step ec wd _ more t prev (by omega) (by simp only [CLEAR]; omega), if_pos rfl]

theorem dec_eod (ec : Bool) (wd : Nat) (more : List Bool) (t : Table) (prev : Option Bytes) (h : 9 ≤ wd) :
    decLoop ec (codeBits wd EOD ++ more) t wd prev = ([], .eod) := by
  have := pow_ge wd h
  rw [decLoop_step ec wd _ more t prev (by omega) (by simp only [EOD]; omega), if_neg (by decide), if_pos rfl]

/-- encoder-side invariant: widths 9–12, every assigned code fits the width, the table is not full -/
def Inv (t : Table) (wd : Nat) : Prop := 9 ≤ wd ∧ wd ≤ 12 ∧ FIRST + t.length ≤ 2 ^ wd ∧ t.length < FULL

theorem Inv_init : Inv [] 9 := by simp [Inv, FIRST, FULL]

theorem le_bump (ec : Bool) (wd n : Nat) : wd ≤ bump ec wd n := by
  unfold bump
  by_cases hc : wd < 12 ∧ n + (if ec then 1 else 0) ≥ 2 ^ wd
  · rw [if_pos hc]; omega
  · rw [if_neg hc]; omega

theorem Inv_next (ec : Bool) (t : Table) (wd : Nat) (e : Bytes) (h : Inv t wd) (hf : (t ++ [e]).length ≠ FULL) :
    Inv (t ++ [e]) (bump ec wd (FIRST + t.length)) := by
  obtain ⟨h1, h2, h3, h4⟩ := h
  have hp := Nat.two_pow_pos wd
  rw [List.length_append, List.length_singleton] at hf
  rw [Inv, List.length_append, List.length_singleton, bump]
  by_cases hc : wd < 12 ∧ FIRST + t.length + (if ec then 1 else 0) ≥ 2 ^ wd
  · -- the width grows: twice the room
    rw [if_pos hc, Nat.pow_succ]; omega
  · -- it stays: either `wd = 12`, and `FULL` entries fit into 12 bits, or the next code still fits
    rw [if_neg hc]
    refine ⟨h1, h2, ?_, by omega⟩
    obtain rfl | hlt : wd = 12 ∨ wd < 12 := by omega
    · simp only [FIRST, FULL] at *; omega
    · have : ¬ FIRST + t.length + (if ec then 1 else 0) ≥ 2 ^ wd := fun h => hc ⟨hlt, h⟩
      split at this <;> omega

/-- the phrase the encoder holds can be emitted: a single byte or a table entry -/
def Emittable (t : Table) (w : Bytes) : Prop := w.length = 1 ∨ t.contains w = true

/-- the classic relation: the decoder's table is the encoder's table minus its newest entry, which is the
previously decoded phrase extended by the first byte of the phrase being encoded -/
def Rel (t td : Table) (wd : Nat) (prev : Option Bytes) (w : Bytes) : Prop :=
  match prev with
  | none => t = [] ∧ td = [] ∧ wd = 9
  | some p => p ≠ [] ∧ t = td ++ [p ++ [w.headD 0]]

theorem findIdx_spec (t : Table) (w : Bytes) (h : t.contains w = true) : t[t.findIdx (· == w)]? = some w := by
  have hex : ∃ x ∈ t, (x == w) = true := by
    rw [List.contains_iff_exists_mem_beq] at h
    obtain ⟨a, ha, hb⟩ := h
    exact ⟨a, ha, by simpa using (eq_of_beq hb).symm⟩
  have hi := List.findIdx_lt_length_of_exists hex
  rw [List.getElem?_eq_getElem hi]
  simpa using List.findIdx_getElem (p := (· == w)) (xs := t) (w := hi)

theorem codeOf_cases (t : Table) (w : Bytes) (he : Emittable t w) :
    (∃ b, w = [b] ∧ codeOf t w = b.toNat) ∨ (∃ i, t[i]? = some w ∧ codeOf t w = FIRST + i) := by
  by_cases h1 : ∃ b, w = [b]
  · obtain ⟨b, rfl⟩ := h1
    exact Or.inl ⟨b, rfl, rfl⟩
  · refine Or.inr ⟨_, findIdx_spec t w (he.resolve_left fun h => h1 (List.length_eq_one_iff.mp h)), ?_⟩
    unfold codeOf
    split
    · exact absurd ⟨_, rfl⟩ h1
    · rfl

theorem codeOf_lt (t : Table) (w : Bytes) (he : Emittable t w) : codeOf t w < FIRST + t.length ∧
    codeOf t w ≠ CLEAR ∧ codeOf t w ≠ EOD := by
  obtain ⟨b, rfl, h⟩ | ⟨i, hi, h⟩ := codeOf_cases t w he <;> rw [h] <;> simp only [FIRST, CLEAR, EOD]
  · have := UInt8.toNat_lt b; omega
  · have := (List.getElem?_eq_some_iff.mp hi).1; omega

theorem toUInt8_toNat (b : UInt8) : b.toNat.toUInt8 = b := by simp

theorem bump_first (ec : Bool) : bump ec 9 (FIRST + ([] : Table).length) = 9 := by
  cases ec <;> decide

/-- **the decoder reads the code of the encoder's phrase `w`** and arrives at the encoder's table -/
theorem dec_emit (ec : Bool) (t td : Table) (wd : Nat) (prev : Option Bytes) (w : Bytes) (more : List Bool)
    (hI : Inv t wd) (hE : Emittable t w) (hR : Rel t td wd prev w) :
    decLoop ec (codeBits wd (codeOf t w) ++ more) td wd prev =
      (w ++ (decLoop ec more t (bump ec wd (FIRST + t.length)) (some w)).1,
       (decLoop ec more t (bump ec wd (FIRST + t.length)) (some w)).2) := by
  obtain ⟨h1, h2, h3, h4⟩ := hI
  obtain ⟨hlt, hnc, hne⟩ := codeOf_lt t w hE
  rw [decLoop_step ec wd _ more td prev (by omega) (by omega), if_neg hnc, if_neg hne]
  cases prev with
  | none =>
    obtain ⟨rfl, rfl, rfl⟩ := hR
    -- with an empty table only a single byte can be emitted
    obtain ⟨b, rfl, hc⟩ | ⟨i, hi, _⟩ := codeOf_cases [] w hE
    · have hb := UInt8.toNat_lt b
      simp only [hc, show b.toNat < 256 from hb, if_true, toUInt8_toNat, bump_first]
      rfl
    · cases hi
  | some p =>
    obtain ⟨hp, ht⟩ := hR
    have hfull : FIRST + td.length < 4096 := by
      rw [ht, List.length_append, List.length_singleton] at h4; simp only [FIRST, FULL] at *; omega
    -- the entry the decoder computes is `w`
    have hentry : (if codeOf t w < 256 then some [(codeOf t w).toUInt8]
                 else if codeOf t w < FIRST + td.length then td[codeOf t w - FIRST]?
                 else if codeOf t w = FIRST + td.length then some (p ++ [p.headD 0])
                 else none : Option Bytes) = some w := by
      obtain ⟨b, rfl, hc⟩ | ⟨i, hi, hc⟩ := codeOf_cases t w hE <;> rw [hc]
      · rw [if_pos (UInt8.toNat_lt b), toUInt8_toNat]
      · rw [if_neg (by simp only [FIRST]; omega), Nat.add_sub_cancel_left]
        subst ht
        by_cases hlt2 : i < td.length
        · rw [if_pos (by omega), ← hi, List.getElem?_append_left hlt2]
        · -- KwKwK: the code of the encoder's newest entry; that entry `p ++ [first byte of w]` is `w` itself
          have hil := (List.getElem?_eq_some_iff.mp hi).1
          rw [List.length_append, List.length_singleton] at hil
          obtain rfl : i = td.length := by omega
          rw [List.getElem?_append_right (Nat.le_refl _), Nat.sub_self] at hi
          have hwp : p ++ [w.headD 0] = w := by simpa using hi
          have hph : p.headD 0 = w.headD 0 := by
            cases p with
            | nil => exact absurd rfl hp
            | cons q ps => rw [← hwp]; rfl
          rw [if_neg (Nat.lt_irrefl _), if_pos rfl, hph, hwp]
    dsimp only
    rw [hentry]
    dsimp only
    rw [if_pos hfull, ← ht]

/-- **main invariant**: decoding what the encoder loop writes yields the phrase in hand and all remaining input -/
theorem encLoop_dec (ec : Bool) : ∀ (rest : Bytes) (t td : Table) (wd : Nat) (prev : Option Bytes) (w : Bytes)
    (more : List Bool), Inv t wd → w ≠ [] → Emittable t w → Rel t td wd prev w →
    decLoop ec (encLoop ec rest t wd w ++ more) td wd prev = (w ++ rest, .eod) := by
  intro rest
  induction rest with
  | nil =>
    intro t td wd prev w more hI hw hE hR
    simp only [encLoop, List.append_assoc]
    rw [dec_emit ec t td wd prev w _ hI hE hR]
    have b1 := Nat.le_trans hI.1 (le_bump ec wd (FIRST + t.length))
    rw [dec_eod ec _ more t (some w) b1]
  | cons b rest ih =>
    intro t td wd prev w more hI hw hE hR
    rw [encLoop]
    by_cases hc : t.contains (w ++ [b]) = true
    · simp only [hc, if_true]
      have hR' : Rel t td wd prev (w ++ [b]) := by
        cases prev with
        | none => exact hR
        | some p =>
          simp only [Rel] at hR ⊢
          have : (w ++ [b]).headD 0 = w.headD 0 := by
            cases w with
            | nil => exact absurd rfl hw
            | cons a tl => rfl
          rw [this]; exact hR
      rw [ih t td wd prev (w ++ [b]) more hI (by simp) (Or.inr hc) hR']
      simp
    · simp only [hc, Bool.false_eq_true, if_false, List.append_assoc]
      rw [dec_emit ec t td wd prev w _ hI hE hR]
      have b1 := Nat.le_trans hI.1 (le_bump ec wd (FIRST + t.length))
      by_cases hfull : (t ++ [w ++ [b]]).length = FULL
      · simp only [hfull, if_true, List.append_assoc]
        rw [dec_clear ec _ _ t (some w) b1]
        rw [ih [] [] 9 none [b] more Inv_init (by simp) (Or.inl rfl) ⟨rfl, rfl, rfl⟩]
        simp
      · simp only [hfull, if_false]
        rw [ih (t ++ [w ++ [b]]) t _ (some w) [b] more (Inv_next ec t wd _ hI hfull) (by simp) (Or.inl rfl)
          ⟨hw, rfl⟩]
        simp

theorem encBits_dec (ec : Bool) (x : Bytes) (more : List Bool) :
    decLoop ec (encBits ec x ++ more) [] 9 none = (x, .eod) := by
  cases x with
  | nil =>
    simp only [encBits, List.append_assoc]
    rw [dec_clear ec 9 _ [] none (by omega), dec_eod ec 9 _ [] none (by omega)]
  | cons b rest =>
    simp only [encBits, List.append_assoc]
    rw [dec_clear ec 9 _ [] none (by omega)]
    rw [encLoop_dec ec rest [] [] 9 none [b] more Inv_init (by simp) (Or.inl rfl) ⟨rfl, rfl, rfl⟩]
    simp

/-- **LZW round trip** for every byte string and both EarlyChange settings -/
theorem lzw_round_trip (ec : Bool) (x : Bytes) : lzwDecode ec (lzwEncode ec x) = some x := by
  obtain ⟨tail, ht⟩ := toBits_ofBits (encBits ec x)
  simp only [lzwDecode, lzwDecodeFull, lzwEncode, ht, encBits_dec]

end Lopdf.Spec.LzwC
