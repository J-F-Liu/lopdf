import LopdfModel.Model.Text
import LopdfModel.Spec.Utf16
/-
  The model of `str::encode_utf16` / `String::from_utf16` against the relational
  specification `Spec.Utf16`, and the two round trips that follow.
-/
namespace Lopdf
open Spec

theorem fromUtf16_nil : stdFromUtf16 [] = some [] := by rw [stdFromUtf16.eq_def]

theorem fromUtf16_cons (u : Nat) (rest : List Nat) : stdFromUtf16 (u :: rest) =
    if u < 0xD800 || 0xE000 ≤ u then (stdFromUtf16 rest).map (u :: ·)
    else if 0xDC00 ≤ u then none
    else
      match rest with
      | [] => none
      | u2 :: rest2 =>
        if 0xDC00 ≤ u2 && u2 < 0xE000 then
          (stdFromUtf16 rest2).map ((0x10000 + (u - 0xD800) * 1024 + (u2 - 0xDC00)) :: ·)
        else none := by
  rw [stdFromUtf16.eq_def]; rfl

theorem isScalar_iff (c : Nat) : isScalar c = true ↔ Scalar c := by
  simp [isScalar, Scalar]

theorem scalar_lt {c : Nat} (h : Scalar c) : c < 0x110000 :=
  h.elim (fun h => Nat.lt_trans h (by decide)) And.right

theorem not_add_lt {k m : Nat} (a : Nat) (h : k ≤ m) : ¬ m + a < k :=
  Nat.not_lt.mpr (Nat.le_trans h (Nat.le_add_right m a))

/-! An astral character is `0x10000 + x` with `x < 2²⁰`; its surrogates carry the two 10-bit halves of `x`. -/

theorem halves_of_offset (x : Nat) (hx : x < 1024 * 1024) :
    x / 1024 < 1024 ∧ x % 1024 < 1024 ∧ x / 1024 * 1024 + x % 1024 = x :=
  ⟨Nat.div_lt_of_lt_mul hx, Nat.mod_lt x (by decide), Nat.div_add_mod' x 1024⟩

theorem offset_of_halves (a b : Nat) (ha : a < 1024) (hb : b < 1024) :
    a * 1024 + b < 1024 * 1024 ∧ (a * 1024 + b) / 1024 = a ∧ (a * 1024 + b) % 1024 = b :=
  ⟨Nat.lt_of_lt_of_le (Nat.add_lt_add_left hb _) (by rw [← Nat.succ_mul]; exact Nat.mul_le_mul_right 1024 ha),
   by rw [Nat.add_comm, Nat.add_mul_div_right _ _ (by decide), Nat.div_eq_of_lt hb, Nat.zero_add],
   by rw [Nat.add_comm, Nat.add_mul_mod_self_right, Nat.mod_eq_of_lt hb]⟩

theorem Utf16.pair' (a b : Nat) (ha : a < 1024) (hb : b < 1024) {s us : List Nat} (h : Utf16 s us) :
    Utf16 ((0x10000 + (a * 1024 + b)) :: s) ((0xD800 + a) :: (0xDC00 + b) :: us) := by
  have := Utf16.pair (0xD800 + a) (0xDC00 + b) s us (Nat.le_add_right _ _) (Nat.add_lt_add_left ha 0xD800)
    (Nat.le_add_right _ _) (Nat.add_lt_add_left hb 0xDC00) h
  rwa [Nat.add_sub_cancel_left, Nat.add_sub_cancel_left, Nat.add_assoc] at this

/-- the encoder produces the specified encoding form -/
theorem encode_spec : ∀ (s : UStr), (∀ c ∈ s, Scalar c) → Utf16 s (stdEncodeUtf16 s)
  | [], _ => Utf16.nil
  | c :: cs, h => by
    have hc : Scalar c := h c (by simp)
    have ih := encode_spec cs (fun x hx => h x (by simp [hx]))
    unfold Scalar at hc
    simp only [stdEncodeUtf16, encUnit]
    by_cases hlt : c < 0x10000
    · rw [if_pos hlt]
      exact Utf16.bmp c cs _ (hc.imp_right fun h => ⟨h.1, hlt⟩) ih
    · obtain ⟨x, rfl⟩ := Nat.exists_eq_add_of_le (Nat.le_of_not_lt hlt)
      obtain ⟨ha, hb, e⟩ := halves_of_offset x (by omega)
      rw [if_neg hlt, Nat.add_sub_cancel_left]
      have := Utf16.pair' _ _ ha hb ih
      rw [e] at this
      exact this

/-- the specified form is the only thing the encoder produces -/
theorem spec_encode {s us : List Nat} (h : Utf16 s us) : stdEncodeUtf16 s = us := by
  induction h with
  | nil => rfl
  | bmp c s us hc _ ih =>
    have : c < 0x10000 := by omega
    simp [stdEncodeUtf16, encUnit, this, ih]
  | pair hi lo s us h1 h2 h3 h4 _ ih =>
    obtain ⟨a, rfl⟩ := Nat.exists_eq_add_of_le h1
    obtain ⟨b, rfl⟩ := Nat.exists_eq_add_of_le h3
    obtain ⟨_, ea, eb⟩ := offset_of_halves a b (by omega) (by omega)
    simp only [stdEncodeUtf16, encUnit, Nat.add_sub_cancel_left, Nat.add_assoc, not_add_lt _ (Nat.le_refl _),
      if_false, ea, eb, ih, List.cons_append, List.nil_append]

theorem spec_scalars {s us : List Nat} (h : Utf16 s us) : ∀ c ∈ s, Scalar c := by
  induction h with
  | nil => simp
  | bmp c s us hc _ ih =>
    exact List.forall_mem_cons.mpr ⟨by unfold Scalar; omega, ih⟩
  | pair hi lo s us h1 h2 h3 h4 _ ih =>
    exact List.forall_mem_cons.mpr ⟨by unfold Scalar; omega, ih⟩

theorem spec_units_lt {s us : List Nat} (h : Utf16 s us) : ∀ u ∈ us, u < 0x10000 := by
  induction h with
  | nil => simp
  | bmp c s us hc _ ih => exact List.forall_mem_cons.mpr ⟨by omega, ih⟩
  | pair hi lo s us h1 h2 h3 h4 _ ih =>
    exact List.forall_mem_cons.mpr ⟨by omega, List.forall_mem_cons.mpr ⟨by omega, ih⟩⟩

/-- the decoder accepts every specified form and returns its scalars -/
theorem spec_decode {s us : List Nat} (h : Utf16 s us) : stdFromUtf16 us = some s := by
  induction h with
  | nil => exact fromUtf16_nil
  | bmp c s us hc _ ih =>
    have : (c < 0xD800 || 0xE000 ≤ c) = true := by simp; omega
    simp [fromUtf16_cons, this, ih]
  | pair hi lo s us h1 h2 h3 h4 _ ih =>
    have a : ¬ (hi < 0xD800 ∨ 0xE000 ≤ hi) := by omega
    have b : ¬ (0xDC00 ≤ hi) := by omega
    simp [fromUtf16_cons, a, b, h3, h4, ih]

/-- whatever the decoder accepts (over 16-bit units) is a specified form: along the decoder's own
case distinction -/
theorem spec_of_decode (us : List Nat) (hu : ∀ u ∈ us, u < 0x10000) :
    ∀ s, stdFromUtf16 us = some s → Utf16 s us := by
  fun_induction stdFromUtf16 us with
  | case1 => intro s h; cases h; exact Utf16.nil
  | case2 u rest hb ih =>
    intro s h
    obtain ⟨s', hs', rfl⟩ := Option.map_eq_some_iff.mp h
    have hu0 := hu u (by simp)
    simp only [Bool.or_eq_true, decide_eq_true_eq] at hb
    exact Utf16.bmp u s' rest (by omega) (ih (fun x hx => hu x (List.mem_cons_of_mem _ hx)) s' hs')
  | case5 u h1 h2 u2 rest hlo ih =>
    intro s h
    obtain ⟨s', hs', rfl⟩ := Option.map_eq_some_iff.mp h
    simp only [Bool.or_eq_true, decide_eq_true_eq, Bool.and_eq_true] at h1 hlo
    exact Utf16.pair u u2 s' rest (by omega) (by omega) hlo.1 hlo.2
      (ih (fun x hx => hu x (List.mem_cons_of_mem _ (List.mem_cons_of_mem _ hx))) s' hs')
  | _ => intro s h; cases h

/-- `spec_of_decode` with a bound on the length, which plays no part -/
theorem decode_spec : ∀ (n : Nat) (us s : List Nat), us.length ≤ n → (∀ u ∈ us, u < 0x10000) →
    stdFromUtf16 us = some s → Utf16 s us :=
  fun _ us s _ hu h => spec_of_decode us hu s h

/-- **UTF-16 round trip, encode then decode**, for every list of Unicode scalar values -/
theorem utf16_encode_decode (s : UStr) (h : ∀ c ∈ s, Scalar c) :
    stdFromUtf16 (stdEncodeUtf16 s) = some s :=
  spec_decode (encode_spec s h)

/-- **UTF-16 round trip, decode then encode**: accepted unit sequences are reproduced -/
theorem utf16_decode_encode (us s : List Nat) (hu : ∀ u ∈ us, u < 0x10000)
    (h : stdFromUtf16 us = some s) : stdEncodeUtf16 s = us :=
  spec_encode (spec_of_decode us hu s h)

theorem encode_units_lt (s : UStr) (h : ∀ c ∈ s, Scalar c) : ∀ u ∈ stdEncodeUtf16 s, u < 0x10000 :=
  spec_units_lt (encode_spec s h)

theorem decode_no_surrogate : ∀ (us : List Nat), (∀ u ∈ us, u < 0xD800 ∨ 0xE000 ≤ u) →
    stdFromUtf16 us = some us
  | [], _ => fromUtf16_nil
  | u :: rest, h => by
    have hu := h u (by simp)
    have ih := decode_no_surrogate rest (fun x hx => h x (by simp [hx]))
    have : (u < 0xD800 || 0xE000 ≤ u) = true := by simp; omega
    simp [fromUtf16_cons, this, ih]

end Lopdf
