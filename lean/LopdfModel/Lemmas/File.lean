import LopdfModel.Lemmas.Bytes
import LopdfModel.Model.File
import LopdfModel.Lemmas.Dict
/-
  Lemmas about the save model: digit widths, padded fields, the xref map.
-/
namespace Lopdf
open Gen

theorem natDigits_length_le : ∀ (k n : Nat), 1 ≤ k → n < 10 ^ k → (natDigits n).length ≤ k := by
  intro k
  induction k with
  | zero => intro n h; omega
  | succ k ih =>
    intro n _ hn
    rw [natDigits]
    by_cases h : n < 10
    · simp [h]
    · simp only [h, dite_false, List.length_append, List.length_cons, List.length_nil]
      cases k with
      | zero => simp at hn; omega
      | succ k' =>
        have : n / 10 < 10 ^ (k' + 1) := by
          rw [Nat.div_lt_iff_lt_mul (by omega)]
          calc n < 10 ^ (k' + 1 + 1) := hn
            _ = 10 ^ (k' + 1) * 10 := by rw [Nat.pow_succ]
        have := ih (n / 10) (by omega) this
        omega

theorem padZero_length (w : Nat) (ds : Bytes) (h : ds.length ≤ w) : (padZero w ds).length = w := by
  simp [padZero]; omega

theorem xrefEntryLine_length_some (off g : Nat) (ho : off < 10 ^ 10) (hg : g < 10 ^ 5) :
    (xrefEntryLine (some (off, g))).length = 20 := by
  have h1 := padZero_length 10 (natDigits off) (natDigits_length_le 10 off (by omega) ho)
  have h2 := padZero_length 5 (natDigits g) (natDigits_length_le 5 g (by omega) hg)
  simp only [xrefEntryLine, List.length_append, List.length_cons, List.length_nil, h1, h2]

theorem xrefEntryLine_length_none : (xrefEntryLine none).length = 20 := by
  have h1 := padZero_length 10 (natDigits 0) (natDigits_length_le 10 0 (by omega) (by omega))
  have h2 := padZero_length 5 (natDigits 65535) (natDigits_length_le 5 65535 (by omega) (by omega))
  simp only [xrefEntryLine, List.length_append, List.length_cons, List.length_nil, h1, h2]

theorem beBytesW_length (w n : Nat) : (beBytesW w n).length = w := by
  induction w generalizing n with
  | zero => rfl
  | succ w ih => simp [beBytesW, ih]

namespace XrefMap

theorem get_insert_same (x : XrefMap) (n : Nat) (v : Nat × Nat) : (x.insert n v).get n = some v := by
  induction x with
  | nil => simp [XrefMap.insert, XrefMap.get]
  | cons p rest ih =>
    obtain ⟨k, v'⟩ := p
    by_cases h : k = n
    · simp [XrefMap.insert, XrefMap.get, h]
    · simp [XrefMap.insert, XrefMap.get, h, ih]

theorem get_insert_other (x : XrefMap) (n m : Nat) (v : Nat × Nat) (h : m ≠ n) :
    (x.insert n v).get m = x.get m := by
  induction x with
  | nil => simp [XrefMap.insert, XrefMap.get]; intro h'; exact absurd h'.symm h
  | cons p rest ih =>
    obtain ⟨k, v'⟩ := p
    by_cases hk : k = n
    · subst hk
      have : ¬ k = m := fun e => h e.symm
      simp [XrefMap.insert, XrefMap.get, this]
    · by_cases hm : k = m
      · subst hm
        simp [XrefMap.insert, XrefMap.get, h]
      · simp [XrefMap.insert, XrefMap.get, hk, hm, ih]

end XrefMap

end Lopdf
