import LopdfModel.Spec.Strict
import LopdfModel.Thm.FileRt
/-
  Lemmas about the strict reader's pieces on bytes the writer model produces: prefixes, digit
  fields, the tail, the header, one indirect object (read back in normal form `nfObj`; as itself when
  it has no real numbers), and what the two kinds of cross-reference section share.
-/
namespace Lopdf.Strict
open Lopdf Gen Lopdf.FileRT Lopdf.ObjRt

theorem stripPrefix_append (p r : Bytes) : stripPrefix p (p ++ r) = some r := by
  induction p with
  | nil => cases r <;> rfl
  | cons a p ih => simp [stripPrefix, ih]

/-- the same six bytes, tested in another order -/
theorem isWs_eq (b : UInt8) : isWs b = isWhitespace b := by
  simp only [isWs, isWhitespace, WHITESPACE, List.contains_cons, List.contains_nil, Bool.or_false]
  ac_rfl

theorem dropEol_lf (r : Bytes) : dropEol (10 :: r) = some r := rfl

theorem isDig_eq (b : UInt8) : isDig b = isDigit b := rfl

theorem skipWs_stop (b : UInt8) (r : Bytes) (h : isWs b = false) : skipWs (b :: r) = b :: r := by
  simp [skipWs, h]

theorem spanDigits_append (a rest : Bytes) (ha : ∀ b ∈ a, isDigit b = true)
    (hr : ∀ b r, rest = b :: r → isDigit b = false) : spanDigits (a ++ rest) = (a, rest) := by
  induction a with
  | nil =>
    cases rest with
    | nil => rfl
    | cons b r => simp [spanDigits, isDig_eq, hr b r rfl]
  | cons x xs ih =>
    have hx : isDigit x = true := ha x (by simp)
    have := ih (fun b hb => ha b (by simp [hb]))
    simp [spanDigits, isDig_eq, hx, this]

theorem spanLine_append (a : Bytes) (c : UInt8) (rest : Bytes) (ha : ∀ b ∈ a, isEolByte b = false)
    (hc : isEolByte c = true) : spanLine (a ++ c :: rest) = (a, c :: rest) := by
  induction a with
  | nil => simp [spanLine, hc]
  | cons x xs ih =>
    have hx : isEolByte x = false := ha x (by simp)
    have := ih (fun b hb => ha b (by simp [hb]))
    simp [spanLine, hx, this]

theorem natDigits_field (n : Nat) (hn : n < 10000000000000000000) :
    (natDigits n).isEmpty = false ∧ ¬ (natDigits n).length > 19 := by
  have := natDigits_length_le 19 n (by omega) (by omega)
  exact ⟨by simpa using natDigits_ne_nil n, by omega⟩

theorem number_natDigits (n : Nat) (c : UInt8) (rest : Bytes) (hn : n < 10000000000000000000)
    (hc : isDigit c = false) : number (natDigits n ++ c :: rest) = some (n, c :: rest) := by
  have hsp : spanDigits (natDigits n ++ c :: rest) = (natDigits n, c :: rest) :=
    spanDigits_append _ _ (natDigits_all_digit n) (by intro b r h; injection h with h1 _; subst h1; exact hc)
  obtain ⟨hne, hle⟩ := natDigits_field n hn
  simp [number, hsp, hne, hle, digitsVal_natDigits]

theorem EOF_LINE_eq : EOF_LINE = EOF_KW := rfl
theorem STARTXREF_LINE_eq : STARTXREF_LINE = STARTXREF_KW := rfl

theorem lastXref_tail (X : Bytes) (n : Nat) (hn : n < 10000000000000000000) :
    lastXref (X ++ STARTXREF_KW ++ natDigits n ++ EOF_KW) = .ok n := by
  have hrev : (X ++ STARTXREF_KW ++ natDigits n ++ EOF_KW).reverse
      = EOF_LINE.reverse ++ ((natDigits n).reverse ++ (STARTXREF_LINE.reverse ++ X.reverse)) := by
    simp only [List.reverse_append, List.append_assoc]; rfl
  -- read backwards, the digits end at the line feed that closes `startxref`
  have hsp : spanDigits ((natDigits n).reverse ++ (STARTXREF_LINE.reverse ++ X.reverse))
      = ((natDigits n).reverse, STARTXREF_LINE.reverse ++ X.reverse) :=
    spanDigits_append _ _ (fun b hb => natDigits_all_digit n b (List.mem_reverse.mp hb))
      (fun b r h => by cases h; rfl)
  obtain ⟨hne, hle⟩ := natDigits_field n hn
  unfold lastXref
  rw [hrev, stripPrefix_append]
  simp only [hsp, List.isEmpty_reverse, hne, Bool.false_eq_true, if_false, List.length_reverse, hle,
    stripPrefix_append, List.reverse_reverse, digitsVal_natDigits]

/-- R1/R4 inside any extension `R` of the file: the tail is found where the section ends -/
theorem tailAt_tail (X R : Bytes) (n : Nat) :
    tailAt (X ++ STARTXREF_KW ++ natDigits n ++ EOF_KW ++ R) X.length n
      = .ok (X ++ STARTXREF_KW ++ natDigits n ++ EOF_KW).length := by
  have hd : X ++ STARTXREF_KW ++ natDigits n ++ EOF_KW = X ++ (STARTXREF_LINE ++ natDigits n ++ EOF_LINE) := by
    simp only [List.append_assoc]; rfl
  unfold tailAt
  rw [hd, List.append_assoc X, if_neg (Nat.not_lt.mpr (by rw [List.length_append]; exact Nat.le_add_right _ _)),
    List.drop_left, stripPrefix_append]
  simp only [← List.append_assoc, List.length_append, Nat.add_sub_cancel]

theorem eol_ge128 (b : UInt8) (h : b ≥ 128) : isEolByte b = false := by
  have h10 : b ≠ 10 := by rintro rfl; exact absurd h (by decide)
  have h13 : b ≠ 13 := by rintro rfl; exact absurd h (by decide)
  simp [isEolByte, h10, h13]

theorem notEol_isEolByte (b : UInt8) (h : notEol b = true) : isEolByte b = false := by
  simp only [notEol, Bool.and_eq_true, bne_iff_ne, ne_eq] at h
  simp [isEolByte, h.1, h.2]

theorem headerAt_saved (version mark R : Bytes) (hv : ∀ b ∈ version, notEol b = true)
    (hm : (mark.all fun b => b ≥ 128) = true) :
    headerAt (PDF_KW ++ (version ++ 10 :: 37 :: (mark ++ 10 :: R))) = .ok (version, R) := by
  have h1 : spanLine (version ++ 10 :: 37 :: (mark ++ 10 :: R)) = (version, 10 :: 37 :: (mark ++ 10 :: R)) :=
    spanLine_append version 10 _ (fun b hb => notEol_isEolByte b (hv b hb)) (by decide)
  have h2 : spanLine (mark ++ 10 :: R) = (mark, 10 :: R) :=
    spanLine_append mark 10 _ (fun b hb => eol_ge128 b (by have := List.all_eq_true.mp hm b hb; simpa using this))
      (by decide)
  unfold headerAt
  have : PDF = PDF_KW := rfl
  rw [this, stripPrefix_append]
  simp only [h1, dropEol_lf, h2]

theorem objectAt_direct {b : Bytes} {off num gen : Nat} {resolve : ObjId → Option Int} {r1 r3 : Bytes} {o : Obj}
    (hoff : off ≤ b.length) (hdrop : b.drop off = (natDigits num ++ 32 :: natDigits gen ++ OBJ) ++ 10 :: r1)
    (hparse : directObjects ((skipWs r1).length + 1) 0 (skipWs r1) = .ok o r3)
    (h1 : stripPrefix STREAM r3 = none) (h2 : (stripPrefix STREAM (skipWs r3)).isSome = false) :
    objectAt b off num gen resolve = finishObj b.length o r3 := by
  unfold objectAt
  simp only [Nat.not_lt.mpr hoff, if_false, hdrop, stripPrefix_append, dropEol_lf, hparse]
  cases o with
  | dict d => simp only [h1, h2, Bool.false_eq_true, if_false]
  | _ => rfl

theorem objectAt_stream {b : Bytes} {off num gen : Nat} {resolve : ObjId → Option Int} {r1 r8 c : Bytes} {d : Dict}
    (hoff : off ≤ b.length) (hdrop : b.drop off = (natDigits num ++ 32 :: natDigits gen ++ OBJ) ++ 10 :: r1)
    (hparse : directObjects ((skipWs r1).length + 1) 0 (skipWs r1)
      = .ok (.dict d) (STREAM ++ 10 :: (c ++ 10 :: (ENDSTREAM ++ r8))))
    (hlen : streamLength resolve d = some (c.length : Int)) :
    objectAt b off num gen resolve = finishObj b.length (.stream d c) r8 := by
  have hnot : ¬ ((c.length : Int) < 0 ∨ (c ++ 10 :: (ENDSTREAM ++ r8)).length < c.length) := by
    simp only [List.length_append]; omega
  unfold objectAt
  simp only [Nat.not_lt.mpr hoff, if_false, hdrop, stripPrefix_append, dropEol_lf, hparse, dropStreamEol, hlen,
    Bool.or_eq_true, decide_eq_true_eq, Int.toNat_natCast, hnot, List.take_left', List.drop_left']

theorem skipWs_ws (b : UInt8) (r : Bytes) (h : isWs b = true) : skipWs (b :: r) = skipWs r := by
  simp [skipWs, h]

theorem skipWs_obj (o : Obj) (Y : Bytes) (hwf : WFObj o) : skipWs (writeObj o ++ Y) = writeObj o ++ Y := by
  obtain ⟨b, r, e, hb, _, _⟩ := head_obj _ o Y hwf
  rw [e]; exact skipWs_stop b r (by rw [isWs_eq]; exact hb)

theorem skipWs_sep (o : Obj) (Y : Bytes) (hwf : WFObj o) :
    skipWs ((if needSeparator o then [32] else []) ++ (writeObj o ++ Y)) = writeObj o ++ Y := by
  split
  · exact (skipWs_ws 32 _ rfl).trans (skipWs_obj o Y hwf)
  · exact skipWs_obj o Y hwf

theorem skipWs_endObjTail (o : Obj) (rest : Bytes) : skipWs (endObjTail o rest) = ENDOBJ ++ 10 :: rest := by
  unfold endObjTail
  split
  · exact (skipWs_ws 32 _ rfl).trans ((skipWs_ws 10 _ rfl).trans (skipWs_stop 101 _ rfl))
  · exact (skipWs_ws 10 _ rfl).trans (skipWs_stop 101 _ rfl)

theorem finishObj_tail (total : Nat) (o o' : Obj) (rest : Bytes) :
    finishObj total o' (endObjTail o rest) = .ok (o', total - rest.length) := by
  unfold finishObj
  rw [skipWs_endObjTail, stripPrefix_append]
  simp only [dropEol_lf]

theorem endObjTail_not_stream (o : Obj) (rest : Bytes) :
    stripPrefix STREAM (endObjTail o rest) = none ∧ (stripPrefix STREAM (skipWs (endObjTail o rest))).isSome = false := by
  constructor
  · unfold endObjTail
    split <;> simp [stripPrefix, STREAM]
  · rw [skipWs_endObjTail]; simp [stripPrefix, STREAM, ENDOBJ]

theorem drop_writeIndirect (pre rest : Bytes) (n g : Nat) (o : Obj) :
    (pre ++ (writeIndirect n g o ++ rest)).drop pre.length
      = (natDigits n ++ 32 :: natDigits g ++ OBJ) ++ (10 :: ((if needSeparator o then [32] else []) ++
          (writeObj o ++ endObjTail o rest))) := by
  rw [List.drop_left, writeIndirect_eq]
  simp [OBJ]

/-- a written direct object parses where the strict reader starts it (fuel = bytes left + 1) -/
theorem directObjects_written (o : Obj) (Y : Bytes) (h1 : WFObj o) (h2 : height o ≤ MAX_NESTING)
    (hY : Follow true o Y) :
    directObjects ((writeObj o ++ Y).length + 1) 0 (writeObj o ++ Y) = .ok (norm o) Y :=
  obj_rt o _ 0 Y h1 (by omega) (by have := size_le_length _ o h1; simp only [List.length_append]; omega) hY

theorem length_sub_rest (pre w rest : Bytes) : (pre ++ (w ++ rest)).length - rest.length = pre.length + w.length := by
  rw [List.length_append, List.length_append, ← Nat.add_assoc, Nat.add_sub_cancel]

theorem objectAt_written_direct (pre rest : Bytes) (n g : Nat) (o : Obj) (resolve : ObjId → Option Int)
    (h1 : WFObj o) (h2 : height o ≤ MAX_NESTING) :
    objectAt (pre ++ (writeIndirect n g o ++ rest)) pre.length n g resolve
      = .ok (norm o, pre.length + (writeIndirect n g o).length) := by
  obtain ⟨e1, e2⟩ := endObjTail_not_stream o rest
  rw [objectAt_direct (by simp only [List.length_append]; omega) (drop_writeIndirect pre rest n g o)
    (by rw [skipWs_sep _ _ h1]; exact directObjects_written o _ h1 h2 (follow_endobj o rest)) e1 e2,
    finishObj_tail, length_sub_rest]

/-- **R5 on a written object, reals included**: the strict reader reads `n g obj … endobj` written
by `write_indirect_object` back as the object in normal form, and ends exactly behind it -/
theorem objectAt_written_nf (pre rest : Bytes) (n g : Nat) (o : Obj) (resolve : ObjId → Option Int) (h : ObjOKN o) :
    objectAt (pre ++ (writeIndirect n g o ++ rest)) pre.length n g resolve
      = .ok (nfObj o, pre.length + (writeIndirect n g o).length) := by
  cases o with
  | stream es c =>
    obtain ⟨h1, h2, h4⟩ := h
    have hd : (pre ++ (writeIndirect n g (.stream es c) ++ rest)).drop pre.length
        = (natDigits n ++ 32 :: natDigits g ++ OBJ) ++ (10 :: ((if needSeparator (.dict es) then [32] else []) ++
            (writeObj (.dict es) ++ (STREAM ++ 10 :: (c ++ 10 :: (ENDSTREAM ++ endObjTail (.stream es c) rest)))))) := by
      rw [drop_writeIndirect]
      simp [writeObj, needSeparator, STREAM_KW, ENDSTREAM_KW, STREAM, ENDSTREAM]
    have hlen : streamLength resolve (normD es) = some (c.length : Int) := by
      unfold streamLength
      rw [show kLength = LENGTH from rfl, normD_get, h4]; rfl
    rw [objectAt_stream (by simp only [List.length_append]; omega) hd
      (by rw [skipWs_sep _ _ h1]; exact directObjects_written (.dict es) _ h1 h2 trivial) hlen,
      finishObj_tail, length_sub_rest]
    rfl
  | _ => exact objectAt_written_direct pre rest n g _ resolve h.1 h.2

theorem objOKN_of_objOK {o : Obj} (h : ObjOK o) : ObjOKN o := by
  cases o with
  | stream es c => exact ⟨h.1, h.2.1, h.2.2.2⟩
  | _ => exact ⟨h.1, h.2.1⟩

theorem nfObj_noReal (o : Obj) (h : ObjOK o) : nfObj o = o := by
  cases o with
  | stream es c => simp [nfObj, normD_noReal es h.2.2.1]
  | _ => exact norm_noReal _ h.2.2

theorem map_nfObj_noReal (os : Objects) (h : ∀ p ∈ os, ObjOK p.2) : os.map (fun p => (p.1, nfObj p.2)) = os :=
  (List.map_congr_left fun p hp => by rw [nfObj_noReal p.2 (h p hp)]; rfl).trans (List.map_id _)

/-- **R5 on a written object**: the strict reader reads `n g obj … endobj` written by
`write_indirect_object` back as the object, and ends exactly behind it -/
theorem objectAt_written (pre rest : Bytes) (n g : Nat) (o : Obj) (resolve : ObjId → Option Int) (h : ObjOK o) :
    objectAt (pre ++ (writeIndirect n g o ++ rest)) pre.length n g resolve
      = .ok (o, pre.length + (writeIndirect n g o).length) := by
  rw [objectAt_written_nf pre rest n g o resolve (objOKN_of_objOK h), nfObj_noReal o h]

/-- the numbers still to come are distinct and none of them is collected yet: the strict reader's
duplicate check passes on every row of `L` -/
def Fresh {α : Type} (acc : List Entry) (L : List (Nat × α)) : Prop :=
  (L.map (·.1)).Nodup ∧ ∀ k ∈ L.map (·.1), hasNum acc k = false

theorem Fresh.head {α : Type} {acc : List Entry} {s : Nat} {a : α} {L : List (Nat × α)}
    (h : Fresh acc ((s, a) :: L)) : hasNum acc s = false := h.2 s (by simp)

theorem Fresh.tail {α : Type} {acc : List Entry} {p : Nat × α} {L : List (Nat × α)}
    (h : Fresh acc (p :: L)) : Fresh acc L :=
  ⟨(List.nodup_cons.mp h.1).2, fun k hk => h.2 k (List.mem_cons_of_mem _ hk)⟩

theorem Fresh.push {α : Type} {acc : List Entry} {s : Nat} {a : α} {L : List (Nat × α)}
    (h : Fresh acc ((s, a) :: L)) (off g : Nat) : Fresh (acc ++ [(s, off, g)]) L := by
  refine ⟨h.tail.1, fun k hk => ?_⟩
  have hne : s ≠ k := fun e => (List.nodup_cons.mp h.1).1 (e ▸ hk)
  have := h.tail.2 k hk
  simp only [hasNum, List.any_append, List.any_cons, List.any_nil, Bool.or_false] at this ⊢
  simp [this, hne]

theorem fresh_nil {α : Type} {L : List (Nat × α)} (h : (L.map (·.1)).Nodup) : Fresh [] L := ⟨h, fun _ _ => rfl⟩

theorem idAssign_keys_sublist {α : Type} (x : XrefMap) (f : Nat × Nat → α) (l : List Nat) :
    ((l.filterMap (idAssign x f)).map (·.1)).Sublist l := by
  induction l with
  | nil => simp
  | cons n rest ih =>
    simp only [List.filterMap_cons, idAssign]
    cases x.get n with
    | none => exact List.Sublist.cons _ ih
    | some e => exact List.Sublist.cons_cons _ ih

theorem mem_filterMap_idAssign {α : Type} (x : XrefMap) (f : Nat × Nat → α) (l : List Nat) (n : Nat) (a : α) :
    (n, a) ∈ l.filterMap (idAssign x f) ↔ n ∈ l ∧ ∃ e, x.get n = some e ∧ f e = a := by
  simp only [List.mem_filterMap, idAssign, Option.map_eq_some_iff, Prod.mk.injEq]
  constructor
  · rintro ⟨m, hm, e, he, rfl, rfl⟩; exact ⟨hm, e, he, rfl⟩
  · rintro ⟨hm, e, he, rfl⟩; exact ⟨n, hm, e, he, rfl, rfl⟩

end Lopdf.Strict
