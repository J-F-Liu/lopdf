import LopdfModel.Model.Read
/-
  Look-up in the association lists of `Reader::read`: the cross-reference table (`XTable`) under
  `insert`, `insertSorted` and `sorted` (the `BTreeMap` iteration order: same bindings, strictly
  ascending keys), and the final object map under `insertSortedO`.
-/
namespace Lopdf

theorem XTable.mem_of_get {t : XTable} {k : Nat} {e : XEntry} (h : t.get k = some e) : (k, e) ∈ t := by
  induction t with
  | nil => cases h
  | cons a rest ih =>
    obtain ⟨ak, av⟩ := a
    rw [XTable.get] at h
    split at h
    · rename_i hk; cases h; exact hk ▸ List.mem_cons_self
    · exact List.mem_cons_of_mem _ (ih h)

theorem XTable.get_of_mem {t : XTable} (hn : (t.map (·.1)).Nodup) {k : Nat} {v : XEntry} (h : (k, v) ∈ t) :
    t.get k = some v := by
  induction t with
  | nil => cases h
  | cons p rest ih =>
    obtain ⟨k', v'⟩ := p
    obtain ⟨hk, hn⟩ := List.nodup_cons.mp hn
    rcases List.mem_cons.mp h with e | h
    · cases e; simp [XTable.get]
    · have : k' ≠ k := fun e => hk (e ▸ List.mem_map_of_mem (f := (·.1)) h)
      simpa [XTable.get, this] using ih hn h

theorem XTable.get_insert (x : XTable) (k n : Nat) (v : XEntry) :
    (x.insert k v).get n = if k = n then some v else x.get n := by
  induction x with
  | nil => simp [XTable.insert, XTable.get]
  | cons p rest ih =>
    obtain ⟨k', v'⟩ := p
    simp only [XTable.insert]
    by_cases h : k' = k
    · subst h; by_cases h2 : k' = n <;> simp [XTable.get, h2]
    · by_cases h2 : k' = n
      · subst h2; simp [XTable.get, h, Ne.symm h]
      · simp [XTable.get, h, h2, ih]

theorem XTable.get_insertSorted (k : Nat) (v : XEntry) (t : XTable) (n : Nat) :
    (insertSorted k v t).get n = if k = n then some v else t.get n := by
  induction t with
  | nil => simp [insertSorted, XTable.get]
  | cons p rest ih =>
    obtain ⟨k', v'⟩ := p
    rw [insertSorted]
    split
    · simp [XTable.get]
    · split
      · rename_i h2; subst h2; by_cases h3 : k = n <;> simp [XTable.get, h3]
      · rename_i h2
        by_cases h3 : k' = n
        · subst h3; simp [XTable.get, h2]
        · simp [XTable.get, h3, ih]

theorem XTable.sorted_get (x : XTable) (n : Nat) : x.sorted.get n = x.get n := by
  induction x with
  | nil => rfl
  | cons p rest ih =>
    obtain ⟨k, v⟩ := p
    have : XTable.sorted ((k, v) :: rest) = insertSorted k v (XTable.sorted rest) := rfl
    rw [this, XTable.get_insertSorted, ih]
    simp [XTable.get]

theorem mem_insertSorted (k : Nat) (v : XEntry) (t : XTable) (q : Nat × XEntry) (h : q ∈ insertSorted k v t) :
    q = (k, v) ∨ q ∈ t := by
  induction t with
  | nil => exact Or.inl (List.mem_singleton.mp h)
  | cons p rest ih =>
    obtain ⟨k', v'⟩ := p
    rw [insertSorted] at h
    split at h
    · exact List.mem_cons.mp h
    · split at h <;> rcases List.mem_cons.mp h with h | h
      · exact Or.inl h
      · exact Or.inr (List.mem_cons_of_mem _ h)
      · exact Or.inr (h ▸ List.mem_cons_self)
      · exact (ih h).imp_right (List.mem_cons_of_mem _)

theorem insertSorted_pairwise (k : Nat) (v : XEntry) (t : XTable) (h : t.Pairwise fun a b => a.1 < b.1) :
    (insertSorted k v t).Pairwise fun a b => a.1 < b.1 := by
  induction t with
  | nil => simp [insertSorted]
  | cons p rest ih =>
    obtain ⟨k', v'⟩ := p
    have hp := List.pairwise_cons.mp h
    rw [insertSorted]
    split
    · rename_i h1
      refine List.pairwise_cons.mpr ⟨fun q hq => ?_, h⟩
      rcases List.mem_cons.mp hq with rfl | hq
      · exact h1
      · exact Nat.lt_trans h1 (hp.1 q hq)
    · split
      · rename_i h2
        exact List.pairwise_cons.mpr ⟨h2 ▸ hp.1, hp.2⟩
      · refine List.pairwise_cons.mpr ⟨fun q hq => ?_, ih hp.2⟩
        rcases mem_insertSorted k v rest q hq with rfl | hq
        · show k' < k; omega
        · exact hp.1 q hq

theorem XTable.sorted_pairwise (x : XTable) : x.sorted.Pairwise fun a b => a.1 < b.1 := by
  induction x with
  | nil => simp [XTable.sorted]
  | cons p rest ih => exact insertSorted_pairwise p.1 p.2 _ ih

theorem XTable.get_of_mem_asc (t : XTable) (h : t.Pairwise fun a b => a.1 < b.1) (p : Nat × XEntry) (hp : p ∈ t) :
    t.get p.1 = some p.2 := by
  induction t with
  | nil => simp at hp
  | cons a rest ih =>
    obtain ⟨ak, av⟩ := a
    have ha := List.pairwise_cons.mp h
    rcases List.mem_cons.mp hp with rfl | hp'
    · simp [XTable.get]
    · have : ak ≠ p.1 := Nat.ne_of_lt (ha.1 p hp')
      simp only [XTable.get, this, if_false]
      exact ih ha.2 hp'

theorem XTable.mem_sorted_iff (x : XTable) (k : Nat) (e : XEntry) : (k, e) ∈ x.sorted ↔ x.get k = some e := by
  constructor
  · intro h
    have := XTable.get_of_mem_asc x.sorted x.sorted_pairwise (k, e) h
    rwa [XTable.sorted_get] at this
  · intro h
    exact XTable.mem_of_get (by rw [XTable.sorted_get]; exact h)

/-- look-up is not disturbed by where `insertSortedO` puts the pair (an equal key goes in front) -/
theorem Objects.get_insertSortedO (k : ObjId) (v : Obj) (l : Objects) (id : ObjId) :
    Objects.get (insertSortedO k v l) id = if k = id then some v else Objects.get l id := by
  induction l with
  | nil => simp [insertSortedO, Objects.get]
  | cons p rest ih =>
    obtain ⟨k', v'⟩ := p
    simp only [insertSortedO]
    split
    · simp [Objects.get]
    · rename_i hle
      have hne : k ≠ k' := by rintro rfl; exact hle (by simp [idLe])
      by_cases h1 : k' = id
      · subst h1; simp [Objects.get, hne]
      · simp [Objects.get, h1, ih]

theorem mem_insertSortedO (k : ObjId) (v : Obj) (l : Objects) (p : ObjId × Obj) :
    p ∈ insertSortedO k v l ↔ p = (k, v) ∨ p ∈ l := by
  induction l with
  | nil => simp [insertSortedO]
  | cons q rest ih =>
    simp only [insertSortedO]
    split
    · simp
    · simp only [List.mem_cons, ih]
      exact or_left_comm

theorem mergeBlocksX_nil (x : XTable) (os : LObjects) : mergeBlocksX x os [] = os := by
  simp [mergeBlocksX, sortBlocks, mergeBlocks]

end Lopdf
