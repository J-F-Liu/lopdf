import LopdfModel.Model.Edit
import LopdfModel.Lemmas.DictNoDup
/-
  What `traverse_objects` does to one object, `deepObj a`, seen through the children of an object:
  `deepObj a o = (a.f o).mapKids (deepObj a)`, with the induction principle that goes with it; references and
  "distinct keys at every depth" (`DeepND`) in terms of children. Then `delete_object`'s action: `strip_dict`
  on distinct keys, and what the action leaves of the children of an object.
-/
namespace Lopdf

def Obj.kids : Obj → List Obj
  | .arr xs => xs
  | .dict es => es.map (·.2)
  | .stream es _ => es.map (·.2)
  | _ => []

def Obj.mapKids (f : Obj → Obj) : Obj → Obj
  | .arr xs => .arr (xs.map f)
  | .dict es => .dict (es.map fun e => (e.1, f e.2))
  | .stream es c => .stream (es.map fun e => (e.1, f e.2)) c
  | o => o

theorem Obj.kids_mapKids (f : Obj → Obj) (o : Obj) : (o.mapKids f).kids = o.kids.map f := by
  cases o <;> simp only [Obj.kids, Obj.mapKids, List.map_map, List.map_nil] <;> rfl

theorem Obj.mapKids_eq_ref {f : Obj → Obj} {o : Obj} {n g : Nat} (h : o.mapKids f = .ref n g) : o = .ref n g := by
  cases o <;> simp_all [Obj.mapKids]

theorem deepList_eq_map (a : Action) : ∀ xs, deepList a xs = xs.map (deepObj a)
  | [] => by rw [deepList]; rfl
  | x :: xs => by rw [deepList, deepList_eq_map a xs]; rfl

theorem deepDict_eq_map (a : Action) : ∀ es, deepDict a es = es.map fun e => (e.1, deepObj a e.2)
  | [] => by rw [deepDict]; rfl
  | (k, v) :: es => by rw [deepDict, deepDict_eq_map a es]; rfl

theorem deepObj_mapKids (a : Action) (o : Obj) : deepObj a o = (a.f o).mapKids (deepObj a) := by
  rw [deepObj]
  split
  · rename_i h; rw [h, deepList_eq_map]; rfl
  · rename_i h; rw [h, deepDict_eq_map]; rfl
  · rename_i h; rw [h, deepDict_eq_map]; rfl
  · rename_i h1 h2 h3
    cases h : a.f o
    case arr => exact absurd h (h1 _)
    case dict => exact absurd h (h2 _)
    case stream => exact absurd h (h3 _ _)
    all_goals rfl

/-- induction along the traversal: the children of `a.f o` are smaller than `o` -/
theorem deepObj_ind (a : Action) {P : Obj → Prop} (step : ∀ o, (∀ x ∈ (a.f o).kids, P x) → P o) : ∀ o, P o := by
  refine (deepObj.mutual_induct a (motive1 := P) (motive2 := fun es => ∀ e ∈ es, P e.2)
    (motive3 := fun xs => ∀ x ∈ xs, P x) ?_ ?_ ?_ ?_ ?_ ?_ ?_ ?_).1
  · intro o xs h ih; exact step o (by rw [h]; exact ih)
  · intro o es h ih
    exact step o (by rw [h]; intro x hx; obtain ⟨e, he, rfl⟩ := List.mem_map.mp hx; exact ih e he)
  · intro o es c h ih
    exact step o (by rw [h]; intro x hx; obtain ⟨e, he, rfl⟩ := List.mem_map.mp hx; exact ih e he)
  · intro o h1 h2 h3
    refine step o fun x hx => ?_
    cases h : a.f o <;> simp only [h, Obj.kids, List.not_mem_nil] at hx
    · exact absurd h (h1 _)
    · exact absurd h (h2 _)
    · exact absurd h (h3 _ _)
  · intro e he; cases he
  · intro k v es ih1 ih2 e he
    rcases List.mem_cons.mp he with rfl | he
    · exact ih1
    · exact ih2 e he
  · intro x hx; cases hx
  · intro x xs ih1 ih2 y hy
    rcases List.mem_cons.mp hy with rfl | hy
    · exact ih1
    · exact ih2 y hy

theorem dictGet_deepDict (a : Action) (d : Dict) (k : Bytes) :
    Dict.get (deepDict a d) k = (Dict.get d k).map (deepObj a) := by
  induction d with
  | nil => rw [deepDict]; rfl
  | cons p rest ih =>
    obtain ⟨k0, v0⟩ := p
    rw [deepDict, Dict.get_cons, Dict.get_cons, ih]
    split <;> rfl

theorem keys_deepDict (a : Action) (d : Dict) : (deepDict a d).map (·.1) = d.map (·.1) := by
  rw [deepDict_eq_map, List.map_map]; rfl

theorem mem_refsOfD_iff (r : ObjId) : ∀ es : List (Bytes × Obj), r ∈ refsOfD es ↔ ∃ e ∈ es, r ∈ refsOf e.2
  | [] => by simp [refsOfD]
  | (k, v) :: es => by simp [refsOfD, mem_refsOfD_iff r es]

theorem mem_refsOfL_iff (r : ObjId) : ∀ xs : List Obj, r ∈ refsOfL xs ↔ ∃ x ∈ xs, r ∈ refsOf x
  | [] => by simp [refsOfL]
  | x :: xs => by simp [refsOfL, mem_refsOfL_iff r xs]

theorem mem_refsOfD_vals (r : ObjId) (es : List (Bytes × Obj)) : r ∈ refsOfD es ↔ ∃ x ∈ es.map (·.2), r ∈ refsOf x := by
  rw [mem_refsOfD_iff]
  exact ⟨fun ⟨e, he, hr⟩ => ⟨e.2, List.mem_map_of_mem he, hr⟩,
    fun ⟨x, hx, hr⟩ => by obtain ⟨e, he, rfl⟩ := List.mem_map.mp hx; exact ⟨e, he, hr⟩⟩

theorem mem_refsOf_iff (r : ObjId) (o : Obj) : r ∈ refsOf o ↔ o = .ref r.1 r.2 ∨ ∃ x ∈ o.kids, r ∈ refsOf x := by
  cases o with
  | arr xs => simp [refsOf, Obj.kids, mem_refsOfL_iff]
  | dict es => simp only [refsOf, Obj.kids, mem_refsOfD_vals, reduceCtorEq, false_or]
  | stream es c => simp only [refsOf, Obj.kids, mem_refsOfD_vals, reduceCtorEq, false_or]
  | ref n g => simp [refsOf, Obj.kids, Prod.ext_iff, eq_comm]
  | _ => simp [refsOf, Obj.kids]

end Lopdf

namespace Lopdf.Ed
open Lopdf Lopdf.DictL

mutual
/-- every dictionary inside the object, at any depth, has pairwise distinct keys (they are `IndexMap`s) -/
def DeepND : Obj → Prop
  | .arr xs => DeepNDL xs
  | .dict es => NoDup es ∧ DeepNDD es
  | .stream es _ => NoDup es ∧ DeepNDD es
  | _ => True
def DeepNDL : List Obj → Prop
  | [] => True
  | x :: xs => DeepND x ∧ DeepNDL xs
def DeepNDD : List (Bytes × Obj) → Prop
  | [] => True
  | (_, v) :: es => DeepND v ∧ DeepNDD es
end

theorem deepNDL_iff : ∀ xs : List Obj, DeepNDL xs ↔ ∀ x ∈ xs, DeepND x
  | [] => by simp [DeepNDL]
  | x :: xs => by simp [DeepNDL, deepNDL_iff xs]

theorem deepNDD_iff : ∀ es : List (Bytes × Obj), DeepNDD es ↔ ∀ e ∈ es, DeepND e.2
  | [] => by simp [DeepNDD]
  | (k, v) :: es => by simp [DeepNDD, deepNDD_iff es]

/-- a distinct-keyed dictionary (as the value `.dict es`) -/
def DictND (es : Dict) : Prop := NoDup es ∧ DeepNDD es

theorem deepND_dict (es : Dict) : DeepND (.dict es) ↔ DictND es := by simp [DeepND, DictND]
theorem deepND_stream (es : Dict) (c : Bytes) : DeepND (.stream es c) ↔ DictND es := by simp [DeepND, DictND]
theorem deepND_arr (xs : List Obj) : DeepND (.arr xs) ↔ ∀ x ∈ xs, DeepND x := by
  simp only [DeepND]; exact deepNDL_iff xs

theorem dictND_nil : DictND [] := ⟨List.nodup_nil, trivial⟩

theorem dictND_set {es : Dict} (h : DictND es) (k : Bytes) (v : Obj) (hv : DeepND v) : DictND (Dict.set es k v) := by
  refine ⟨Dict.nodup_set h.1 k v, (deepNDD_iff _).mpr fun e he => ?_⟩
  rcases Dict.mem_set he with h1 | rfl
  · exact (deepNDD_iff es).mp h.2 e h1
  · exact hv

theorem dictND_remove {es : Dict} (h : DictND es) (k : Bytes) : DictND (Dict.remove es k) :=
  ⟨Dict.nodup_remove h.1 k, (deepNDD_iff _).mpr fun e he => (deepNDD_iff es).mp h.2 e (Dict.mem_remove he)⟩

theorem dictND_get {es : Dict} (h : DictND es) (k : Bytes) (v : Obj) (hg : Dict.get es k = some v) : DeepND v :=
  (deepNDD_iff es).mp h.2 (k, v) (Dict.mem_of_get hg)

theorem deepND_filter (xs : List Obj) (p : Obj → Bool) (h : DeepND (.arr xs)) : DeepND (.arr (xs.filter p)) :=
  (deepND_arr _).mpr fun x hx => (deepND_arr xs).mp h x (List.mem_filter.mp hx).1

theorem DictND.vals {es : Dict} (h : DictND es) : ∀ x ∈ es.map (·.2), DeepND x := fun x hx => by
  obtain ⟨e, he, rfl⟩ := List.mem_map.mp hx
  exact (deepNDD_iff es).mp h.2 e he

theorem deepND_kids {o : Obj} (h : DeepND o) : ∀ x ∈ o.kids, DeepND x := by
  cases o with
  | arr xs => exact (deepND_arr xs).mp h
  | dict es => exact ((deepND_dict es).mp h).vals
  | stream es c => exact ((deepND_stream es c).mp h).vals
  | _ => intro x hx; cases hx

theorem dictND_mapVals {es : Dict} (h : DictND es) (f : Obj → Obj) (hf : ∀ x ∈ es.map (·.2), DeepND (f x)) :
    DictND (es.map fun e => (e.1, f e.2)) := by
  refine ⟨by unfold NoDup; rw [List.map_map]; exact h.1, (deepNDD_iff _).mpr fun e he => ?_⟩
  obtain ⟨e0, he0, rfl⟩ := List.mem_map.mp he
  exact hf _ (List.mem_map_of_mem he0)

theorem deepND_mapKids {o : Obj} (h : DeepND o) (f : Obj → Obj) (hf : ∀ x ∈ o.kids, DeepND (f x)) :
    DeepND (o.mapKids f) := by
  cases o with
  | arr xs =>
    refine (deepND_arr _).mpr fun y hy => ?_
    obtain ⟨x, hx, rfl⟩ := List.mem_map.mp hy
    exact hf x hx
  | dict es => exact (deepND_dict _).mpr (dictND_mapVals ((deepND_dict es).mp h) f hf)
  | stream es c => exact (deepND_stream _ c).mpr (dictND_mapVals ((deepND_stream es c).mp h) f hf)
  | _ => exact h

/-- the action maps distinct-keyed objects to distinct-keyed objects (one node) -/
def ActND (a : Action) : Prop := ∀ o, DeepND o → DeepND (a.f o)

theorem deepObj_nd (a : Action) (ha : ActND a) : ∀ o, DeepND o → DeepND (deepObj a o) := by
  refine deepObj_ind a fun o ih ho => ?_
  rw [deepObj_mapKids]
  exact deepND_mapKids (ha o ho) _ fun x hx => ih x hx (deepND_kids (ha o ho) x hx)

theorem deepDict_nd (a : Action) (ha : ActND a) (es : Dict) (h : DictND es) : DictND (deepDict a es) := by
  rw [deepDict_eq_map]
  exact dictND_mapVals h _ fun x hx => deepObj_nd a ha x (h.vals x hx)

theorem get_removeKeys {d : Dict} (hn : NoDup d) (ks : List Bytes) (q : Bytes) :
    Dict.get (removeKeys d ks) q = if q ∈ ks then none else Dict.get d q := by
  induction ks generalizing d with
  | nil => rfl
  | cons k ks ih =>
    rw [removeKeys, List.foldl_cons, ← removeKeys, ih (Dict.nodup_remove hn k), Dict.get_remove hn]
    by_cases e : k = q
    · simp [e]
    · simp [e, Ne.symm e]

theorem nodup_removeKeys {d : Dict} (hn : NoDup d) (ks : List Bytes) : NoDup (removeKeys d ks) :=
  List.foldlRecOn (motive := NoDup) ks Dict.remove hn fun _ h k _ => Dict.nodup_remove h k

theorem isRefTo_iff (p : ObjId) (o : Obj) : isRefTo p o = true ↔ o = .ref p.1 p.2 := by
  cases o <;> simp only [isRefTo, reduceCtorEq, Bool.false_eq_true, decide_eq_true_eq, Obj.ref.injEq]
  exact ⟨fun h => ⟨congrArg Prod.fst h, congrArg Prod.snd h⟩, fun h => Prod.ext h.1 h.2⟩

theorem nodup_stripDict (p : ObjId) {es : Dict} (hn : NoDup es) : NoDup (stripDict p es) := nodup_removeKeys hn _

theorem get_stripDict (p : ObjId) {es : Dict} (hn : NoDup es) (q : Bytes) :
    Dict.get (stripDict p es) q = (Dict.get es q).filter fun v => !isRefTo p v := by
  rw [stripDict, get_removeKeys hn]
  cases hg : Dict.get es q with
  | none => simp
  | some v =>
    have : q ∈ (es.filter fun kv => isRefTo p kv.2).map (·.1) ↔ isRefTo p v = true := by
      constructor
      · intro hm
        obtain ⟨e, he, rfl⟩ := List.mem_map.mp hm
        obtain ⟨he, hr⟩ := List.mem_filter.mp he
        rw [Dict.get_of_mem hn (k := e.1) (v := e.2) he] at hg
        cases hg; exact hr
      · intro hr
        exact List.mem_map.mpr ⟨(q, v), List.mem_filter.mpr ⟨Dict.mem_of_get hg, hr⟩, rfl⟩
    cases hr : isRefTo p v <;> simp [Option.filter, this, hr]

theorem mem_stripDict_iff (p : ObjId) {es : Dict} (hn : NoDup es) (e : Bytes × Obj) :
    e ∈ stripDict p es ↔ e ∈ es ∧ isRefTo p e.2 = false := by
  have h1 : e ∈ stripDict p es ↔ Dict.get (stripDict p es) e.1 = some e.2 :=
    ⟨Dict.get_of_mem (nodup_stripDict p hn), Dict.mem_of_get⟩
  have h2 : e ∈ es ↔ Dict.get es e.1 = some e.2 := ⟨Dict.get_of_mem hn, Dict.mem_of_get⟩
  rw [h1, h2, get_stripDict p hn, Option.filter_eq_some_iff, Bool.not_eq_true']

theorem stripDict_nd (p : ObjId) {es : Dict} (h : DictND es) : DictND (stripDict p es) :=
  ⟨nodup_stripDict p h.1, (deepNDD_iff _).mpr fun e he =>
    (deepNDD_iff es).mp h.2 e ((mem_stripDict_iff p h.1 e).mp he).1⟩

theorem mem_kids_delFn (p : ObjId) {o : Obj} (h : DeepND o) (x : Obj) :
    x ∈ (delFn p o).kids ↔ x ∈ o.kids ∧ isRefTo p x = false := by
  have dict : ∀ es, NoDup es → (x ∈ (stripDict p es).map (·.2) ↔ x ∈ es.map (·.2) ∧ isRefTo p x = false) := by
    intro es hn
    simp only [List.mem_map, mem_stripDict_iff p hn]
    exact ⟨fun ⟨e, ⟨he, hr⟩, hx⟩ => ⟨⟨e, he, hx⟩, hx ▸ hr⟩, fun ⟨⟨e, he, hx⟩, hr⟩ => ⟨e, ⟨he, hx ▸ hr⟩, hx⟩⟩
  cases o with
  | arr xs => simp [delFn, Obj.kids, List.mem_filter]
  | dict es => exact dict es h.1
  | stream es c => exact dict es h.1
  | _ => simp [delFn, Obj.kids]

theorem delFn_eq_ref (p : ObjId) {o : Obj} {n g : Nat} (h : delFn p o = .ref n g) : o = .ref n g := by
  cases o <;> simp_all [delFn]

theorem delAct_nd (p : ObjId) : ActND (delAct p) := by
  intro o ho
  show DeepND (delFn p o)
  cases o with
  | arr xs => exact deepND_filter xs _ ho
  | dict es => exact (deepND_dict _).mpr (stripDict_nd p ((deepND_dict es).mp ho))
  | stream es c => exact (deepND_stream _ c).mpr (stripDict_nd p ((deepND_stream es c).mp ho))
  | _ => exact ho

/-- the explicit form of a dictionary after `delete_object(p)`'s action went through it -/
def delDict (p : ObjId) (nd : Dict) : Dict := deepDict (delAct p) (stripDict p nd)

theorem deep_del_dict (p : ObjId) (nd : Dict) : deepObj (delAct p) (.dict nd) = .dict (delDict p nd) :=
  deepObj_dict (a := delAct p) (es := stripDict p nd) rfl

theorem nodup_delDict (p : ObjId) (nd : Dict) (hn : NoDup nd) : NoDup (delDict p nd) := by
  unfold delDict NoDup; rw [keys_deepDict]; exact nodup_stripDict p hn

theorem get_delDict (p : ObjId) (nd : Dict) (hn : NoDup nd) (key : Bytes) :
    Dict.get (delDict p nd) key = ((Dict.get nd key).filter fun v => !isRefTo p v).map (deepObj (delAct p)) := by
  rw [delDict, dictGet_deepDict, get_stripDict p hn]

theorem get_delDict_of_get (p : ObjId) (nd : Dict) (hn : NoDup nd) {key : Bytes} {v : Obj}
    (hv : Dict.get nd key = some v) (hnr : isRefTo p v = false) :
    Dict.get (delDict p nd) key = some (deepObj (delAct p) v) := by
  rw [get_delDict p nd hn, hv]; simp [Option.filter, hnr]

/-- the action only touches arrays and dictionaries: `as_reference`, `as_i64` of a value see no difference -/
theorem asRef_deep_del (p : ObjId) (v : Obj) : (deepObj (delAct p) v).asRef = v.asRef := by
  rw [deepObj_mapKids]; cases v <;> rfl

theorem asInt_deep_del (p : ObjId) (v : Obj) : (deepObj (delAct p) v).asInt = v.asInt := by
  rw [deepObj_mapKids]; cases v <;> rfl

theorem delDict_asInt (p : ObjId) (nd : Dict) (hn : NoDup nd) (key : Bytes) :
    (Dict.get (delDict p nd) key).bind Obj.asInt = (Dict.get nd key).bind Obj.asInt := by
  rw [get_delDict p nd hn]
  cases Dict.get nd key with
  | none => rfl
  | some v =>
    cases hr : isRefTo p v
    · simp [Option.filter, hr, asInt_deep_del]
    · cases v <;> simp_all [isRefTo, Option.filter, Obj.asInt]

theorem delDict_asRef (p : ObjId) (nd : Dict) (hn : NoDup nd) (key : Bytes) :
    (Dict.get (delDict p nd) key).bind Obj.asRef = ((Dict.get nd key).bind Obj.asRef).filter fun r => r ≠ p := by
  rw [get_delDict p nd hn]
  cases Dict.get nd key with
  | none => rfl
  | some v =>
    cases hr : isRefTo p v
    · simp only [Option.filter, hr, Bool.not_false, if_true, Option.map_some, Option.bind_some, asRef_deep_del]
      cases v <;> simp_all [isRefTo, Obj.asRef]
    · obtain rfl := (isRefTo_iff p v).mp hr
      simp [Option.filter, hr, Obj.asRef]

theorem deep_del_ref (p : ObjId) (n g : Nat) : deepObj (delAct p) (.ref n g) = .ref n g := by
  rw [deepObj_mapKids]; rfl

theorem deep_del_name (p : ObjId) (n : Bytes) : deepObj (delAct p) (.name n) = .name n := by
  rw [deepObj_mapKids]; rfl

end Lopdf.Ed
