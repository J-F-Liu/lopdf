import LopdfModel.Model.Obj
/-
  `Dictionary` as an `IndexMap`: `get` finds the first entry of a key, `set` overwrites in place or
  appends, `remove` is `swap_remove` (the last entry moves into the hole). Look-ups after updates,
  membership, and preservation of the `IndexMap` invariant `d.keys.Nodup` (the predicates
  `DictL.NoDup` and `Dict.KeysNodup` unfold to it).
-/
namespace Lopdf.Dict

@[simp] theorem get_nil (k : Bytes) : Dict.get [] k = none := rfl

theorem get_cons (k' : Bytes) (v : Obj) (d : Dict) (k : Bytes) :
    get ((k', v) :: d) k = if k' = k then some v else get d k := rfl

theorem has_eq (d : Dict) (k : Bytes) : d.has k = (d.get k).isSome := rfl

theorem mem_of_get {d : Dict} {k : Bytes} {v : Obj} (h : d.get k = some v) : (k, v) ∈ d := by
  induction d with
  | nil => cases h
  | cons p d ih =>
    obtain ⟨k', v'⟩ := p
    rw [get_cons] at h
    split at h
    · rename_i e; cases h; subst e; exact List.mem_cons_self
    · exact List.mem_cons_of_mem _ (ih h)

theorem get_eq_none_iff (d : Dict) (k : Bytes) : d.get k = none ↔ k ∉ d.keys := by
  induction d with
  | nil => simp [keys]
  | cons p d ih =>
    obtain ⟨k', v'⟩ := p
    by_cases e : k' = k
    · simp [get_cons, keys, e]
    · simpa [get_cons, keys, e, Ne.symm e] using ih

theorem get_of_mem {d : Dict} (hn : d.keys.Nodup) {k : Bytes} {v : Obj} (h : (k, v) ∈ d) :
    d.get k = some v := by
  induction d with
  | nil => cases h
  | cons p d ih =>
    obtain ⟨k', v'⟩ := p
    obtain ⟨hk, hn⟩ := List.nodup_cons.mp hn
    rcases List.mem_cons.mp h with e | h
    · cases e; simp [get_cons]
    · have : k' ≠ k := fun e => hk (e ▸ List.mem_map_of_mem (f := (·.1)) h)
      simpa [get_cons, this] using ih hn h

theorem get_perm {d₁ d₂ : Dict} (h₁ : d₁.keys.Nodup) (h₂ : d₂.keys.Nodup) (hp : d₁.Perm d₂)
    (k : Bytes) : d₁.get k = d₂.get k := by
  cases hg : d₁.get k with
  | some v => exact (get_of_mem h₂ (hp.mem_iff.mp (mem_of_get hg))).symm
  | none =>
    cases hg' : d₂.get k with
    | none => rfl
    | some v => rw [get_of_mem h₁ (hp.mem_iff.mpr (mem_of_get hg'))] at hg; cases hg

theorem get_append (a b : Dict) (k : Bytes) :
    get (a ++ b) k = (a.get k).orElse fun _ => b.get k := by
  induction a with
  | nil => rfl
  | cons p a ih => obtain ⟨k', v'⟩ := p; by_cases e : k' = k <;> simp [get_cons, e, ih]

theorem get_set (d : Dict) (k : Bytes) (v : Obj) (k' : Bytes) :
    (d.set k v).get k' = if k = k' then some v else d.get k' := by
  induction d with
  | nil => simp [set, get_cons]
  | cons p d ih =>
    obtain ⟨q, w⟩ := p
    by_cases h : q = k
    · subst h; by_cases h' : q = k' <;> simp [set, get_cons, h']
    · by_cases h' : k = k'
      · subst h'; simp [set, get_cons, h, ih]
      · simp [set, get_cons, h, h', ih]

theorem get_set_same (d : Dict) (k : Bytes) (v : Obj) : (d.set k v).get k = some v := by
  simp [get_set]

theorem get_set_ne (d : Dict) (k k' : Bytes) (v : Obj) (h : k ≠ k') :
    (d.set k v).get k' = d.get k' := by
  simp [get_set, h]

theorem set_of_get {d : Dict} {k : Bytes} {v : Obj} (h : d.get k = some v) : d.set k v = d := by
  induction d with
  | nil => cases h
  | cons p d ih =>
    obtain ⟨q, w⟩ := p
    rw [get_cons] at h
    by_cases e : q = k
    · simp only [e, if_true, Option.some.injEq] at h; simp [set, e, h]
    · simp only [e, if_false] at h; simp [set, e, ih h]

theorem set_set (d : Dict) (k : Bytes) (v w : Obj) : (d.set k v).set k w = d.set k w := by
  induction d with
  | nil => simp [set]
  | cons p d ih => obtain ⟨q, u⟩ := p; by_cases e : q = k <;> simp [set, e, ih]

theorem set_of_not_mem {d : Dict} {k : Bytes} (v : Obj) (h : k ∉ d.keys) :
    d.set k v = d ++ [(k, v)] := by
  induction d with
  | nil => rfl
  | cons p d ih =>
    obtain ⟨q, w⟩ := p
    simp only [keys, List.map_cons, List.mem_cons, not_or] at h
    simp [set, Ne.symm h.1, ih h.2]

theorem keys_set (d : Dict) (k : Bytes) (v : Obj) :
    (d.set k v).keys = if k ∈ d.keys then d.keys else d.keys ++ [k] := by
  induction d with
  | nil => simp [set, keys]
  | cons p d ih =>
    obtain ⟨q, w⟩ := p
    by_cases h : q = k
    · simp [set, keys, h]
    · simp only [keys] at ih
      simp only [set, h, if_false, keys, List.map_cons, ih, List.mem_cons, Ne.symm h, false_or]
      split <;> simp [*]

theorem nodup_set {d : Dict} (hn : d.keys.Nodup) (k : Bytes) (v : Obj) : (d.set k v).keys.Nodup := by
  rw [keys_set]
  split
  · exact hn
  · rename_i hk
    exact List.nodup_append.mpr ⟨hn, by simp, fun a ha b hb => by
      rw [List.mem_singleton.mp hb]; rintro rfl; exact hk ha⟩

theorem mem_set {d : Dict} {k : Bytes} {v : Obj} {p : Bytes × Obj} (h : p ∈ d.set k v) :
    p ∈ d ∨ p = (k, v) := by
  induction d with
  | nil => exact Or.inr (by simpa [set] using h)
  | cons q d ih =>
    obtain ⟨k', v'⟩ := q
    by_cases hk : k' = k
    · simp only [set, hk, if_true, List.mem_cons] at h ⊢
      rcases h with h | h
      · exact Or.inr h
      · exact Or.inl (Or.inr h)
    · simp only [set, hk, if_false, List.mem_cons] at h ⊢
      rcases h with h | h
      · exact Or.inl (Or.inl h)
      · exact (ih h).imp_left Or.inr

theorem idxOf_eq_none_iff (d : Dict) (k : Bytes) : d.idxOf k = none ↔ d.get k = none := by
  induction d with
  | nil => simp [idxOf]
  | cons p d ih => obtain ⟨q, w⟩ := p; by_cases e : q = k <;> simp [idxOf, get_cons, e, ih]

theorem idxOf_split {d : Dict} {k : Bytes} {i : Nat} (h : d.idxOf k = some i) :
    ∃ a v b, d = a ++ (k, v) :: b ∧ a.length = i ∧ k ∉ keys a := by
  induction d generalizing i with
  | nil => cases h
  | cons p d ih =>
    obtain ⟨q, w⟩ := p
    by_cases e : q = k
    · subst e
      simp only [idxOf, if_true, Option.some.injEq] at h
      exact ⟨[], w, d, rfl, h, by simp [keys]⟩
    · simp only [idxOf, e, if_false, Option.map_eq_some_iff] at h
      obtain ⟨j, hj, rfl⟩ := h
      obtain ⟨a, v, b, rfl, rfl, ha⟩ := ih hj
      exact ⟨(q, w) :: a, v, b, rfl, rfl, by simpa [keys, Ne.symm e] using ha⟩

theorem remove_of_get_none {d : Dict} {k : Bytes} (h : d.get k = none) : d.remove k = d := by
  simp [remove, (idxOf_eq_none_iff d k).mpr h]

/-- the three shapes of `swap_remove`: key absent, key last, key in the middle -/
theorem remove_cases (d : Dict) (k : Bytes) :
    (d.get k = none ∧ d.remove k = d) ∨
    (∃ a v, d = a ++ [(k, v)] ∧ k ∉ keys a ∧ d.remove k = a) ∨
    (∃ a v b last, d = a ++ (k, v) :: (b ++ [last]) ∧ k ∉ keys a ∧ d.remove k = a ++ last :: b) := by
  cases hi : d.idxOf k with
  | none =>
    have := (idxOf_eq_none_iff d k).mp hi
    exact Or.inl ⟨this, remove_of_get_none this⟩
  | some i =>
    obtain ⟨a, v, b, rfl, rfl, ha⟩ := idxOf_split hi
    rcases List.eq_nil_or_concat b with rfl | ⟨b, last, rfl⟩
    · refine Or.inr (Or.inl ⟨a, v, rfl, ha, ?_⟩)
      simp [remove, hi]
    · refine Or.inr (Or.inr ⟨a, v, b, last, by simp, ha, ?_⟩)
      have e : a ++ (k, v) :: b.concat last = (a ++ (k, v) :: b) ++ [last] := by simp
      simp only [remove, hi]
      rw [e, List.getLast?_concat, List.dropLast_concat]
      simp

theorem remove_perm {d : Dict} (hn : d.keys.Nodup) (k : Bytes) :
    (d.remove k).Perm (d.filter fun p => p.1 ≠ k) := by
  have keep : ∀ a : Dict, k ∉ keys a → a.filter (fun p => p.1 ≠ k) = a := fun a ha =>
    List.filter_eq_self.mpr fun p hp => by
      simpa using fun e : p.1 = k => ha (e ▸ List.mem_map_of_mem (f := (·.1)) hp)
  rcases remove_cases d k with ⟨h, e⟩ | ⟨a, v, rfl, ha, e⟩ | ⟨a, v, b, last, rfl, ha, e⟩
  · rw [e, keep d ((get_eq_none_iff d k).mp h)]
  · rw [e, List.filter_append, keep a ha]; simp
  · have hb : k ∉ keys (b ++ [last]) := by
      simp only [keys, List.map_append, List.map_cons] at hn ⊢
      exact (List.nodup_cons.mp (List.nodup_append.mp hn).2.1).1
    rw [e, List.filter_append, List.filter_cons, keep a ha, keep _ hb]
    simpa using List.perm_middle.trans (List.perm_append_singleton last (a ++ b)).symm |>.trans
      (by simp)

theorem nodup_filter {d : Dict} (hn : d.keys.Nodup) (p : Bytes × Obj → Bool) :
    (keys (d.filter p)).Nodup :=
  List.Nodup.sublist (List.filter_sublist.map fun x : Bytes × Obj => x.1) hn

theorem nodup_remove {d : Dict} (hn : d.keys.Nodup) (k : Bytes) : (d.remove k).keys.Nodup :=
  ((remove_perm hn k).map fun x : Bytes × Obj => x.1).nodup_iff.mpr (nodup_filter hn _)

theorem mem_remove {d : Dict} {k : Bytes} {p : Bytes × Obj} (h : p ∈ d.remove k) : p ∈ d := by
  rcases remove_cases d k with ⟨_, e⟩ | ⟨a, v, rfl, _, e⟩ | ⟨a, v, b, last, rfl, _, e⟩ <;>
    rw [e] at h
  · exact h
  · exact List.mem_append_left _ h
  · simp only [List.mem_append, List.mem_cons, List.mem_nil_iff, or_false] at h ⊢
    rcases h with h | h | h
    · exact Or.inl h
    · exact Or.inr (Or.inr (Or.inr h))
    · exact Or.inr (Or.inr (Or.inl h))

/-- `swap_remove` on distinct keys: the key is gone, every other key keeps its value -/
theorem get_remove {d : Dict} (hn : d.keys.Nodup) (k k' : Bytes) :
    (d.remove k).get k' = if k = k' then none else d.get k' := by
  rw [get_perm (nodup_remove hn k) (nodup_filter hn _) (remove_perm hn k)]
  split
  · subst k'
    refine (get_eq_none_iff _ _).mpr fun hm => ?_
    obtain ⟨p, hp, rfl⟩ := List.mem_map.mp hm
    simpa using (List.mem_filter.mp hp).2
  · rename_i e
    cases hg : d.get k' with
    | some v =>
      exact get_of_mem (nodup_filter hn _)
        (List.mem_filter.mpr ⟨mem_of_get hg, by simpa using Ne.symm e⟩)
    | none =>
      refine (get_eq_none_iff _ _).mpr fun hm => (get_eq_none_iff d k').mp hg ?_
      obtain ⟨p, hp, rfl⟩ := List.mem_map.mp hm
      exact List.mem_map_of_mem (List.mem_filter.mp hp).1

theorem get_remove_same {d : Dict} (hn : d.keys.Nodup) (k : Bytes) : (d.remove k).get k = none := by
  simp [get_remove hn]

end Lopdf.Dict
