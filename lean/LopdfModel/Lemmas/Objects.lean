import LopdfModel.Model.Obj
/-
  `Objects.get` and the entries of the list; look-up under a map that keeps the ids.
-/
namespace Lopdf

theorem Objects.get_mem {os : Objects} {id : ObjId} {o : Obj} (h : os.get id = some o) : (id, o) ∈ os := by
  induction os with
  | nil => cases h
  | cons p rest ih =>
    obtain ⟨i, o'⟩ := p
    rw [Objects.get] at h
    split at h
    · rename_i e; cases h; cases e; exact List.mem_cons_self
    · exact List.mem_cons_of_mem _ (ih h)

theorem Objects.get_of_mem {os : Objects} (hn : (os.map (·.1)).Nodup) {id : ObjId} {o : Obj} (h : (id, o) ∈ os) :
    os.get id = some o := by
  induction os with
  | nil => cases h
  | cons p rest ih =>
    obtain ⟨i, o'⟩ := p
    rw [List.map_cons, List.nodup_cons] at hn
    rw [Objects.get]
    rcases List.mem_cons.mp h with e | h
    · cases e; rw [if_pos rfl]
    · rw [if_neg (fun e : i = id => hn.1 (e ▸ List.mem_map_of_mem (f := (·.1)) h)), ih hn.2 h]

theorem Objects.get_mapVals (os : Objects) (g : ObjId → Obj → Obj) (q : ObjId) :
    Objects.get (os.map fun p => (p.1, g p.1 p.2)) q = (os.get q).map (g q) := by
  induction os with
  | nil => rfl
  | cons p rest ih =>
    obtain ⟨k, v⟩ := p
    simp only [List.map_cons, Objects.get]
    by_cases hk : k = q
    · subst hk; simp
    · simp [hk, ih]

end Lopdf
