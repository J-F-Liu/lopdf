import LopdfModel.Lemmas.Edit
import LopdfModel.Lemmas.Deep
/-
  Helper lemmas for C11: stream `Length` consistency of one object (`LenOK`) under the traversal (tame
  actions) and under the stream edits; `Document::compress` / `Document::decompress` (model of C09) as a
  rewriting of each stored object.
-/
namespace Lopdf.Ed
open Lopdf

/-- a stream's dictionary has pairwise distinct keys (it is an `IndexMap`) and its `Length` entry is the
length of the content it stores -/
def LenOK : Obj → Prop
  | .stream d c => DictL.NoDup d ∧ Dict.get d LENGTHE = some (.int c.length)
  | _ => True

/-- every stream object of the document has a consistent `Length` -/
def LenInv (d : Doc) : Prop := ∀ k o, d.objects.get k = some o → LenOK o

/-- actions that keep a stream a stream with the same content, keep its dictionary's keys distinct and its
integer `Length`, leave integers alone and never turn a non-stream into a stream (all actions lopdf passes to
`traverse_objects`) -/
structure Tame (a : Action) : Prop where
  stream : ∀ d c, ∃ d', a.f (.stream d c) = .stream d' c ∧
    (DictL.NoDup d → DictL.NoDup d' ∧ ∀ i, Dict.get d LENGTHE = some (.int i) → Dict.get d' LENGTHE = some (.int i))
  int : ∀ i, a.f (.int i) = .int i
  only : ∀ o d' c, a.f o = .stream d' c → ∃ d, o = .stream d c

theorem lenOK_deep (a : Action) (ht : Tame a) (o : Obj) (h : LenOK o) : LenOK (deepObj a o) := by
  cases hf : a.f o with
  | stream es c =>
    rw [deepObj_stream hf]
    obtain ⟨d, rfl⟩ := ht.only o es c hf
    obtain ⟨d', e1, e2⟩ := ht.stream d c
    rw [hf] at e1; cases e1
    obtain ⟨n1, n2⟩ := e2 h.1
    refine ⟨by unfold DictL.NoDup; rw [keys_deepDict]; exact n1, ?_⟩
    rw [dictGet_deepDict, n2 _ h.2, Option.map_some, deepObj_mapKids, ht.int]; rfl
  | _ => rw [deepObj_mapKids, hf]; trivial

theorem tame_id : Tame idAct :=
  ⟨fun d c => ⟨d, rfl, fun h => ⟨h, fun _ e => e⟩⟩, fun _ => rfl, fun o d c h => ⟨d, h⟩⟩
theorem tame_rename (m : List (ObjId × ObjId)) : Tame (renameAct m) := by
  refine ⟨fun d c => ⟨d, rfl, fun h => ⟨h, fun _ e => e⟩⟩, fun _ => rfl, ?_⟩
  intro o d c h
  cases o <;> simp [renameAct, renameFn] at h ⊢
  · exact h.2
  · split at h <;> cases h
theorem tame_del (id : ObjId) : Tame (delAct id) := by
  refine ⟨fun d c => ⟨stripDict id d, rfl, fun hn => ⟨nodup_stripDict id hn, fun i hi => ?_⟩⟩, fun _ => rfl, ?_⟩
  · rw [get_stripDict id hn, hi]; rfl
  · intro o d c h
    cases o <;> simp [delAct, delFn] at h ⊢
    exact h.2

theorem klength_eq : Gen.K_LENGTH = LENGTHE := by decide

/-- `d'` is `d` after entries were removed and entries were set to an integer or a name: all that `set_content`,
`compress`, `decompress` and `set_plain_content` do to the dictionary of a stream -/
inductive Retouched (d : Dict) : Dict → Prop
  | refl : Retouched d d
  | remove {d' : Dict} (k : Bytes) : Retouched d d' → Retouched d (Dict.remove d' k)
  | setInt {d' : Dict} (k : Bytes) (i : Int) : Retouched d d' → Retouched d (Dict.set d' k (.int i))
  | setName {d' : Dict} (k n : Bytes) : Retouched d d' → Retouched d (Dict.set d' k (.name n))

theorem Retouched.nodup {d d' : Dict} (h : Retouched d d') (hn : DictL.NoDup d) : DictL.NoDup d' := by
  induction h with
  | refl => exact hn
  | remove k _ ih => exact Dict.nodup_remove ih k
  | setInt k i _ ih => exact Dict.nodup_set ih k _
  | setName k n _ ih => exact Dict.nodup_set ih k _

theorem Retouched.dictND {d d' : Dict} (h : Retouched d d') (hd : DictND d) : DictND d' := by
  induction h with
  | refl => exact hd
  | remove k _ ih => exact dictND_remove ih k
  | setInt k i _ ih => exact dictND_set ih k _ trivial
  | setName k n _ ih => exact dictND_set ih k _ trivial

theorem Retouched.deepND {d d' : Dict} (h : Retouched d d') (c c' : Bytes) (hd : DeepND (.stream d c)) :
    DeepND (.stream d' c') :=
  (deepND_stream d' c').mpr (h.dictND ((deepND_stream d c).mp hd))

theorem retouched_setContent {d : Dict} {s : Strm} (h : Retouched d s.dict) (c : Bytes) :
    Retouched d (setContent s c).dict := h.setInt Gen.K_LENGTH c.length

theorem retouched_removeKeysSeq {d d1 : Dict} (h : Retouched d d1) (ks : List Bytes) :
    Retouched d (removeKeysSeq d1 ks) := by
  induction ks generalizing d1 with
  | nil => exact h
  | cons k ks ih => exact ih (h.remove k)

theorem retouched_compress (f : Bytes → Bytes) (d : Dict) (c : Bytes) : Retouched d (compress f ⟨d, c⟩).dict := by
  unfold compress
  split
  · exact .refl
  · simp only
    split
    · exact retouched_setContent ((Retouched.refl.remove _).setName _ _) _
    · exact .refl

theorem retouched_decompress (ext : Ext) (d : Dict) (c : Bytes) (s : Strm) (h : decompress ext ⟨d, c⟩ = .ok s) :
    Retouched d s.dict := by
  unfold decompress at h
  cases hd : decompressedContent ext ⟨d, c⟩ <;> rw [hd] at h <;> cases h
  exact retouched_setContent (retouched_removeKeysSeq .refl _) _

theorem retouched_plainThenCompress (deflated : Bytes) (dict : Dict) (c : Bytes) :
    ∃ d' c', plainThenCompress deflated dict c = .stream d' c' ∧ Retouched dict d' := by
  have h1 : Retouched dict (Dict.set (Dict.remove (Dict.remove dict kDecodeParms) kFilter) LENGTHE (.int c.length)) :=
    ((Retouched.refl.remove _).remove _).setInt _ _
  unfold plainThenCompress
  simp only
  split
  · exact ⟨_, _, rfl, ((h1.remove _).setName _ _).setInt _ _⟩
  · exact ⟨_, _, rfl, h1⟩

theorem lenOK_setContent (s : Strm) (c : Bytes) (hn : DictL.NoDup s.dict) :
    LenOK (.stream (setContent s c).dict (setContent s c).content) := by
  refine ⟨Dict.nodup_set hn _ _, ?_⟩
  simp [setContent, klength_eq, Dict.get_set, lenObj]

theorem lenOK_compress (f : Bytes → Bytes) (d : Dict) (c : Bytes) (h : LenOK (.stream d c)) :
    LenOK (.stream (compress f ⟨d, c⟩).dict (compress f ⟨d, c⟩).content) := by
  unfold compress
  split
  · exact h
  · simp only
    split
    · exact lenOK_setContent _ _ (Dict.nodup_set (Dict.nodup_remove h.1 _) _ _)
    · exact h

theorem lenOK_decompress (ext : Ext) (d : Dict) (c : Bytes) (s : Strm) (hn : DictL.NoDup d) (h : decompress ext ⟨d, c⟩ = .ok s) :
    LenOK (.stream s.dict s.content) := by
  unfold decompress at h
  cases hd : decompressedContent ext ⟨d, c⟩ with
  | ok data =>
    rw [hd] at h
    simp only [Outcome.map] at h
    cases h
    exact lenOK_setContent _ _ ((retouched_removeKeysSeq .refl _).nodup hn)
  | err e => rw [hd] at h; simp [Outcome.map] at h
  | panic e => rw [hd] at h; simp [Outcome.map] at h

/-- what `Document::compress` does to one object -/
def compressObj (f : Bytes → Bytes) (al : ObjId → Bool) (id : ObjId) : Obj → Obj
  | .stream d c => if al id then .stream (compress f ⟨d, c⟩).dict (compress f ⟨d, c⟩).content else .stream d c
  | o => o

/-- what `Document::decompress` does to one object -/
def decompressObj (ext : Ext) : Obj → Obj
  | .stream d c => match decompress ext ⟨d, c⟩ with
    | .ok s => .stream s.dict s.content
    | _ => .stream d c
  | o => o

theorem docCompress_eq (f : Bytes → Bytes) (al : ObjId → Bool) (os : Objects) :
    docCompress f al os = os.map fun p => (p.1, compressObj f al p.1 p.2) := by
  unfold docCompress
  refine List.map_congr_left fun p _ => ?_
  obtain ⟨id, o⟩ := p
  cases o <;> simp only [compressObj]
  split <;> rfl

theorem docDecompress_eq (ext : Ext) (os : Objects) :
    docDecompress ext os = os.map fun p => (p.1, decompressObj ext p.2) := by
  unfold docDecompress
  refine List.map_congr_left fun p _ => ?_
  obtain ⟨id, o⟩ := p
  cases o <;> simp only [decompressObj]
  generalize decompress ext _ = r
  cases r <;> rfl

theorem lenOK_compressObj (f : Bytes → Bytes) (al : ObjId → Bool) (id : ObjId) (o : Obj) (h : LenOK o) :
    LenOK (compressObj f al id o) := by
  cases o <;> simp only [compressObj] <;> try exact h
  split
  · exact lenOK_compress f _ _ h
  · exact h

theorem lenOK_decompressObj (ext : Ext) (o : Obj) (h : LenOK o) : LenOK (decompressObj ext o) := by
  cases o <;> simp only [decompressObj] <;> try exact h
  split
  · rename_i s hs; exact lenOK_decompress ext _ _ s h.1 hs
  · exact h

theorem compressObj_nonstream (f : Bytes → Bytes) (al : ObjId → Bool) (id : ObjId) (o : Obj)
    (h : ∀ d c, o ≠ .stream d c) : compressObj f al id o = o := by
  cases o <;> simp [compressObj]; exact absurd rfl (h _ _)
theorem decompressObj_nonstream (ext : Ext) (o : Obj) (h : ∀ d c, o ≠ .stream d c) : decompressObj ext o = o := by
  cases o <;> simp [decompressObj]; exact absurd rfl (h _ _)

theorem lenOK_streamNew (c : Bytes) : LenOK (streamNew [] c) := by
  simp [streamNew, LenOK, Dict.set, Dict.get, DictL.NoDup]

theorem lenOK_plainThenCompress (deflated : Bytes) (dict : Dict) (c : Bytes) (hn : DictL.NoDup dict) :
    LenOK (plainThenCompress deflated dict c) := by
  unfold plainThenCompress
  simp only
  have h1 : DictL.NoDup (Dict.set (Dict.remove (Dict.remove dict kDecodeParms) kFilter) LENGTHE (.int c.length)) :=
    Dict.nodup_set (Dict.nodup_remove (Dict.nodup_remove hn _) _) _ _
  split
  · exact ⟨Dict.nodup_set (Dict.nodup_set (Dict.nodup_remove h1 _) _ _) _ _, by simp [Dict.get_set]⟩
  · exact ⟨h1, by simp [Dict.get_set]⟩

end Lopdf.Ed
