import LopdfModel.Model.Basic
/-
  Generic helper lemmas: quantifiers over `UInt8` by complete enumeration, digits.
-/
namespace Lopdf

/-- `P` on the bytes below `n` from the `n` instances (`n` small: closed by `decide +kernel`). -/
theorem forall_uint8_lt (n : Nat) (P : UInt8 → Prop) (h : ∀ i : Fin n, P (UInt8.ofNat i.val)) :
    ∀ b : UInt8, b.toNat < n → P b := by
  intro b hb
  simpa using h ⟨b.toNat, hb⟩

/-- `∀ b : UInt8, P b` from the 256 instances (a complete enumeration, closed by `decide +kernel`). -/
theorem forall_uint8 (P : UInt8 → Prop) (h : ∀ i : Fin 256, P (UInt8.ofNat i.val)) : ∀ b, P b :=
  fun b => forall_uint8_lt 256 P h b (UInt8.toNat_lt b)

theorem fuel_succ {n fuel : Nat} (h : n + 1 ≤ fuel) : ∃ f, fuel = f + 1 ∧ n ≤ f :=
  ⟨fuel - 1, by omega⟩

theorem digitsVal_append (a : Bytes) (d : UInt8) :
    digitsVal (a ++ [d]) = digitsVal a * 10 + (d - 48).toNat := by
  simp [digitsVal, List.foldl_append]

theorem natDigits_ne_nil (n : Nat) : natDigits n ≠ [] := by
  rw [natDigits]; split <;> simp

theorem digit_of_lt10 (k : Nat) (h : k < 10) : isDigit (48 + k.toUInt8) = true ∧ ((48 + k.toUInt8) - 48).toNat = k :=
  (by decide +kernel : ∀ k : Fin 10,
    isDigit (48 + k.val.toUInt8) = true ∧ ((48 + k.val.toUInt8) - 48).toNat = k.val) ⟨k, h⟩

theorem natDigits_all_digit (n : Nat) : ∀ d ∈ natDigits n, isDigit d = true := by
  induction n using natDigits.induct with
  | case1 n h => rw [natDigits]; simp [h]; exact (digit_of_lt10 n h).1
  | case2 n h ih =>
    rw [natDigits]; simp [h]
    intro d hd
    rcases hd with hd | hd
    · exact ih d hd
    · subst hd; exact (digit_of_lt10 (n % 10) (Nat.mod_lt _ (by omega))).1

theorem digitsVal_natDigits (n : Nat) : digitsVal (natDigits n) = n := by
  induction n using natDigits.induct with
  | case1 n h => rw [natDigits]; simp [h, digitsVal]; exact (digit_of_lt10 n h).2
  | case2 n h ih =>
    rw [natDigits]; simp only [h, dite_false]
    rw [digitsVal_append, ih, (digit_of_lt10 (n % 10) (Nat.mod_lt _ (by omega))).2]
    omega

theorem byteArray_toList_loop (bs : ByteArray) (i : Nat) (r : List UInt8) :
    ByteArray.toList.loop bs i r = r.reverse ++ bs.data.toList.drop i := by
  induction i, r using ByteArray.toList.loop.induct bs with
  | case1 i r h ih =>
    have hi : i < bs.data.toList.length := h
    rw [ByteArray.toList.loop.eq_def, if_pos h, ih, List.reverse_cons, List.append_assoc, List.drop_eq_getElem_cons hi]
    simp [ByteArray.get!, h]
  | case2 i r h =>
    rw [ByteArray.toList.loop.eq_def, if_neg h, List.drop_of_length_le (Nat.le_of_not_lt h), List.append_nil]

/-- the bytes of a string without the index loop of `ByteArray.toList` (which the kernel unfolds
by well-founded recursion): the form in which long literals are evaluated -/
theorem strBytes_data (s : String) : strBytes s = s.toUTF8.data.toList := by
  rw [strBytes, ByteArray.toList, byteArray_toList_loop]; rfl

end Lopdf
