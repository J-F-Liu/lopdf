import LopdfModel.Model.Parse
/-
  `space` (white space and comments between tokens) without its fuel: one round `spaceNext`
  consumes at least one byte, so `space` is the iteration of rounds (`space_step`); from that,
  what `space` does in front of a white-space byte, a comment, a token, the end of the text.
-/
namespace Lopdf.ObjRt
open Lopdf Gen

theorem spanP_join (p : UInt8 → Bool) (inp : Bytes) : (spanP p inp).1 ++ (spanP p inp).2 = inp := by
  induction inp with
  | nil => rfl
  | cons b r ih =>
    by_cases h : p b = true
    · simp [spanP, h, ih]
    · simp [spanP, h]

theorem eol_lt (inp : Bytes) (m r : Bytes) (h : eol inp = some (m, r)) : r.length < inp.length := by
  unfold eol at h
  split at h <;> simp at h <;> (obtain ⟨_, rfl⟩ := h; simp) <;> omega

theorem comment_lt (inp r : Bytes) (h : comment inp = some r) : r.length < inp.length := by
  unfold comment at h
  split at h
  · rename_i r0
    obtain ⟨⟨m, r'⟩, h1, rfl⟩ := Option.map_eq_some_iff.mp h
    have := eol_lt _ _ _ h1
    have := congrArg List.length (spanP_join (fun b => b != 13 && b != 10) r0)
    rw [List.length_append] at this
    simp only [List.length_cons]; omega
  · cases h

theorem comment_non37 (b : UInt8) (r : Bytes) (h : b ≠ 37) : comment (b :: r) = none := by
  unfold comment
  split
  · rename_i r0 heq; injection heq with e _; exact absurd e h
  · rfl

def spaceNext (inp : Bytes) : Option Bytes :=
  match spanP isWhitespace inp with
  | (_ :: _, r) => some r
  | ([], _) => comment inp

theorem spaceF_succ (f : Nat) (inp : Bytes) :
    spaceF (f + 1) inp = match spaceNext inp with | some r => spaceF f r | none => inp := by
  simp only [spaceF, spaceNext]
  cases spanP isWhitespace inp with
  | mk a r =>
    cases a with
    | cons => rfl
    | nil => cases comment inp <;> rfl

theorem spaceNext_lt (inp r : Bytes) (h : spaceNext inp = some r) : r.length < inp.length := by
  have hl := congrArg List.length (spanP_join isWhitespace inp)
  unfold spaceNext at h
  split at h
  · rename_i x xs r' hs
    cases h
    simp [hs] at hl
    omega
  · exact comment_lt _ _ h

/-- `spaceF` does not depend on the fuel once it exceeds the input length: each round consumes
at least one byte -/
theorem spaceF_stable : ∀ (f g : Nat) (inp : Bytes), inp.length < f → inp.length < g →
    spaceF f inp = spaceF g inp := by
  intro f
  induction f with
  | zero => intro g inp h; omega
  | succ f ih =>
    intro g inp hf hg
    cases g with
    | zero => omega
    | succ g =>
      rw [spaceF_succ, spaceF_succ]
      cases hn : spaceNext inp with
      | none => rfl
      | some r =>
        have := spaceNext_lt _ _ hn
        exact ih g r (by omega) (by omega)

theorem space_step (inp : Bytes) :
    space inp = match spaceNext inp with | some r => space r | none => inp := by
  rw [space, spaceF_succ]
  cases hn : spaceNext inp with
  | none => rfl
  | some r => exact spaceF_stable _ _ r (spaceNext_lt _ _ hn) (by omega)

theorem space_ws (b : UInt8) (x : Bytes) (h : isWhitespace b = true) : space (b :: x) = space x := by
  rw [space_step (b :: x)]
  simp only [spaceNext, spanP, h, if_true]
  cases hs : spanP isWhitespace x with
  | mk a r =>
    cases a with
    | nil =>
      -- no further white space: the round leaves `x` itself
      have := spanP_join isWhitespace x
      rw [hs] at this
      exact congrArg space this
    | cons y ys => rw [space_step x, spaceNext, hs]

theorem space_sp (x : Bytes) : space (32 :: x) = space x := space_ws 32 x (by decide)

theorem space_comment (x r : Bytes) (hc : comment (37 :: x) = some r) : space (37 :: x) = space r := by
  rw [space_step]
  simp only [spaceNext, spanP, show isWhitespace 37 = false by decide, Bool.false_eq_true, if_false, hc]

/-- first byte of a token: neither white space nor `%` -/
def HeadTok (x : Bytes) : Prop := ∃ b r, x = b :: r ∧ isWhitespace b = false ∧ b ≠ 37

theorem space_head (x : Bytes) (h : HeadTok x) : space x = x := by
  obtain ⟨b, r, rfl, hw, hp⟩ := h
  rw [space_step]
  simp only [spaceNext, spanP, hw, Bool.false_eq_true, if_false, comment_non37 b r hp]

theorem space_sp_head (x : Bytes) (h : HeadTok x) : space (32 :: x) = x := by
  rw [space_sp, space_head x h]

theorem space_stop (x : Bytes) (h : ∀ b r, x = b :: r → isWhitespace b = false ∧ b ≠ 37) : space x = x := by
  cases x with
  | nil => rfl
  | cons b r => exact space_head _ ⟨b, r, rfl, h b r rfl⟩

end Lopdf.ObjRt
