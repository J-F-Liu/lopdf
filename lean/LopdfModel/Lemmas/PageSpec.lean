import LopdfModel.Thm.C10
/-
  The pairs of the page-order pass of `renumber_objects_with`, explicitly: the stable sort `sortBy` (sorted
  output, uniqueness of a sorted arrangement under an antisymmetric order, commutation with a key
  projection), the order `idLeE` on ids, and `pagePairs P = pageSpec P`: the j-th page takes the number of
  the j-th smallest page id.
-/
namespace Lopdf.Ren
open Lopdf

theorem mem_insertBy {α} (le : α → α → Bool) (x : α) (l : List α) (z : α) : z ∈ insertBy le x l ↔ z = x ∨ z ∈ l := by
  rw [(insertBy_perm le x l).mem_iff, List.mem_cons]

theorem insertBy_pairwise {α} (le : α → α → Bool) (htot : ∀ a b, le a b = false → le b a = true)
    (htr : ∀ a b c, le a b = true → le b c = true → le a c = true) (x : α) (l : List α)
    (h : l.Pairwise (fun a b => le a b = true)) : (insertBy le x l).Pairwise (fun a b => le a b = true) := by
  induction l with
  | nil => exact List.pairwise_singleton _ _
  | cons y ys ih =>
    obtain ⟨hy, hys⟩ := List.pairwise_cons.mp h
    rw [insertBy]
    cases hxy : le x y with
    | true =>
      rw [if_pos rfl]
      refine List.pairwise_cons.mpr ⟨fun z hz => ?_, h⟩
      rcases List.mem_cons.mp hz with rfl | hz
      · exact hxy
      · exact htr _ _ _ hxy (hy z hz)
    | false =>
      rw [if_neg Bool.false_ne_true]
      refine List.pairwise_cons.mpr ⟨fun z hz => ?_, ih hys⟩
      rcases (mem_insertBy le x ys z).mp hz with rfl | hz
      · exact htot _ _ hxy
      · exact hy z hz

theorem sortBy_pairwise {α} (le : α → α → Bool) (htot : ∀ a b, le a b = false → le b a = true)
    (htr : ∀ a b c, le a b = true → le b c = true → le a c = true) (l : List α) :
    (sortBy le l).Pairwise (fun a b => le a b = true) := by
  induction l with
  | nil => exact List.Pairwise.nil
  | cons x xs ih => exact insertBy_pairwise le htot htr x _ ih

theorem sortBy_of_pairwise {α} (le : α → α → Bool) (l : List α) (h : l.Pairwise (fun a b => le a b = true)) :
    sortBy le l = l := by
  induction l with
  | nil => rfl
  | cons x xs ih =>
    obtain ⟨hx, hxs⟩ := List.pairwise_cons.mp h
    show insertBy le x (sortBy le xs) = x :: xs
    rw [ih hxs]
    cases xs with
    | nil => rfl
    | cons y ys => rw [insertBy, if_pos (hx y List.mem_cons_self)]

theorem sorted_perm_unique {α} (le : α → α → Bool) (l1 l2 : List α) (hp : l1.Perm l2)
    (h1 : l1.Pairwise (fun a b => le a b = true)) (h2 : l2.Pairwise (fun a b => le a b = true))
    (ha : ∀ a ∈ l1, ∀ b ∈ l1, le a b = true → le b a = true → a = b) : l1 = l2 := by
  induction l1 generalizing l2 with
  | nil => exact (List.nil_perm.mp hp).symm
  | cons x xs ih =>
    cases l2 with
    | nil => exact absurd hp.length_eq (by simp)
    | cons y ys =>
      obtain ⟨hx, hxs⟩ := List.pairwise_cons.mp h1
      obtain ⟨hy, hys⟩ := List.pairwise_cons.mp h2
      -- the heads agree: each is below the other
      have hxy : x = y := by
        rcases List.mem_cons.mp (hp.mem_iff.mp List.mem_cons_self) with e | hx'
        · exact e
        · rcases List.mem_cons.mp (hp.mem_iff.mpr List.mem_cons_self) with e | hy'
          · exact e.symm
          · exact ha x List.mem_cons_self y (List.mem_cons_of_mem _ hy') (hx y hy') (hy x hx')
      subst hxy
      rw [ih ys (List.Perm.cons_inv hp) hxs hys fun a ha' b hb' =>
        ha a (List.mem_cons_of_mem _ ha') b (List.mem_cons_of_mem _ hb')]

theorem map_insertBy {α β} (f : α → β) (le : β → β → Bool) (x : α) (l : List α) :
    (insertBy (fun a b => le (f a) (f b)) x l).map f = insertBy le (f x) (l.map f) := by
  induction l with
  | nil => rfl
  | cons y ys ih =>
    rw [insertBy, List.map_cons, insertBy]
    cases le (f x) (f y) with
    | true => rfl
    | false => rw [if_neg Bool.false_ne_true, if_neg Bool.false_ne_true, List.map_cons, ih]

theorem map_sortBy {α β} (f : α → β) (le : β → β → Bool) (l : List α) :
    (sortBy (fun a b => le (f a) (f b)) l).map f = sortBy le (l.map f) := by
  induction l with
  | nil => rfl
  | cons x xs ih =>
    show (insertBy _ x (sortBy _ xs)).map f = insertBy le (f x) (sortBy le (xs.map f))
    rw [map_insertBy, ih]

theorem sortBy_length {α} (le : α → α → Bool) (l : List α) : (sortBy le l).length = l.length := (sortBy_perm le l).length_eq

theorem idLeE_iff (a b : ObjId) : idLeE a b = true ↔ ¬ (b.1 < a.1 ∨ (b.1 = a.1 ∧ b.2 < a.2)) := by
  rw [idLeE, Bool.not_eq_true', ← Bool.not_eq_true, idLt_iff]

theorem idLeE_total (a b : ObjId) (h : idLeE a b = false) : idLeE b a = true := by
  have : ¬ idLeE a b = true := by rw [h]; exact Bool.false_ne_true
  rw [idLeE_iff] at *; omega

theorem idLeE_trans (a b c : ObjId) (h1 : idLeE a b = true) (h2 : idLeE b c = true) : idLeE a c = true := by
  rw [idLeE_iff] at *; omega

theorem idLeE_antisymm (a b : ObjId) (h1 : idLeE a b = true) (h2 : idLeE b a = true) : a = b := by
  rw [idLeE_iff] at *
  exact Prod.ext (by omega) (by omega)

theorem idLt_asymm (a b : ObjId) (h : idLt a b = true) : idLt b a = false := by
  cases hh : idLt b a with
  | false => rfl
  | true => have := idLt_trans h hh; rw [idLt_irrefl] at this; cases this

/-- the page-order renaming: the j-th page (in page order) takes the NUMBER of the j-th smallest page id and
keeps its own generation -/
def pageSpec (P : List ObjId) : List (ObjId × ObjId) :=
  (P.zip (sortBy idLeE P)).map (fun x => (x.1, (x.2.1, x.1.2)))

/-- `page_iter().enumerate()` with page numbers from 1 -/
def enumPages (P : List ObjId) : List (Nat × ObjId) :=
  ((List.range P.length).zip P).map (fun (p : Nat × ObjId) => (p.1 + 1, p.2))

theorem enumPages_snd (P : List ObjId) : (enumPages P).map (·.2) = P := by
  rw [enumPages, List.map_map]
  exact (List.map_snd_zip (l₁ := List.range P.length) (by rw [List.length_range]; exact Nat.le_refl _))

theorem enumPages_fst (P : List ObjId) : (enumPages P).map (·.1) = (List.range P.length).map (· + 1) := by
  rw [enumPages, List.map_map]
  show ((List.range P.length).zip P).map ((· + 1) ∘ Prod.fst) = _
  rw [← List.map_map, List.map_fst_zip (by rw [List.length_range]; exact Nat.le_refl _)]

theorem sorted_of_fst {l : List (Nat × ObjId)} {n : Nat} (h : l.map (·.1) = (List.range n).map (· + 1)) :
    l.Pairwise (fun a b => decide (a.1 ≤ b.1) = true) := by
  have : ((List.range n).map (· + 1)).Pairwise (· < ·) :=
    List.pairwise_map.mpr (List.Pairwise.imp (fun h => Nat.succ_lt_succ h) List.pairwise_lt_range)
  rw [← h, List.pairwise_map] at this
  exact List.Pairwise.imp (fun h => decide_eq_true (Nat.le_of_lt h)) this

theorem enumPages_fst_nodup (P : List ObjId) : ((enumPages P).map (·.1)).Nodup := by
  rw [enumPages_fst]
  exact List.pairwise_map.mpr (List.Pairwise.imp (fun h e => Nat.ne_of_lt h (Nat.succ.inj e)) List.pairwise_lt_range)

theorem resort_enum (P : List ObjId) (l : List (Nat × ObjId)) (hp : l.Perm (enumPages P)) :
    sortBy (fun (a b : Nat × ObjId) => decide (a.1 ≤ b.1)) l = enumPages P := by
  have hl := (sortBy_perm (fun (a b : Nat × ObjId) => decide (a.1 ≤ b.1)) l).trans hp
  refine sorted_perm_unique _ _ _ hl
    (sortBy_pairwise _ (fun a b h => by simp at h ⊢; omega) (fun a b c h1 h2 => by simp at *; omega) l)
    (sorted_of_fst (enumPages_fst P)) fun a ha b hb h1 h2 => ?_
  refine inj_of_nodup_map (·.1) (enumPages P) (enumPages_fst_nodup P) a (hl.mem_iff.mp ha) b (hl.mem_iff.mp hb) ?_
  exact Nat.le_antisymm (of_decide_eq_true h1) (of_decide_eq_true h2)

theorem pageSpec_of (P : List ObjId) :
    ((enumPages P).zip (sortBy (fun (a b : Nat × ObjId) => idLeE a.2 b.2) (enumPages P))).map
      (fun (x : (Nat × ObjId) × (Nat × ObjId)) => (x.1.2, (x.2.2.1, x.1.2.2))) = pageSpec P := by
  rw [pageSpec]
  conv => rhs; rw [← enumPages_snd P, ← map_sortBy (fun (x : Nat × ObjId) => x.2) idLeE]
  rw [List.zip_map, List.map_map]
  rfl

theorem pagePairs_some (P : List ObjId) (pairs : List (ObjId × ObjId)) (hp : pagePairs P = some pairs) :
    pairs = pageSpec P := by
  unfold pagePairs at hp
  simp only at hp
  split at hp
  · have hre := resort_enum P (sortBy (fun (a b : Nat × ObjId) => idLeE a.2 b.2) (enumPages P)) (sortBy_perm _ _)
    unfold enumPages at hre
    rw [← Option.some.inj hp, hre]
    exact pageSpec_of P
  · cases hp

/-- when it does not run, the pages are in id order already — `pageSpec` is the identity -/
theorem pagePairs_none (P : List ObjId) (hp : pagePairs P = none) : sortBy idLeE P = P := by
  unfold pagePairs at hp
  simp only at hp
  split at hp
  · cases hp
  · rename_i hneeds
    have hfalse := List.any_eq_false.mp (Bool.eq_false_iff.mpr hneeds)
    generalize hso : sortBy (fun (a b : Nat × ObjId) => idLeE a.2 b.2) (enumPages P) = sorted
    rw [show ((List.range P.length).zip P).map (fun (p : Nat × ObjId) => (p.1 + 1, p.2)) = enumPages P from rfl,
      hso] at hfalse
    have hperm : sorted.Perm (enumPages P) := hso ▸ sortBy_perm _ _
    -- no entry is out of place: the index column of `sorted` is 1, 2, …, so `sorted` is the enumeration
    have hfst : sorted.map (·.1) = (List.range sorted.length).map (· + 1) := by
      conv => lhs; rw [← List.map_snd_zip (l₁ := List.range sorted.length) (l₂ := sorted)
        (by rw [List.length_range]; exact Nat.le_refl _)]
      conv => rhs; rw [← List.map_fst_zip (l₁ := List.range sorted.length) (l₂ := sorted)
        (by rw [List.length_range]; exact Nat.le_refl _)]
      rw [List.map_map, List.map_map]
      exact List.map_congr_left fun x hx => by simpa using hfalse x hx
    have heq : sorted = enumPages P :=
      (sortBy_of_pairwise _ sorted (sorted_of_fst hfst)).symm.trans (resort_enum P sorted hperm)
    rw [← enumPages_snd P, ← map_sortBy (fun (x : Nat × ObjId) => x.2) idLeE, hso, heq]

theorem pageSpec_olds (P : List ObjId) : (pageSpec P).map (·.1) = P := by
  rw [pageSpec, List.map_map]
  exact List.map_fst_zip (by rw [sortBy_length]; exact Nat.le_refl _)

theorem pageSpec_nums (P : List ObjId) : (pageSpec P).map (·.2.1) = (sortBy idLeE P).map (·.1) := by
  rw [pageSpec, List.map_map]
  show (P.zip (sortBy idLeE P)).map ((·.1) ∘ Prod.snd) = _
  rw [← List.map_map, List.map_snd_zip (by rw [sortBy_length]; exact Nat.le_refl _)]

theorem pageSpec_id (P : List ObjId) (h : sortBy idLeE P = P) : rhoFn (pageSpec P) = id := by
  refine funext (rhoFn_rel (fun x y => y = x) _ (fun _ => rfl) fun p hp => ?_)
  rw [pageSpec, h, List.zip_eq_zipWith, List.zipWith_self, List.map_map] at hp
  obtain ⟨x, -, rfl⟩ := List.mem_map.mp hp
  rfl

theorem pageRho_page (P : List ObjId) (hn : P.Nodup) (j : Nat) (p q : ObjId) (hp : P[j]? = some p)
    (hq : (sortBy idLeE P)[j]? = some q) : rhoFn (pageSpec P) p = (q.1, p.2) := by
  refine rho_of_mem (pageSpec P) (by rw [pageSpec_olds]; exact hn) (p, (q.1, p.2)) ?_
  exact List.mem_map.mpr ⟨(p, q), List.mem_of_getElem? (List.getElem?_zip_eq_some.mpr ⟨hp, hq⟩), rfl⟩

/- non-vacuity: pages 7 then 3, page order differs from id order -/
example : pageSpec [(7, 0), (3, 0)] = [((7, 0), (3, 0)), ((3, 0), (7, 0))] := by decide

end Lopdf.Ren
