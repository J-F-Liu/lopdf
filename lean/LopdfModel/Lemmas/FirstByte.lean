import LopdfModel.Lemmas.Lex
/-
  The lexer decides by the next byte, so the side conditions of the completeness theorems say what
  a text starts with, in one of two forms: `Starts P bs` (the spelling of a number starts with a
  digit, an end-of-line marker with CR or LF, …) and `Ahead Q bs` (the text is empty or its first
  byte is in `Q`: `NoDigitAhead`, `NameStop`, `StopHead`, `SpaceStop`, `NoOctAhead` are ∀-formulas of
  their own that are definitionally `Ahead …`, so `ahead_cons` and the other `Ahead` lemmas apply to
  them as such). That a byte class contains no white space is read off the table `WHITESPACE`.
-/
namespace Lopdf
open Gen

/-- the text starts with a byte of class `P` -/
def Starts (P : UInt8 → Prop) (bs : Bytes) : Prop := ∃ c r, bs = c :: r ∧ P c

/-- the text is empty or starts with a byte of class `Q` -/
def Ahead (Q : UInt8 → Prop) (bs : Bytes) : Prop := ∀ b r, bs = b :: r → Q b

variable {P Q : UInt8 → Prop} {bs : Bytes}

theorem starts_cons {c : UInt8} {r : Bytes} (h : P c) : Starts P (c :: r) := ⟨c, r, rfl, h⟩

theorem Starts.append (h : Starts P bs) (z : Bytes) : Starts P (bs ++ z) := by
  obtain ⟨c, r, rfl, hc⟩ := h
  exact ⟨c, r ++ z, rfl, hc⟩

theorem Starts.mono (h : Starts P bs) (hpq : ∀ c, P c → Q c) : Starts Q bs := by
  obtain ⟨c, r, e, hc⟩ := h
  exact ⟨c, r, e, hpq c hc⟩

theorem Starts.ahead (h : Starts P bs) (hpq : ∀ c, P c → Q c) : Ahead Q bs := by
  obtain ⟨c, r, rfl, hc⟩ := h
  intro b r' e
  injection e with e _
  exact e ▸ hpq c hc

theorem Starts.length_pos (h : Starts P bs) : 1 ≤ bs.length := by
  obtain ⟨c, r, rfl, _⟩ := h
  simp

theorem Starts.ne_nil (h : Starts P bs) : bs ≠ [] := by
  obtain ⟨c, r, rfl, _⟩ := h
  simp

theorem starts_of_forall (hne : bs ≠ []) (h : ∀ b ∈ bs, P b) : Starts P bs := by
  cases bs with
  | nil => exact absurd rfl hne
  | cons a as => exact ⟨a, as, rfl, h a (by simp)⟩

theorem ahead_nil : Ahead Q [] := fun _ _ e => nomatch e

theorem ahead_cons {c : UInt8} {r : Bytes} (h : Q c) : Ahead Q (c :: r) := by
  intro b r' e
  injection e with e _
  exact e ▸ h

theorem Ahead.mono (h : Ahead P bs) (hpq : ∀ c, P c → Q c) : Ahead Q bs :=
  fun b r e => hpq b (h b r e)

theorem Ahead.append {a : Bytes} (h : Ahead Q a) {z : Bytes} (hz : Ahead Q z) : Ahead Q (a ++ z) := by
  cases a with
  | nil => exact hz
  | cons x xs => exact ahead_cons (h x xs rfl)

theorem Ahead.append_of_ne_nil {a : Bytes} (h : Ahead Q a) (hne : a ≠ []) (z : Bytes) : Ahead Q (a ++ z) := by
  cases a with
  | nil => exact absurd rfl hne
  | cons x xs => exact ahead_cons (h x xs rfl)

theorem ahead_extend {s t : Bytes} (h : Ahead Q (s ++ t)) (ht : t ≠ []) (z : Bytes) : Ahead Q (s ++ (t ++ z)) := by
  rw [← List.append_assoc]
  exact h.append_of_ne_nil (fun e => ht (List.append_eq_nil_iff.mp e).2) z

theorem tag_append (t r : Bytes) : tag t (t ++ r) = some r := by
  induction t with
  | nil => cases r <;> rfl
  | cons x xs ih => simp [tag, ih]

/-! ### a part of a text is shorter than the text (the parsers' fuel is compared with lengths) -/

theorem length_lt_left {a b : Bytes} {f : Nat} (h : (a ++ b).length < f) : a.length < f :=
  Nat.lt_of_le_of_lt (by rw [List.length_append]; exact Nat.le_add_right _ _) h

theorem length_lt_right {a b : Bytes} {f : Nat} (h : (a ++ b).length < f) : b.length < f :=
  Nat.lt_of_le_of_lt (by rw [List.length_append]; exact Nat.le_add_left _ _) h

theorem le_length_append {a : Bytes} {n : Nat} (h : n ≤ a.length) (b : Bytes) : n ≤ (a ++ b).length := by
  rw [List.length_append]; exact Nat.le_trans h (Nat.le_add_right _ _)

theorem not_ws_of (C : UInt8 → Bool) (htab : ∀ c ∈ WHITESPACE, C c = false) {b : UInt8} (hb : C b = true) :
    isWhitespace b = false := by
  cases hw : isWhitespace b with
  | false => rfl
  | true => rw [htab b (by simpa [isWhitespace] using hw)] at hb; cases hb

theorem ne_of_class {C : UInt8 → Bool} {b c : UInt8} (hb : C b = true) (hc : C c = false) : b ≠ c :=
  fun e => by rw [e, hc] at hb; cases hb

theorem ws_not_regular {b : UInt8} (h : isWhitespace b = true) : isRegular b = false := by
  simp [isRegular, h]

theorem digit_not_ws {b : UInt8} (h : isDigit b = true) : isWhitespace b = false :=
  not_ws_of isDigit (by decide) h

theorem ws_not_digit {b : UInt8} (h : isWhitespace b = true) : isDigit b = false := by
  cases hd : isDigit b with
  | false => rfl
  | true => rw [digit_not_ws hd] at h; cases h

end Lopdf
