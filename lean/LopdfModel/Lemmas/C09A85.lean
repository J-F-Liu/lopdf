import LopdfModel.Model.Filters
import LopdfModel.Spec.A85
import LopdfModel.Lemmas.Outcome
namespace Lopdf
open Gen Spec.A85

theorem digit_facts (n : Nat) :
    (digit n = A85_Z) = False ∧ isAsciiWhitespace (digit n) = false ∧
    (A85_LO ≤ digit n && digit n ≤ A85_HI) = true ∧ (digit n - A85_LO).toNat = n % 85 := by
  have h : ∀ m : Fin 85, ((m.val + 33).toUInt8 = A85_Z) = False ∧ isAsciiWhitespace ((m.val + 33).toUInt8) = false ∧
    (A85_LO ≤ (m.val + 33).toUInt8 && (m.val + 33).toUInt8 ≤ A85_HI) = true ∧ ((m.val + 33).toUInt8 - A85_LO).toNat = m.val := by
    decide +kernel
  exact h ⟨n % 85, Nat.mod_lt _ (by decide)⟩

theorem a85Loop_digit (n : Nat) (rest : Bytes) (buf count : Nat) :
    a85Loop (digit n :: rest) buf count =
      match a85Step buf (n % 85) with
      | none => .err "ascii85 overflow"
      | some v => if count + 1 = 5 then (a85Loop rest 0 0).map (be4 v ++ ·) else a85Loop rest v (count + 1) := by
  obtain ⟨h1, h2, h3, h4⟩ := digit_facts n
  rw [a85Loop]
  simp only [h1, h2, h3, h4, if_false, Bool.not_true, Bool.false_eq_true]
  rfl

theorem a85Step_ok (buf d : Nat) (h : buf * 85 + d ≤ 4294967295) : a85Step buf d = some (buf * 85 + d) := by
  have h1 : ¬ buf * 85 > 4294967295 := by omega
  have h2 : ¬ buf * 85 + d > 4294967295 := by omega
  simp only [a85Step, A85_BASE, A85_U32_MAX, h1, h2, if_false]

/-- the digit of `w` after the digits of `w / 85`: the buffer becomes `w`; the fifth digit completes the group -/
theorem a85Loop_digit_div (w : Nat) (hw : w ≤ 4294967295) (rest : Bytes) (c : Nat) :
    a85Loop (digit w :: rest) (w / 85) c =
      if c + 1 = 5 then (a85Loop rest 0 0).map (be4 w ++ ·) else a85Loop rest w (c + 1) := by
  rw [a85Loop_digit, a85Step_ok _ _ (by omega), Nat.div_add_mod' w 85]

/-- after the first `k ≤ 4` digits of a group the buffer holds the value of these digits, `v / 85 ^ (5 - k)` -/
theorem a85Loop_digits (v : Nat) (hv : v ≤ 4294967295) (rest : Bytes) (k : Nat) (hk : k ≤ 4) :
    a85Loop ((digits5 v).take k ++ rest) 0 0 = a85Loop rest (v / 85 ^ (5 - k)) k := by
  induction k generalizing rest with
  | zero => rw [Nat.div_eq_of_lt (by omega : v < 85 ^ 5)]; rfl
  | succ k ih =>
    have e : (digits5 v).take (k + 1) = (digits5 v).take k ++ [digit (v / 85 ^ (4 - k))] := by
      obtain rfl | rfl | rfl | rfl : k = 0 ∨ k = 1 ∨ k = 2 ∨ k = 3 := by omega
      all_goals rfl
    have hd : v / 85 ^ (5 - k) = v / 85 ^ (4 - k) / 85 := by
      rw [Nat.div_div_eq_div_mul, ← Nat.pow_succ, show 5 - k = 4 - k + 1 by omega]
    have := Nat.div_le_self v (85 ^ (4 - k))
    rw [e, List.append_assoc, ih _ (by omega), hd, List.singleton_append, a85Loop_digit_div _ (by omega),
      if_neg (by omega), show 5 - (k + 1) = 4 - k by omega]

theorem a85_full (v : Nat) (hv : v ≤ 4294967295) (rest : Bytes) :
    a85Loop (digits5 v ++ rest) 0 0 = (a85Loop rest 0 0).map (be4 v ++ ·) := by
  have := a85Loop_digits v hv (digit v :: rest) 4 (by omega)
  rw [show digits5 v ++ rest = (digits5 v).take 4 ++ digit v :: rest from rfl, this]
  exact a85Loop_digit_div v hv rest 4

theorem a85Pad_eq (k buf : Nat) (h : buf * 85 ^ k + (85 ^ k - 1) ≤ 4294967295) :
    a85Pad k buf = some (buf * 85 ^ k + (85 ^ k - 1)) := by
  induction k generalizing buf with
  | zero => simp [a85Pad]
  | succ k ih =>
    have hP : 0 < 85 ^ k := Nat.pow_pos (by omega)
    have e : (buf * 85 + 84) * 85 ^ k + (85 ^ k - 1) = buf * 85 ^ (k + 1) + (85 ^ (k + 1) - 1) := by
      rw [Nat.add_mul, Nat.mul_assoc, Nat.pow_succ, Nat.mul_comm 85 (85 ^ k)]; omega
    have hs : buf * 85 + 84 ≤ (buf * 85 + 84) * 85 ^ k := Nat.le_mul_of_pos_right _ hP
    rw [a85Pad, A85_PAD, a85Step_ok _ _ (by omega), Option.bind_some, ih _ (by omega), e]

theorem a85Loop_nil (q c : Nat) (hc : 0 < c) (h : q * 85 ^ (5 - c) + (85 ^ (5 - c) - 1) ≤ 4294967295) :
    a85Loop [] q c = .ok ((be4 (q * 85 ^ (5 - c) + (85 ^ (5 - c) - 1))).take (c - 1)) := by
  rw [a85Loop, a85Finish, if_pos hc, a85Pad_eq _ _ h]

/-- rounding `t * B` down to a multiple of `D ≤ B` and adding `D - 1` does not reach the next multiple of `B` -/
theorem pad_div (t B D : Nat) (hD : 0 < D) (hDB : D ≤ B) : (t * B / D * D + (D - 1)) / B = t := by
  apply Nat.div_eq_of_lt_le
  · have := Nat.lt_div_mul_add (a := t * B) hD; omega
  · have := Nat.div_mul_le_self (t * B) D
    rw [Nat.add_mul]; omega

theorem be4_take (n : Nat) (hn : n ≤ 4) (x y : Nat) (h : x / 256 ^ (4 - n) = y / 256 ^ (4 - n)) :
    (be4 x).take n = (be4 y).take n := by
  have e : ∀ z, be4 z = (List.range 4).map fun i => (z / 256 ^ (3 - i) % 256).toUInt8 := by
    intro z; simp [be4, List.range, List.range.loop]
  have d : ∀ z i, i < n → z / 256 ^ (3 - i) = z / 256 ^ (4 - n) / 256 ^ (n - 1 - i) := fun z i hi => by
    rw [Nat.div_div_eq_div_mul, ← Nat.pow_add, show 4 - n + (n - 1 - i) = 3 - i by omega]
  rw [e, e, ← List.map_take, ← List.map_take, List.take_range, Nat.min_eq_left hn]
  apply List.map_congr_left
  intro i hi
  rw [d x i (List.mem_range.mp hi), d y i (List.mem_range.mp hi), h]

theorem div_mod_digit (t x B : Nat) (hx : x < B) : (t * B + x) / B = t ∧ (t * B + x) % B = x :=
  ⟨by rw [Nat.add_comm, Nat.add_mul_div_right _ _ (by omega), Nat.div_eq_of_lt hx, Nat.zero_add],
   by rw [Nat.add_comm, Nat.add_mul_mod_self_right, Nat.mod_eq_of_lt hx]⟩

theorem be4_val4 (a b c d : UInt8) : be4 (val4 a b c d) = [a, b, c, d] := by
  have ha := UInt8.toNat_lt a
  have hb := UInt8.toNat_lt b
  have hc := UInt8.toNat_lt c
  have hd := UInt8.toNat_lt d
  have e : val4 a b c d = ((a.toNat * 256 + b.toNat) * 256 + c.toNat) * 256 + d.toNat := by
    simp only [val4]; omega
  have n : ∀ z, be4 z = [(z / 256 / 256 / 256 % 256).toUInt8, (z / 256 / 256 % 256).toUInt8, (z / 256 % 256).toUInt8, (z % 256).toUInt8] := by
    intro z; simp [be4, Nat.div_div_eq_div_mul]
  rw [e, n, (div_mod_digit _ _ _ hd).1, (div_mod_digit _ _ _ hd).2, (div_mod_digit _ _ _ hc).1, (div_mod_digit _ _ _ hc).2,
    (div_mod_digit _ _ _ hb).1, (div_mod_digit _ _ _ hb).2, Nat.mod_eq_of_lt ha]
  simp

theorem val4_le (a b c d : UInt8) : val4 a b c d ≤ 4294967295 := by
  have ha := UInt8.toNat_lt a
  have hb := UInt8.toNat_lt b
  have hc := UInt8.toNat_lt c
  have hd := UInt8.toNat_lt d
  simp only [val4]; omega

/-- a final group of `n` bytes with value `t`, encoded as the first `n + 1` digits of `t` followed by `4 - n` zero
bytes: padding with `u` gives a value whose first `n` bytes are still those of `t`, because `85 ^ (4 - n) ≤ 256 ^ (4 - n)` -/
theorem a85_partial (n t : Nat) (h1 : 1 ≤ n) (h3 : n ≤ 3) (ht : t < 256 ^ n) (a b c d : UInt8)
    (e : val4 a b c d = t * 256 ^ (4 - n)) :
    a85Loop ((digits5 (val4 a b c d)).take (n + 1)) 0 0 = .ok ([a, b, c, d].take n) := by
  have hD : 0 < 85 ^ (4 - n) := Nat.pow_pos (by omega)
  have hB : 0 < 256 ^ (4 - n) := Nat.pow_pos (by omega)
  have hDB : 85 ^ (4 - n) ≤ 256 ^ (4 - n) := Nat.pow_le_pow_left (by omega) _
  have hV : (t + 1) * 256 ^ (4 - n) ≤ 256 ^ n * 256 ^ (4 - n) := Nat.mul_le_mul_right _ ht
  have hW := Nat.div_mul_le_self (t * 256 ^ (4 - n)) (85 ^ (4 - n))
  rw [← Nat.pow_add, show n + (4 - n) = 4 by omega, Nat.add_mul] at hV
  have hk := a85Loop_digits (t * 256 ^ (4 - n)) (by omega) [] (n + 1) (by omega)
  rw [List.append_nil, show 5 - (n + 1) = 4 - n by omega] at hk
  rw [← be4_val4 a b c d, e, hk, a85Loop_nil _ _ (by omega) (by rw [show 5 - (n + 1) = 4 - n by omega]; omega),
    show 5 - (n + 1) = 4 - n by omega, Nat.add_sub_cancel,
    be4_take n (by omega) _ (t * 256 ^ (4 - n)) (by rw [pad_div t _ _ hD hDB, Nat.mul_div_cancel _ hB])]

theorem a85_z (rest : Bytes) : a85Loop (122 :: rest) 0 0 = (a85Loop rest 0 0).map ([0, 0, 0, 0] ++ ·) := by
  rw [a85Loop]
  simp [A85_Z]

theorem stripEod_encode (l : Bytes) : stripEod (l ++ EOD) = l := by
  simp [stripEod, EOD, A85_EOD]

theorem a85Loop_encGroups (x : Bytes) : a85Loop (encGroups x) 0 0 = .ok x := by
  induction x using encGroups.induct with
  | case1 a b c d rest ih =>
    rw [encGroups]
    split
    · rename_i h0
      have t : [0, 0, 0, 0] = [a, b, c, d] := by rw [← be4_val4 a b c d, h0]; rfl
      rw [List.singleton_append, a85_z, ih]
      exact congrArg (fun l => Outcome.ok (l ++ rest)) t
    · rw [a85_full _ (val4_le a b c d), ih, be4_val4]; rfl
  | case2 a b c =>
    have ha := UInt8.toNat_lt a
    have hb := UInt8.toNat_lt b
    have hc := UInt8.toNat_lt c
    rw [encGroups]
    exact a85_partial 3 ((a.toNat * 256 + b.toNat) * 256 + c.toNat) (by omega) (by omega) (by omega) a b c 0
      (by simp only [val4, UInt8.toNat_zero]; omega)
  | case3 a b =>
    have ha := UInt8.toNat_lt a
    have hb := UInt8.toNat_lt b
    rw [encGroups]
    exact a85_partial 2 (a.toNat * 256 + b.toNat) (by omega) (by omega) (by omega) a b 0 0
      (by simp only [val4, UInt8.toNat_zero]; omega)
  | case4 a =>
    rw [encGroups]
    exact a85_partial 1 a.toNat (by omega) (by omega) (UInt8.toNat_lt a) a 0 0 0
      (by simp only [val4, UInt8.toNat_zero]; omega)
  | case5 => rw [encGroups, a85Loop]; rfl

theorem a85_rt (x : Bytes) : a85Decode (encode x) = .ok x := by
  rw [a85Decode, encode, stripEod_encode, a85Loop_encGroups]

/-! `decode_ascii85` never panics: its arithmetic is checked, every other step is total -/

theorem a85Finish_no_panic (buf count : Nat) (s : String) : a85Finish buf count ≠ .panic s := by
  unfold a85Finish
  split
  · split <;> simp
  · simp

/-- along the branches of the loop: an error, the final code, or the rest of the loop, possibly under `map` -/
theorem a85Loop_no_panic (input : Bytes) (buf count : Nat) : ∀ s, a85Loop input buf count ≠ .panic s := by
  fun_induction a85Loop input buf count with
  | case1 buf count => exact a85Finish_no_panic buf count
  | case2 => simp
  | case3 _ _ _ _ ih => exact fun s => Outcome.map_ne_panic (ih s)
  | case4 _ _ _ _ _ _ ih => exact ih
  | case5 => exact a85Finish_no_panic _ _
  | case6 => simp
  | case7 _ _ _ _ _ _ _ _ _ _ ih => exact fun s => Outcome.map_ne_panic (ih s)
  | case8 _ _ _ _ _ _ _ _ _ _ ih => exact ih

theorem a85_no_panic' (input : Bytes) (s : String) : a85Decode input ≠ .panic s :=
  a85Loop_no_panic _ _ _ s

end Lopdf
