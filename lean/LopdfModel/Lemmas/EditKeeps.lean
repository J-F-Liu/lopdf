import LopdfModel.Lemmas.EditLen
/-
  Helper lemmas for C11: the three unary invariants of a document under edit — well-formedness (`WF`), stream
  `Length` consistency (`LenInv`), distinct keys at every depth (`DistinctKeys`) — through every editing call.
  A call is a chain of overwrites of stored objects, insertions and traversals; `Keeps` says that a step keeps
  all three, each call is shown to keep them once (`step_keeps`), and the three theorems per invariant
  (`wf_step`, `len_step`, `distinct_step`) are its projections.
-/
namespace Lopdf.Ed
open Lopdf Lopdf.DictL

/-- distinct keys everywhere: trailer and every stored object, at every depth (`delete_object`'s reference
claim assumes it of the document) -/
def DistinctKeys (d : Doc) : Prop :=
  NoDup d.trailer ∧ DeepNDD d.trailer ∧ ∀ k o, d.objects.get k = some o → DeepND o

def ObjsND (os : Objects) : Prop := ∀ k o, os.get k = some o → DeepND o

theorem distinctKeys_iff (d : Doc) : DistinctKeys d ↔ DictND d.trailer ∧ ObjsND d.objects :=
  ⟨fun h => ⟨⟨h.1, h.2.1⟩, h.2.2⟩, fun h => ⟨h.1.1, h.1.2, h.2⟩⟩

theorem DistinctKeys.objs {d : Doc} (h : DistinctKeys d) : ObjsND d.objects := h.2.2

theorem DistinctKeys.dictAt {d : Doc} (h : DistinctKeys d) {t : ObjId} {pd : Dict} (hg : d.objects.get t = some (.dict pd)) :
    DictND pd := (deepND_dict pd).mp (h.objs t _ hg)

/-- the stream objects a caller hands to `add_object` / `set_object` must themselves be consistent -/
def opLenGuard : Op → Prop
  | .add o => LenOK o
  | .set _ o => LenOK o
  | _ => True

/-- what the caller must supply: objects handed to `add_object` / `set_object` are distinct-keyed
(they are built from `IndexMap`s) -/
def OpND : Op → Prop
  | .add o => DeepND o
  | .set _ o => DeepND o
  | _ => True

/-- the step from `d` to `d'` keeps the three unary invariants; `gl` and `gn` stand for what the call's own
arguments have to satisfy (`opLenGuard`, `OpND`) -/
structure Keeps (gl gn : Prop) (d d' : Doc) : Prop where
  wf : WF d → WF d'
  len : gl → LenInv d → LenInv d'
  nd : gn → DistinctKeys d → DistinctKeys d'

variable {gl gn : Prop}

theorem Keeps.refl (d : Doc) : Keeps gl gn d d := ⟨id, fun _ => id, fun _ => id⟩

/-- the second step may use what held before the first -/
theorem Keeps.trans {a b c : Doc} (h1 : Keeps gl gn a b) (h2 : Keeps (gl ∧ LenInv a) (gn ∧ DistinctKeys a) b c) :
    Keeps gl gn a c :=
  ⟨fun h => h2.wf (h1.wf h), fun g h => h2.len ⟨g, h⟩ (h1.len g h), fun g h => h2.nd ⟨g, h⟩ (h1.nd g h)⟩

theorem Keeps.objects (d : Doc) (os : Objects) (hw : WF d → WF { d with objects := os })
    (hl : gl → LenInv d → os.All LenOK) (hn : gn → DistinctKeys d → os.All DeepND) :
    Keeps gl gn d { d with objects := os } :=
  ⟨hw, hl, fun g h => ⟨h.1, h.2.1, hn g h⟩⟩

/-- `get_mut(t)` and a write -/
theorem Keeps.setObj (d : Doc) (t : ObjId) (v : Obj) (hl : gl → LenInv d → LenOK v)
    (hn : gn → DistinctKeys d → DeepND v) : Keeps gl gn d { d with objects := d.objects.set t v } :=
  Keeps.objects d _ (wf_setObj d t v) (fun g h => Objects.All.set h t (hl g h))
    (fun g h => Objects.All.set h.objs t (hn g h))

/-- `dict.set(key, v)` on the dictionary stored at `t` -/
theorem Keeps.setEntry (d : Doc) {t : ObjId} {pd : Dict} (hg : d.objects.get t = some (.dict pd)) (key : Bytes) (v : Obj)
    (hv : gn → DistinctKeys d → DeepND v) :
    Keeps gl gn d { d with objects := d.objects.set t (.dict (Dict.set pd key v)) } :=
  Keeps.setObj d t _ (fun _ _ => trivial) fun g h => (deepND_dict _).mpr (dictND_set (h.dictAt hg) key v (hv g h))

theorem Keeps.addObject (d : Doc) (o : Obj) (hl : gl → LenOK o) (hn : gn → DeepND o) : Keeps gl gn d (addObject d o) :=
  ⟨wf_addObject d o, fun g h => Objects.All.insert h _ (hl g), fun g h => ⟨h.1, h.2.1, Objects.All.insert h.objs _ (hn g)⟩⟩

theorem derefAux_mem (os : Objects) : ∀ (n : Nat) (o o' : Obj), derefAux os n o = some o' → o' = o ∨ ∃ k, os.get k = some o' := by
  intro n
  induction n with
  | zero =>
    intro o o' h
    cases o <;> simp only [derefAux] at h <;> try (cases h; exact Or.inl rfl)
    split at h <;> cases h
  | succ n ih =>
    intro o o' h
    cases o <;> simp only [derefAux] at h <;> try (cases h; exact Or.inl rfl)
    split at h
    · cases h
    · rename_i o1 hg
      rcases ih o1 o' h with e | e
      · subst e; exact Or.inr ⟨_, hg⟩
      · exact Or.inr e

theorem getDictionary_mem (os : Objects) (id : ObjId) (page : Dict) (h : getDictionary os id = some page) :
    ∃ k, os.get k = some (.dict page) := by
  unfold getDictionary getObject at h
  cases hg : os.get id with
  | none => rw [hg] at h; cases h
  | some o =>
    rw [hg] at h; simp only [Option.bind_some] at h
    cases hd : deref os o with
    | none => rw [hd] at h; cases h
    | some o' =>
      rw [hd] at h; simp only [Option.bind_some] at h
      have : o' = .dict page := by cases o' <;> simp [Obj.asDict] at h; rw [h]
      subst this
      rcases derefAux_mem os _ o _ hd with e | e
      · subst e; exact ⟨id, hg⟩
      · exact e

theorem getDictionary_nd {os : Objects} (h : ObjsND os) (id : ObjId) (page : Dict) (hg : getDictionary os id = some page) :
    DictND page := by
  obtain ⟨k, hk⟩ := getDictionary_mem os id page hg
  exact (deepND_dict page).mp (h k _ hk)

theorem contentsList_nd {page : Dict} (h : DictND page) : ∀ x ∈ contentsList page, DeepND x := by
  unfold contentsList
  split
  · intro x hx; simp at hx; subst hx; trivial
  · rename_i a hg; exact (deepND_arr a).mp (dictND_get h _ _ hg)
  · intro x hx; cases hx

theorem inheritedRes_nd {os : Objects} (h : ObjsND os) (node : Dict) : DictND (inheritedRes os node) := by
  have aux : ∀ (fuel : Nat) (st : Option ObjId) (res : Dict), inheritedResAux os fuel st = some res → DictND res := by
    intro fuel
    induction fuel with
    | zero => intro st res hr; simp [inheritedResAux] at hr
    | succ n ih =>
      intro st res hr
      cases st with
      | none => simp [inheritedResAux] at hr
      | some id =>
        simp only [inheritedResAux] at hr
        split at hr
        · cases hr
        · rename_i anc hanc
          split at hr
          · exact getDictionary_nd h _ res hr
          · rename_i r hg
            cases hr
            exact (deepND_dict _).mp (dictND_get (getDictionary_nd h id anc hanc) _ _ hg)
          · cases hr
          · exact ih _ res hr
  unfold inheritedRes
  cases hr : inheritedResAux os (os.length + 1) ((Dict.get node PARENT).bind Obj.asRef) with
  | none => exact dictND_nil
  | some res => exact aux _ _ res hr

theorem readLoc_nd {os : Objects} (h : ObjsND os) (loc : ResLoc) (o : Obj) (hr : readLoc os loc = some o) : DeepND o := by
  cases loc with
  | obj id => exact h id o hr
  | entry t =>
    simp only [readLoc] at hr
    split at hr
    · rename_i pd hg
      exact dictND_get ((deepND_dict pd).mp (h _ _ hg)) _ _ hr
    · cases hr

theorem keeps_setDictEntry (d : Doc) (id : ObjId) (key : Bytes) (v : Obj) (hv : gn → DistinctKeys d → DeepND v) :
    Keeps gl gn d (setDictEntry d id key v).1 := by
  fun_cases setDictEntry d id key v
  · exact Keeps.refl d
  · rename_i hg; exact Keeps.setEntry d hg key v hv
  · exact Keeps.refl d

theorem streamNew_nd (content : Bytes) : DeepND (streamNew [] content) :=
  (deepND_stream _ _).mpr (dictND_set dictND_nil _ _ trivial)

theorem keeps_addPageContents (d : Doc) (pg : ObjId) (content : Bytes) (r : Doc × Out)
    (hs : addPageContents d pg content = .ok r) : Keeps gl gn d r.1 := by
  revert hs
  fun_cases addPageContents d pg content <;> intro hs <;> cases hs
  · exact Keeps.refl d
  · rename_i page hg _
    refine (Keeps.addObject d _ (fun _ => lenOK_streamNew content) (fun _ => streamNew_nd content)).trans
      (keeps_setDictEntry _ pg CONTENTS _ fun g _ => (deepND_arr _).mpr fun x hx => ?_)
    -- the page was read before the stream was added
    rcases List.mem_append.mp hx with hx | hx
    · exact contentsList_nd (getDictionary_nd g.2.objs pg page hg) x hx
    · cases List.mem_singleton.mp hx; trivial

theorem keeps_removeAnnot (id : ObjId) (pages : List ObjId) (d : Doc) : Keeps gl gn d (removeAnnot id pages d).1 := by
  fun_induction removeAnnot id pages d generalizing gl gn with
  | case3 pid rest d t ht pd hg a ha ih =>
    exact (Keeps.setEntry d hg kAnnots (.arr (retainNotRef id a)) fun _ h =>
      deepND_filter a _ (dictND_get (h.dictAt hg) _ _ ha)).trans ih
  | _ => exact Keeps.refl _

theorem keeps_getOrCreate (d : Doc) (pg : ObjId) (d1 : Doc) (loc : ResLoc)
    (hr : getOrCreateResources d pg = some (d1, loc)) : Keeps gl gn d d1 := by
  revert hr
  fun_cases getOrCreateResources d pg <;> intro hr
  · cases hr
  · obtain ⟨t, _, he⟩ := Option.map_eq_some_iff.mp hr
    cases he; exact Keeps.refl d
  · cases hr
  · cases hr; exact Keeps.refl d
  · cases hr
    rename_i page _ _ _ _ _ _ hg _
    exact Keeps.setEntry d hg kResources _ fun _ h => (deepND_dict _).mpr (inheritedRes_nd h.objs page)
  · cases hr

theorem keeps_writeLoc (d : Doc) (loc : ResLoc) (v : Dict) (hv : gn → DistinctKeys d → DictND v) :
    Keeps gl gn d { d with objects := writeLoc d.objects loc (.dict v) } := by
  cases loc with
  | obj id => exact Keeps.setObj d id _ (fun _ _ => trivial) fun g h => (deepND_dict v).mpr (hv g h)
  | entry t =>
    simp only [writeLoc]
    split
    · rename_i pd hg; exact Keeps.setEntry d hg kResources _ fun g h => (deepND_dict v).mpr (hv g h)
    · exact Keeps.refl d

theorem subEntry_nd {res : Dict} (h : DictND res) (cat name : Bytes) (tgt : ObjId) (sd : Dict)
    (hsd : Dict.get (if Dict.has res cat then res else Dict.set res cat (.dict [])) cat = some (.dict sd)) :
    DictND (Dict.set (if Dict.has res cat then res else Dict.set res cat (.dict [])) cat
      (.dict (Dict.set sd name (.ref tgt.1 tgt.2)))) := by
  have h1 : DictND (if Dict.has res cat then res else Dict.set res cat (.dict [])) := by
    split
    · exact h
    · exact dictND_set h _ _ ((deepND_dict []).mpr dictND_nil)
  exact dictND_set h1 _ _ ((deepND_dict _).mpr (dictND_set ((deepND_dict sd).mp (dictND_get h1 _ _ hsd)) _ _ trivial))

theorem keeps_addXObject (d : Doc) (pg : ObjId) (name : Bytes) (xid : ObjId) : Keeps gl gn d (addXObject d pg name xid).1 := by
  fun_cases addXObject d pg name xid
  case case1 => exact Keeps.refl d
  case case3 d1 loc hgc _ _ _ _ _ _ _ _ _ hg =>
    exact (keeps_getOrCreate d pg d1 loc hgc).trans (Keeps.setEntry d1 hg name _ fun _ _ => trivial)
  case case5 d1 loc hgc res hres _ xd hg =>
    exact (keeps_getOrCreate d pg d1 loc hgc).trans (keeps_writeLoc d1 loc _ fun _ h =>
      subEntry_nd ((deepND_dict res).mp (readLoc_nd h.objs loc _ hres)) kXObject name xid xd hg)
  all_goals exact keeps_getOrCreate d pg _ _ (by assumption)

theorem keeps_addGraphicsState (d : Doc) (pg : ObjId) (name : Bytes) (gid : ObjId) :
    Keeps gl gn d (addGraphicsState d pg name gid).1 := by
  fun_cases addGraphicsState d pg name gid
  case case1 => exact Keeps.refl d
  case case2 d1 loc hgc res hres _ sd hg =>
    exact (keeps_getOrCreate d pg d1 loc hgc).trans (keeps_writeLoc d1 loc _ fun _ h =>
      subEntry_nd ((deepND_dict res).mp (readLoc_nd h.objs loc _ hres)) kExtGState name gid sd hg)
  all_goals exact keeps_getOrCreate d pg _ _ (by assumption)

theorem keeps_changeContentStream (f : Bytes → Bytes) (d : Doc) (sid : ObjId) (c : Bytes) :
    Keeps gl gn d (changeContentStream f d sid c) := by
  fun_cases changeContentStream f d sid c
  · rename_i dict c0 hg
    exact Keeps.setObj d sid _ (fun _ h => lenOK_plainThenCompress _ _ _ (h sid _ hg).1)
      fun _ h => by
        obtain ⟨d', c', e, hr⟩ := retouched_plainThenCompress (f c) dict c
        rw [e]; exact hr.deepND c0 c' (h.objs _ _ hg)
  · exact Keeps.refl d

theorem keeps_changePageContent (f : Bytes → Bytes) (d : Doc) (pg : ObjId) (c : Bytes) (r : Doc × Out)
    (hs : changePageContent f d pg c = .ok r) : Keeps gl gn d r.1 := by
  revert hs
  fun_cases changePageContent f d pg c <;> intro hs <;> cases hs
  case case2 | case3 => exact keeps_changeContentStream f d _ c
  case case6 =>
    exact (Keeps.addObject d _ (fun _ => lenOK_streamNew c) (fun _ => streamNew_nd c)).trans
      (keeps_setDictEntry _ pg CONTENTS _ fun _ _ => trivial)
  all_goals exact Keeps.refl d

/-- a traversal from the trailer `tr`, then some objects removed: what `delete_object` and `prune_objects` do -/
theorem keeps_traverse_remove (a : Action) (ht : Tame a) (hn : ActND a) (d : Doc) (tr : Dict)
    (htr : DistinctKeys d → DictND tr) (ids : List ObjId) :
    Keeps gl gn d { d with trailer := (traverse a tr d.objects).1,
                           objects := ids.foldl Objects.remove (traverse a tr d.objects).2.1 } := by
  refine ⟨fun h => wf_of_sub d _ _ h (sorted_foldl_remove _ _ (traverse_sorted _ _ _ h.2)) fun k hk => ?_,
    fun _ h => (Objects.All.traverse h a tr (lenOK_deep a ht)).foldl_remove ids, fun _ h => ?_⟩
  · rw [get_foldl_remove] at hk
    split at hk
    · cases hk
    · rwa [traverse_isSome] at hk
  · refine (distinctKeys_iff _).mpr ⟨?_, (Objects.All.traverse h.objs a tr (deepObj_nd a hn)).foldl_remove ids⟩
    rw [(traverse_visits_once a tr d.objects).1]
    exact deepDict_nd a hn tr (htr h)

theorem idAct_nd : ActND idAct := fun _ h => h

theorem keeps_deleteObject (d : Doc) (id : ObjId) : Keeps gl gn d (deleteObject d id).1 :=
  keeps_traverse_remove (delAct id) (tame_del id) (delAct_nd id) d _ (fun h => stripDict_nd id ⟨h.1, h.2.1⟩) [id]

theorem keeps_prune (d : Doc) : Keeps gl gn d (pruneObjects d).1 :=
  keeps_traverse_remove idAct tame_id idAct_nd d _ (fun h => ⟨h.1, h.2.1⟩) _

theorem keeps_foldl_delete (ids : List ObjId) (d : Doc) :
    Keeps gl gn d (ids.foldl (fun d id => (deleteObject d id).1) d) :=
  List.foldlRecOn ids _ (Keeps.refl d) fun b h id _ => h.trans (keeps_deleteObject b id)

theorem decCount_nd {pt : Dict} (h : DictND pt) : DictND (decCount pt) := by
  unfold decCount
  split
  · exact dictND_set h _ _ trivial
  · exact h

/-- the `Parent` walk of `delete_pages` -/
theorem keeps_decCounts (d : Doc) (seen : List ObjId) (r : Option ObjId) :
    Keeps gl gn d { d with objects := decCounts d.objects seen r } :=
  Keeps.objects d _ (fun h => wf_of_keys_eq d _ h (decCounts_keys _ _ _))
    (fun _ h => Objects.All.decCounts (fun _ _ => trivial) seen r h)
    (fun _ h => Objects.All.decCounts (fun pt hp => (deepND_dict _).mpr (decCount_nd ((deepND_dict pt).mp hp))) seen r h.objs)

theorem keeps_deletePage1 (pages : List ObjId) (d : Doc) (n : Nat) : Keeps gl gn d (deletePage1 pages d n) := by
  fun_cases deletePage1 pages d n
  · exact Keeps.refl d
  · rename_i pid _ d' page heq _
    have hd : Keeps gl gn d d' := by simpa [heq] using keeps_deleteObject (gl := gl) (gn := gn) d pid
    exact hd.trans (keeps_decCounts d' _ _)
  · rename_i pid _ d' heq
    simpa [heq] using keeps_deleteObject (gl := gl) (gn := gn) d pid

theorem keeps_deletePages (d : Doc) (nums : List Nat) : Keeps gl gn d (deletePages d nums) :=
  List.foldlRecOn nums _ (Keeps.refl d) fun b h n _ => h.trans (keeps_deletePage1 _ b n)

theorem renameAct_nd (m : List (ObjId × ObjId)) : ActND (renameAct m) := by
  intro o ho
  show DeepND (renameFn m o)
  cases o with
  | ref n g => simp only [renameFn]; split <;> trivial
  | _ => exact ho

/-- a move pass followed by the renaming traversal, as both halves of `renumber_objects_with` run it -/
theorem renamePass_all {P : Obj → Prop} (hP : ∀ m o, P o → P (deepObj (renameAct m) o)) {os : Objects} (h : os.All P)
    (bks : List Nat) (bm : BkTable) (pairs : List (ObjId × ObjId)) (tr : Dict) :
    (traverse (renameAct (movePass bks os bm pairs).replace) tr (movePass bks os bm pairs).objects).2.1.All P :=
  Objects.All.traverse (h.movePass bks bm pairs) _ tr (hP _)

theorem keeps_renumber (d : Doc) (start : Nat) (d' : Doc) (hr : renumber d start = .ok d') : Keeps gl gn d d' := by
  have page : ∀ {P : Obj → Prop}, (∀ m o, P o → P (deepObj (renameAct m) o)) → d.objects.All P →
      (pagePass d).objects.All P := by
    intro P hP h
    unfold pagePass; split
    · exact renamePass_all hP h _ _ _ _
    · exact h
  have dense : ∀ {P : Obj → Prop}, (∀ m o, P o → P (deepObj (renameAct m) o)) → (pagePass d).objects.All P →
      d'.objects.All P := by
    intro P hP h
    unfold renumber densePass at hr
    split at hr
    · cases hr
    · cases hr; exact renamePass_all hP h _ _ _ _
  have trailer : DictND d.trailer → DictND d'.trailer := by
    intro h
    have h1 : DictND (pagePass d).trailer := by
      unfold pagePass; split
      · dsimp only
        rw [(traverse_visits_once _ _ _).1]; exact deepDict_nd _ (renameAct_nd _) _ h
      · exact h
    unfold renumber densePass at hr
    split at hr
    · cases hr
    · cases hr
      dsimp only
      rw [(traverse_visits_once _ _ _).1]; exact deepDict_nd _ (renameAct_nd _) _ h1
  exact ⟨fun h => wf_densePass (pagePass d) start (pagePass_sorted d h.2) d' hr,
    fun _ h => dense (fun m => lenOK_deep _ (tame_rename m)) (page (fun m => lenOK_deep _ (tame_rename m)) h),
    fun _ h => (distinctKeys_iff _).mpr ⟨trailer ⟨h.1, h.2.1⟩,
      dense (fun m => deepObj_nd _ (renameAct_nd m)) (page (fun m => deepObj_nd _ (renameAct_nd m)) h.objs)⟩⟩

theorem compressObj_nd (f : Bytes → Bytes) (al : ObjId → Bool) (id : ObjId) (o : Obj) (h : DeepND o) :
    DeepND (compressObj f al id o) := by
  cases o <;> simp only [compressObj] <;> try exact h
  split
  · exact (retouched_compress f _ _).deepND _ _ h
  · exact h

theorem decompressObj_nd (ext : Ext) (o : Obj) (h : DeepND o) : DeepND (decompressObj ext o) := by
  cases o <;> simp only [decompressObj] <;> try exact h
  split
  · rename_i s hs; exact (retouched_decompress ext _ _ s hs).deepND _ _ h
  · exact h

theorem keeps_mapVals (d : Doc) (g : ObjId → Obj → Obj) (hl : ∀ k o, LenOK o → LenOK (g k o))
    (hn : ∀ k o, DeepND o → DeepND (g k o)) :
    Keeps gl gn d { d with objects := d.objects.map fun p => (p.1, g p.1 p.2) } :=
  Keeps.objects d _ (fun h => wf_of_keys_eq d _ h (Objects.keys_mapVals _ g))
    (fun _ h => Objects.All.mapVals h g hl) (fun _ h => Objects.All.mapVals h.objs g hn)

theorem step_keeps (d : Doc) (op : Op) (r : Doc × Out) (hs : step d op = .ok r) :
    Keeps (opLenGuard op) (OpND op) d r.1 := by
  revert hs
  fun_cases step d op <;> intro hs
  -- cases in the order of `Op`; the ones that answer `ok`: 2 newId, 4 add, 5 set, 6 del, 7 prune, 8 delZero, 9 renumber,
  -- 12 delPages, 13 addContent, 14 removeAnnot, 15 addXObject, 16 addGState, 17 changeStream, 18 changePage, 19 compress, 20 decompress
  case case2 =>
    cases hs
    exact ⟨fun h => ⟨fun k hk => Nat.le_succ_of_le (h.1 k hk), h.2⟩, fun _ h => h, fun _ h => h⟩
  case case4 o _ => cases hs; exact Keeps.addObject d o id id
  case case5 id o =>
    cases hs
    exact ⟨fun h => wf_insert d id o _ h (Nat.le_max_left _ _) (Nat.le_max_right _ _),
      fun g h => Objects.All.insert h id g, fun g h => ⟨h.1, h.2.1, Objects.All.insert h.objs id g⟩⟩
  case case6 id _ => cases hs; exact keeps_deleteObject d id
  case case7 => cases hs; exact keeps_prune d
  case case8 => cases hs; exact keeps_foldl_delete _ d
  case case9 start d' hd => cases hs; exact keeps_renumber d start d' hd
  case case12 nums => cases hs; exact keeps_deletePages d nums
  case case13 page content => exact keeps_addPageContents d page content r hs
  case case14 id => cases hs; exact keeps_removeAnnot id _ d
  case case15 page name xid => cases hs; exact keeps_addXObject d page name xid
  case case16 page name gid => cases hs; exact keeps_addGraphicsState d page name gid
  case case17 sid content deflated => cases hs; exact keeps_changeContentStream (fun _ => deflated) d sid content
  case case18 page content deflated => exact keeps_changePageContent _ d page content r hs
  case case19 deflate =>
    cases hs; rw [docCompress_eq]
    exact keeps_mapVals d _ (lenOK_compressObj deflate _) (compressObj_nd deflate _)
  case case20 ext =>
    cases hs; rw [docDecompress_eq]
    exact keeps_mapVals d _ (fun _ => lenOK_decompressObj ext) (fun _ => decompressObj_nd ext)
  all_goals cases hs

end Lopdf.Ed
