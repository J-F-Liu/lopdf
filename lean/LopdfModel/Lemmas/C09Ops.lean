import LopdfModel.Lemmas.Dict
import LopdfModel.Lemmas.C09A85
import LopdfModel.Lemmas.C09Png
/-
  The content-changing operations of `Stream` (`set_content`, `set_plain_content`, `compress`, `decompress`) and how
  a stream's dictionary selects its filters: what each does to `Filter`, `DecodeParms` and `Length`.
-/
namespace Lopdf
open Gen

/-- keys of an `IndexMap` are pairwise distinct -/
def Dict.KeysNodup (d : Dict) : Prop := (d.map (·.1)).Nodup

def LengthOk (s : Strm) : Prop := s.dict.get K_LENGTH = some (.int s.content.length)

theorem stageParms_dict (d : Dict) (p : Dict) (i : Nat) (h : d.get K_DECODEPARMS = some (.dict p)) :
    stageParms d i = some p := by simp [stageParms, h]

theorem stageParms_arr (d : Dict) (items : List Obj) (i : Nat) (h : d.get K_DECODEPARMS = some (.arr items)) :
    stageParms d i = (items[i]?).bind Obj.asDict := by simp [stageParms, h]

theorem stageParms_none (d : Dict) (i : Nat) (h : d.get K_DECODEPARMS = none) : stageParms d i = none := by
  simp [stageParms, h]

theorem streamFilters_name (d : Dict) (n : Bytes) (h : d.get K_FILTER = some (.name n)) :
    streamFilters d = some [n] := by
  simp only [streamFilters, h]

theorem mapM_asName (ns : List Bytes) : (ns.map Obj.name).mapM Obj.asName = some ns := by
  induction ns with
  | nil => rfl
  | cons n ns ih => simp [List.mapM_cons, ih, Obj.asName]

theorem streamFilters_arr (d : Dict) (ns : List Bytes) (h : d.get K_FILTER = some (.arr (ns.map .name))) :
    streamFilters d = some ns := by
  simp only [streamFilters, h, mapM_asName]

/-- both readers run the filter loop over the stream's filters (on the empty list the loop returns the content) -/
theorem decoded_of_filters (ext : Ext) (s : Strm) (fs : List Bytes) (h : streamFilters s.dict = some fs) :
    decompressedContent ext s = filterLoop ext (stageParms s.dict) 0 fs s.content ∧
    getPlainContent ext s = filterLoop ext (stageParms s.dict) 0 fs s.content := by
  cases fs <;> simp only [getPlainContent, decompressedContent, h, filterLoop, and_self]

theorem getPlainContent_of_no_filter (ext : Ext) (s : Strm) (h : s.dict.get K_FILTER = none) :
    getPlainContent ext s = .ok s.content := by
  simp [getPlainContent, streamFilters, h]

theorem setContent_length (s : Strm) (c : Bytes) : LengthOk (setContent s c) :=
  Dict.get_set_same _ _ _

theorem setPlainContent_eq (s : Strm) (c : Bytes) :
    setPlainContent s c = setContent { s with dict := (s.dict.remove K_DECODEPARMS).remove K_FILTER } c := rfl

theorem decompress_eq (ext : Ext) (s : Strm) :
    decompress ext s = (decompressedContent ext s).map (setPlainContent s) := rfl

theorem setPlainContent_length (s : Strm) (c : Bytes) : LengthOk (setPlainContent s c) :=
  setPlainContent_eq s c ▸ setContent_length _ c

theorem setPlainContent_get (s : Strm) (c : Bytes) (hn : s.dict.KeysNodup) :
    (setPlainContent s c).dict.get K_FILTER = none ∧ (setPlainContent s c).dict.get K_DECODEPARMS = none := by
  have hn' := Dict.nodup_remove hn K_DECODEPARMS
  rw [setPlainContent_eq]
  constructor
  · exact (Dict.get_set_ne _ _ _ _ (by decide)).trans (Dict.get_remove_same hn' _)
  · refine (Dict.get_set_ne _ _ _ _ (by decide)).trans ?_
    rw [Dict.get_remove hn', if_neg (by decide)]
    exact Dict.get_remove_same hn _

theorem decompress_ok (ext : Ext) (s s' : Strm) (h : decompress ext s = .ok s') :
    decompressedContent ext s = .ok s'.content ∧ s' = setPlainContent s s'.content := by
  rw [decompress_eq] at h
  cases hd : decompressedContent ext s with
  | ok data => rw [hd] at h; cases h; exact ⟨rfl, rfl⟩
  | err e => rw [hd] at h; cases h
  | panic p => rw [hd] at h; cases h

/-- `compress` leaves the stream alone, or — no `Filter`, and deflating saves more than the margin — drops
`DecodeParms`, sets `Filter` to `FlateDecode` and the content to the deflated bytes -/
theorem compress_cases (deflate : Bytes → Bytes) (s : Strm) :
    compress deflate s = s ∨
    (s.dict.get K_FILTER = none ∧ (deflate s.content).length + COMPRESS_MARGIN < s.content.length ∧
      compress deflate s = setContent { s with dict := (s.dict.remove K_DECODEPARMS).set K_FILTER (.name F_FLATE) } (deflate s.content)) := by
  unfold compress
  split
  · exact Or.inl rfl
  · rename_i h
    dsimp only
    split
    · rename_i h2
      exact Or.inr ⟨Option.not_isSome_iff_eq_none.mp h, h2, rfl⟩
    · exact Or.inl rfl

theorem compress_keysNodup (deflate : Bytes → Bytes) (s : Strm) (hn : s.dict.KeysNodup) :
    (compress deflate s).dict.KeysNodup := by
  rcases compress_cases deflate s with h | ⟨_, _, h⟩ <;> rw [h]
  · exact hn
  · exact Dict.nodup_set (Dict.nodup_set (Dict.nodup_remove hn _) _ _) _ _

end Lopdf
