import LopdfModel.Lemmas.ObjRtRec
/-
  Object-level round trip: arrays and dictionaries by mutual structural induction with the
  stop-context invariant.
-/
namespace Lopdf.ObjRt
open Lopdf Gen

/-- `]` / `>` end a `many0`: recoverable error -/
theorem directObject_close (fuel depth : Nat) (b : UInt8) (r : Bytes) (h : b = 93 ∨ b = 62) :
    directObject fuel depth (b :: r) = .error := by
  have : directObjects fuel depth (b :: r) = .error := by
    cases fuel with
    | zero => rw [directObjects.eq_def]
    | succ f =>
      rw [directObjects_compound f depth _ (scalars_close_none true b r h)]
      rcases h with rfl | rfl <;> rfl
  simp [directObject, this]

theorem directObject_of (fuel depth : Nat) (inp : Bytes) (o : Obj) (r : Bytes)
    (h : directObjects fuel depth inp = .ok o r) : directObject fuel depth inp = .ok o (space r) := by
  simp [directObject, h]

theorem directObject_ok {f depth : Nat} {inp : Bytes} {o : Obj} {r' : Bytes}
    (h : directObject f depth inp = .ok o r') : ∃ r, directObjects f depth inp = .ok o r := by
  unfold directObject at h
  split at h
  · cases h; exact ⟨_, by assumption⟩
  · cases h
  · cases h

theorem manyObjects_succ_ok (fuel depth n : Nat) (inp : Bytes) (o : Obj) (r : Bytes)
    (h : directObject fuel depth inp = .ok o r) :
    manyObjects fuel depth (n + 1) inp = (manyObjects fuel depth n r).map fun (os, r') => (o :: os, r') := by
  simp [manyObjects, h]

theorem manyObjects_error (fuel depth n : Nat) (inp : Bytes)
    (h : directObject fuel depth inp = .error) : manyObjects fuel depth n inp = some ([], inp) := by
  cases n with
  | zero => simp [manyObjects]
  | succ n => simp [manyObjects, h]

theorem dictEntries_succ_ok (fuel depth n : Nat) (inp : Bytes) (acc : Dict) (k r r' : Bytes) (v : Obj)
    (hk : pName inp = some (k, r)) (hv : directObject fuel depth (space r) = .ok v r') :
    dictEntries fuel depth (n + 1) inp acc = dictEntries fuel depth n r' (acc.set k v) := by
  simp [dictEntries, hk, hv]

/-- one written entry: the key ends in front of `A`, and `space` leaves the written value in
front of `B` -/
theorem dictEntries_entry (fuel depth n : Nat) (acc : Dict) (k A B : Bytes) (v : Obj)
    (hA : NameStop A) (hsp : space A = writeObj v ++ B)
    (ho : directObjects fuel depth (writeObj v ++ B) = .ok (norm v) B) :
    dictEntries fuel depth (n + 1) (writeName k ++ A) acc =
      dictEntries fuel depth n (space B) (acc.set k (norm v)) :=
  dictEntries_succ_ok fuel depth n _ acc k A _ (norm v) (name_rt k A hA)
    (by rw [hsp]; exact directObject_of _ _ _ _ _ ho)

theorem dictEntries_noname (fuel depth n : Nat) (inp : Bytes) (acc : Dict)
    (h : pName inp = none) : dictEntries fuel depth n inp acc = some (acc, inp) := by
  cases n with
  | zero => simp [dictEntries]
  | succ n => simp [dictEntries, h]

mutual
theorem obj_core (L : Bytes → Prop) (hL : ∀ s, L s → LitOK s) :
    ∀ (o : Obj) (fuel depth : Nat) (rest : Bytes), WF L o → depth + height o ≤ MAX_NESTING →
      size o ≤ fuel → Follow true o rest →
      directObjects fuel depth (writeObj o ++ rest) = .ok (norm o) rest
  | .arr items, fuel, depth, rest, hwf, hh, hs, _ => by
    obtain ⟨f, rfl, hs'⟩ := fuel_succ (n := sizeL items) (by simpa [size, Nat.add_comm] using hs)
    simp only [WF] at hwf
    simp only [height] at hh
    have hin : writeObj (.arr items) ++ rest = 91 :: (writeArr true items ++ 93 :: rest) := by
      simp [writeObj]
    rw [hin, directObjects_compound f depth _ (scalars_arr_none true _)]
    have hsp := space_arr items rest hwf true
    have hm := arr_core L hL items f (depth + 1) f rest hwf (by omega) hs'
      (Nat.le_trans (length_le_sizeL items) hs')
    have hd : ¬ depth ≥ MAX_NESTING := by omega
    simp only [compound, hd, if_false, hsp, hm, norm]
  | .dict es, fuel, depth, rest, hwf, hh, hs, _ => by
    obtain ⟨f, rfl, hs'⟩ := fuel_succ (n := sizeD es) (by simpa [size, Nat.add_comm] using hs)
    simp only [WF] at hwf
    simp only [height] at hh
    have hin : writeObj (.dict es) ++ rest = 60 :: 60 :: (writeDictBody es ++ 62 :: 62 :: rest) := by
      simp [writeObj]
    rw [hin, directObjects_compound f depth _ (scalars_dict_none true _)]
    have hsp := space_head _ (stop_dict es rest).2
    have hm := dict_core L hL es f (depth + 1) f rest [] hwf.2 (by omega) hs'
      (Nat.le_trans (length_le_sizeD es) hs')
    have hd : ¬ depth ≥ MAX_NESTING := by omega
    simp only [compound, hd, if_false, hsp, hm, norm, setAll_normD es hwf.1]
  | .null, fuel, depth, rest, hwf, _, hs, hf | .bool _, fuel, depth, rest, hwf, _, hs, hf
  | .int _, fuel, depth, rest, hwf, _, hs, hf | .real _, fuel, depth, rest, hwf, _, hs, hf
  | .name _, fuel, depth, rest, hwf, _, hs, hf | .str _ _, fuel, depth, rest, hwf, _, hs, hf
  | .ref _ _, fuel, depth, rest, hwf, _, hs, hf => by
    obtain ⟨f, rfl, _⟩ := fuel_succ (n := 0) hs
    exact directObjects_scalar f depth _ _ _ (scalar_core L hL true _ rest hwf rfl (by simp) hf)
  | .stream es c, _, _, _, hwf, _, _, _ => by simp [WF] at hwf
theorem arr_core (L : Bytes → Prop) (hL : ∀ s, L s → LitOK s) :
    ∀ (items : List Obj) (fuel depth n : Nat) (rest : Bytes), WFL L items →
      depth + heightL items ≤ MAX_NESTING → sizeL items ≤ fuel → items.length ≤ n →
      manyObjects fuel depth n (writeArr true items ++ 93 :: rest) = some (normL items, 93 :: rest)
  | [], fuel, depth, n, rest, _, _, _, _ => by
    simpa [writeArr, normL] using manyObjects_error fuel depth n (93 :: rest)
      (directObject_close fuel depth 93 rest (Or.inl rfl))
  | o :: r, fuel, depth, n, rest, hwf, hh, hs, hn => by
    obtain ⟨n, rfl, hn'⟩ := fuel_succ (n := r.length) hn
    simp only [WFL] at hwf
    simp only [heightL] at hh
    simp only [sizeL] at hs
    have ho := obj_core L hL o fuel depth (writeArr false r ++ 93 :: rest) hwf.1
      (Nat.le_trans (Nat.add_le_add_left (Nat.le_max_left _ _) depth) hh) (Nat.le_trans (Nat.le_add_right _ _) hs)
      ((stop_arr r rest hwf.2).follow true o)
    have hr := arr_core L hL r fuel depth n rest hwf.2
      (Nat.le_trans (Nat.add_le_add_left (Nat.le_max_right _ _) depth) hh) (Nat.le_trans (Nat.le_add_left _ _) hs) hn'
    have hin : writeArr true (o :: r) ++ 93 :: rest = writeObj o ++ (writeArr false r ++ 93 :: rest) := by
      rw [writeArr_cons]; simp
    rw [hin, manyObjects_succ_ok fuel depth n _ _ _ (directObject_of _ _ _ _ _ ho),
      space_arr r rest hwf.2 false, hr]
    rfl
theorem dict_core (L : Bytes → Prop) (hL : ∀ s, L s → LitOK s) :
    ∀ (es : List (Bytes × Obj)) (fuel depth n : Nat) (rest : Bytes) (acc : Dict), WFD L es →
      depth + heightD es ≤ MAX_NESTING → sizeD es ≤ fuel → es.length ≤ n →
      dictEntries fuel depth n (writeDictBody es ++ 62 :: 62 :: rest) acc =
        some (setAll acc (normD es), 62 :: 62 :: rest)
  | [], fuel, depth, n, rest, acc, _, _, _, _ => by
    simpa [writeDictBody, normD, setAll] using dictEntries_noname fuel depth n (62 :: 62 :: rest) acc
      (by simp [pName])
  | (k, v) :: r, fuel, depth, n, rest, acc, hwf, hh, hs, hn => by
    obtain ⟨n, rfl, hn'⟩ := fuel_succ (n := r.length) hn
    simp only [WFD] at hwf
    simp only [heightD] at hh
    simp only [sizeD] at hs
    obtain ⟨hD, hDhead⟩ := stop_dict r rest
    have ho := obj_core L hL v fuel depth (writeDictBody r ++ 62 :: 62 :: rest) hwf.1
      (Nat.le_trans (Nat.add_le_add_left (Nat.le_max_left _ _) depth) hh) (Nat.le_trans (Nat.le_add_right _ _) hs)
      (hD.follow true v)
    have hr := dict_core L hL r fuel depth n rest (acc.set k (norm v)) hwf.2
      (Nat.le_trans (Nat.add_le_add_left (Nat.le_max_right _ _) depth) hh) (Nat.le_trans (Nat.le_add_left _ _) hs) hn'
    have hin : writeDictBody ((k, v) :: r) ++ 62 :: 62 :: rest = writeName k ++
        ((if needSeparator v then [32] else []) ++ writeObj v ++ (writeDictBody r ++ 62 :: 62 :: rest)) := by
      rw [writeDictBody_cons]; simp
    rw [hin, dictEntries_entry fuel depth n acc k _ _ v (stop_sep_obj v _ hwf.1 hD).1
      (space_sep_obj v _ hwf.1 _) ho, space_head _ hDhead, hr]
    rfl
end

/-- **arrays and dictionaries through the `compound` alternatives** — the form in which
`operand` and `dictionary` reach them -/
theorem compound_rt (L : Bytes → Prop) (hL : ∀ s, L s → LitOK s) (o : Obj) (f depth : Nat) (rest : Bytes)
    (hsc : isScalar o = false) (hwf : WF L o) (hh : depth + height o ≤ MAX_NESTING) (hs : size o ≤ f + 1) :
    scalars false (writeObj o ++ rest) = none ∧ compound f depth (writeObj o ++ rest) = .ok (norm o) rest := by
  have hnone : ∀ wr, scalars wr (writeObj o ++ rest) = none := by
    intro wr
    cases o with
    | arr items => exact scalars_arr_none wr _
    | dict es => exact scalars_dict_none wr _
    | stream _ _ => simp [WF] at hwf
    | _ => cases hsc
  have hf : Follow true o rest := by cases o <;> first | trivial | cases hsc
  have := obj_core L hL o (f + 1) depth rest hwf hh hs hf
  rw [directObjects_compound f depth _ (hnone true)] at this
  exact ⟨hnone false, this⟩

end Lopdf.ObjRt
