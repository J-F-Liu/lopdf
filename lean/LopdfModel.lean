-- Root of the `LopdfModel` library: everything that must build.
import LopdfModel.Gen.Consts
import LopdfModel.Gen.Tables
import LopdfModel.Gen.SitesC13
import LopdfModel.Model.Basic
import LopdfModel.Lemmas.Outcome
import LopdfModel.Model.Obj
import LopdfModel.Model.Pages
import LopdfModel.Thm.C12
import LopdfModel.Thm.C12Numbering
import LopdfModel.Model.Queries
import LopdfModel.Model.Outlines
import LopdfModel.Model.ExtractText
import LopdfModel.Thm.C13
import LopdfModel.Thm.C04CMap
import LopdfModel.Model.Write
import LopdfModel.Model.Parse
import LopdfModel.Model.File
import LopdfModel.Lemmas.Bytes
import LopdfModel.Lemmas.Lex
import LopdfModel.Lemmas.Space
import LopdfModel.Lemmas.FirstByte
import LopdfModel.Thm.C01
import LopdfModel.Model.Content
import LopdfModel.Thm.C14
import LopdfModel.Lemmas.File
import LopdfModel.Thm.C03
import LopdfModel.Model.Sink
import LopdfModel.Thm.C19
import LopdfModel.Thm.C19Save
import LopdfModel.Thm.C19Incr
import LopdfModel.Model.Read
import LopdfModel.Spec.Grammar
import LopdfModel.Thm.C02
import LopdfModel.Model.Outline
import LopdfModel.Spec.Outline
import LopdfModel.Thm.C17
import LopdfModel.Thm.C17Rep
import LopdfModel.Thm.C17Toc
import LopdfModel.Thm.C17Pages
import LopdfModel.Thm.C17Adjust
import LopdfModel.Thm.C17Api
import LopdfModel.Model.Text
import LopdfModel.Spec.Utf16
import LopdfModel.Lemmas.Utf16
import LopdfModel.Lemmas.Text
import LopdfModel.Spec.Charts
import LopdfModel.Thm.C16
import LopdfModel.Model.TextExtract
import LopdfModel.Thm.C16Content
import LopdfModel.Thm.C16Page
import LopdfModel.Lemmas.ExtractBridge
import LopdfModel.Thm.C16Doc
import LopdfModel.Model.Dates
import LopdfModel.Spec.PdfDate
import LopdfModel.Thm.C18
import LopdfModel.Thm.C07
import LopdfModel.Thm.C08
import LopdfModel.Model.Doc
import LopdfModel.Model.Renumber
import LopdfModel.Lemmas.Traverse
import LopdfModel.Lemmas.Move
import LopdfModel.Thm.C10
import LopdfModel.Model.Edit
import LopdfModel.Lemmas.Dict
import LopdfModel.Lemmas.Objects
import LopdfModel.Lemmas.XTable
import LopdfModel.Lemmas.DictNoDup
import LopdfModel.Lemmas.Deep
import LopdfModel.Lemmas.Edit
import LopdfModel.Lemmas.EditLen
import LopdfModel.Lemmas.EditKeeps
import LopdfModel.Thm.C11
import LopdfModel.Lemmas.PageSpec
import LopdfModel.Lemmas.Iso
import LopdfModel.Thm.C10Iso
import LopdfModel.Thm.C10Spec
import LopdfModel.Thm.C11Count
import LopdfModel.Thm.C11Pages
import LopdfModel.Thm.C11Frames
import LopdfModel.Thm.C11Refs
import LopdfModel.Thm.C11Mild
import LopdfModel.Thm.C11Dangle
import LopdfModel.Thm.C11Sound
import LopdfModel.Thm.C11Distinct
import LopdfModel.Thm.ParseDistinct
import LopdfModel.Thm.LoadDistinct
import LopdfModel.Thm.C09
import LopdfModel.Thm.C04
import LopdfModel.Gen.Crypt
import LopdfModel.Model.Crypt
import LopdfModel.Lemmas.Crypt
import LopdfModel.Spec.Hash
import LopdfModel.Spec.Aes
import LopdfModel.Spec.SecHandler
import LopdfModel.Thm.C05
import LopdfModel.Thm.C05Doc
import LopdfModel.Thm.C06
import LopdfModel.Gen.CMapConsts
import LopdfModel.Model.CMap
import LopdfModel.Model.CMapParse
import LopdfModel.Spec.CMapSpec
import LopdfModel.Lemmas.RangeMap
import LopdfModel.Lemmas.CMapBuild
import LopdfModel.Spec.CMapRender
import LopdfModel.Lemmas.CMapToken
import LopdfModel.Lemmas.CMapGrammar
import LopdfModel.Thm.C15
import LopdfModel.Lemmas.Lit
import LopdfModel.Lemmas.Num
import LopdfModel.Lemmas.ObjRtBase
import LopdfModel.Lemmas.ObjRtRec
import LopdfModel.Lemmas.ObjRtCore
import LopdfModel.Thm.C01Obj
import LopdfModel.Thm.C14Content
import LopdfModel.Thm.C01Indirect
import LopdfModel.Spec.GrammarTokens
import LopdfModel.Spec.GrammarXref
import LopdfModel.Thm.C02Space
import LopdfModel.Thm.C02Num
import LopdfModel.Thm.C02Lit
import LopdfModel.Thm.C02Xref
import LopdfModel.Thm.C02XrefStm
import LopdfModel.Thm.C02Obj
import LopdfModel.Thm.C02StartXref
import LopdfModel.Thm.C01Cycle
import LopdfModel.Thm.C14Inline
import LopdfModel.Lemmas.FileSecs
import LopdfModel.Lemmas.XrefTableRT
import LopdfModel.Thm.FileXrefTable
import LopdfModel.Thm.FileXrefStream
import LopdfModel.Thm.FileStart
import LopdfModel.Thm.FileLoad
import LopdfModel.Thm.FileLoadStream
import LopdfModel.Thm.FilePrev
import LopdfModel.Thm.FileIncr
import LopdfModel.Thm.FileLoadFront
import LopdfModel.Lemmas.LoadObjects
import LopdfModel.Thm.FileLoadObjects
import LopdfModel.Thm.FileRt
import LopdfModel.Spec.GrammarObj
import LopdfModel.Thm.C02Composite
import LopdfModel.Thm.C02Indirect
import LopdfModel.Spec.GrammarFile
import LopdfModel.Thm.C02Tail
import LopdfModel.Thm.C02Load
import LopdfModel.Thm.C02File
import LopdfModel.Thm.C02FileExample
import LopdfModel.Spec.Strict
import LopdfModel.Lemmas.StrictBasic
import LopdfModel.Thm.StrictSave
import LopdfModel.Thm.FileHistory
import LopdfModel.Thm.StrictSaveStream
import LopdfModel.Spec.GrammarObjStm
import LopdfModel.Spec.GrammarFileStm
import LopdfModel.Thm.C02FileStm
import LopdfModel.Thm.C02FileStmExample
import LopdfModel.Thm.C02ObjStm
import LopdfModel.Thm.C02IndirectRef
import LopdfModel.Thm.ObjectPass
import LopdfModel.Thm.C02FileObjStm
import LopdfModel.Thm.C02FileObjStmExample
import LopdfModel.Thm.C02FileIncr
import LopdfModel.Thm.C02FileIncrExample
import LopdfModel.Thm.C02FileJunk
import LopdfModel.Thm.C02FileRef
import LopdfModel.Thm.C02FileRefExample
import LopdfModel.Thm.FileRevs
import LopdfModel.Thm.StrictHistory
import LopdfModel.Thm.FileMaxId
import LopdfModel.Thm.FileNorm
import LopdfModel.Thm.StrictNorm
import LopdfModel.Thm.C01Sound
import LopdfModel.Thm.C14Sound
import LopdfModel.Spec.CMapText
import LopdfModel.Thm.C15Text
import LopdfModel.Thm.C15TextExample
import LopdfModel.Thm.C09Lzw
import LopdfModel.Thm.C09Doc
import LopdfModel.Spec.CMapSeg
import LopdfModel.Thm.C15Total
import LopdfModel.Thm.C15Font
import LopdfModel.Thm.ReadG
import LopdfModel.Thm.Inflate
import LopdfModel.Thm.ReadGSafe
import LopdfModel.Thm.C08G
import LopdfModel.Thm.ReadGTransfer
import LopdfModel.Thm.ReadGCorollaries
import LopdfModel.Thm.ReadGFlate
import LopdfModel.Thm.C07Junk
